import Lc.Base.Bytes
import Lc.Base.Path
import Lc.Base.Res
import Lc.Base.Sort
import Lc.Base.Utf8
import Lc.Generated.Guards
import Lc.Generated.UnicodeTables
import Lc.Model.Atom
import Lc.Model.AtomParse
import Lc.Model.Cli
import Lc.Model.Concurrent
import Lc.Model.Config
import Lc.Model.Depend
import Lc.Model.Fs
import Lc.Model.InUse
import Lc.Model.Kernel
import Lc.Model.Layerfile
import Lc.Model.Layers
import Lc.Model.Mountinfo
import Lc.Model.Contents
import Lc.Model.OutFault
import Lc.Model.Profile
import Lc.Model.Resolve
import Lc.Model.StageEntry
import Lc.Model.StageLine
import Lc.Model.StageGlob
import Lc.Model.StageList
import Lc.Model.StageLinks
import Lc.Model.Version
import Lc.Spec.AddFiles
import Lc.Spec.Chmod
import Lc.Spec.Closure
import Lc.Spec.DepGrammar
import Lc.Spec.KernelEscape
import Lc.Spec.KernelRender
import Lc.Spec.ContentsRender
import Lc.Spec.Pms
import Lc.Spec.PmsDomain
import Lc.Spec.Precedence
import Lc.Spec.Stage
import Lc.Spec.StageBridge
import Lc.Spec.World
import Lc.Lemmas.AtomSet
import Lc.Lemmas.Busy
import Lc.Lemmas.CmdBlocks
import Lc.Lemmas.Config
import Lc.Lemmas.Depend
import Lc.Lemmas.DiskCmd
import Lc.Lemmas.DiskForest
import Lc.Lemmas.DiskView
import Lc.Lemmas.DependLayout
import Lc.Lemmas.Expand
import Lc.Lemmas.ExportFs
import Lc.Lemmas.ExportLinks
import Lc.Lemmas.ExportPath
import Lc.Lemmas.AbsPath
import Lc.Lemmas.FaultOk
import Lc.Lemmas.Faults
import Lc.Lemmas.Forest
import Lc.Lemmas.Fs
import Lc.Lemmas.FsMkdir
import Lc.Lemmas.FsRename
import Lc.Lemmas.FsWrite
import Lc.Lemmas.Hoare
import Lc.Lemmas.InUse
import Lc.Lemmas.Ite
import Lc.Lemmas.LayerfileRW
import Lc.Lemmas.LayerfileScanner
import Lc.Lemmas.Makedirs
import Lc.Lemmas.MountShape
import Lc.Lemmas.MountBlocks
import Lc.Lemmas.MountTrace
import Lc.Lemmas.Mountinfo
import Lc.Lemmas.Contents
import Lc.Lemmas.OutFault
import Lc.Lemmas.Path
import Lc.Lemmas.Prefix
import Lc.Lemmas.PretendKeeps
import Lc.Lemmas.Probe
import Lc.Lemmas.RemoveLayer
import Lc.Lemmas.Resolve
import Lc.Lemmas.RunM
import Lc.Lemmas.Runes
import Lc.Lemmas.Sort
import Lc.Lemmas.SortBy
import Lc.Lemmas.SpecBridge
import Lc.Lemmas.StageClosure
import Lc.Lemmas.StageClosed
import Lc.Lemmas.StageEntry
import Lc.Lemmas.StageLine
import Lc.Lemmas.StageGlob
import Lc.Lemmas.StageList
import Lc.Lemmas.StageLinks
import Lc.Lemmas.StateProbe
import Lc.Lemmas.StateProbeAll
import Lc.Lemmas.Trace
import Lc.Lemmas.TreeKeeps
import Lc.Lemmas.TreeWF
import Lc.Lemmas.TreeOrder
import Lc.Lemmas.UmountTrace
import Lc.Lemmas.Version
import Lc.Lemmas.WriteLayerFile
import Lc.Props.C01
import Lc.Props.C02
import Lc.Props.C03
import Lc.Props.C04
import Lc.Props.C05
import Lc.Props.C06
import Lc.Props.C06Contents
import Lc.Props.C06Links
import Lc.Props.C07
import Lc.Props.C08
import Lc.Props.C09
import Lc.Props.C10
import Lc.Props.C10Facts
import Lc.Props.C10Stage
import Lc.Props.C11
import Lc.Props.C12
import Lc.Props.C13
import Lc.Props.C14
import Lc.Props.C15
import Lc.Props.C15Facts
import Lc.Props.C16
import Lc.Props.C17
import Lc.Props.C17Glob
import Lc.Props.C18
import Lc.Props.C19
import Lc.Props.C20
import Lc.Lemmas.CrashAdd
import Lc.Lemmas.CrashRename
import Lc.Lemmas.FsMove
import Lc.Lemmas.LayerPaths
import Lc.Lemmas.ForestCmd
import Lc.Lemmas.ForestInv
import Lc.Lemmas.KernelUmount
import Lc.Lemmas.MountLinks
import Lc.Lemmas.UmountState
import Lc.Lemmas.InLayers
import Lc.Lemmas.KernelWF
import Lc.Lemmas.MountsView
import Lc.Lemmas.ProbeAllSpec
import Lc.Lemmas.ProbeLoop
import Lc.Lemmas.ProbeRound
import Lc.Lemmas.ProtectSpec
import Lc.Lemmas.SpecForest
import Lc.Lemmas.StateSpec
import Lc.Lemmas.FsGrow
import Lc.Lemmas.InputBytes
import Lc.Lemmas.KernelProbe
import Lc.Lemmas.KernelResolve
import Lc.Lemmas.LayerCore
import Lc.Lemmas.MountArgs
import Lc.Lemmas.MountChain
import Lc.Lemmas.MountKernel
import Lc.Lemmas.MountTwice
import Lc.Lemmas.ExportsApart
import Lc.Lemmas.TreeUmount
import Lc.Lemmas.TreeOrderSub
import Lc.Lemmas.TreeGlue
