/-
  `addSingleFile` and `headerOf` (Lc/Model/StageEntry.lean): what `resolveLtype`, `commonFields`
  and `finishKind` do to each field, that the only fault is the error class "stage", and small
  facts about the bit operators.
-/
import Lc.Model.StageEntry
import Lc.Spec.StageBridge
import Lc.Lemmas.Ite
import Lc.Lemmas.Faults

namespace Lc.Stage
open Lc.Spec.Stage

/-! ### bit operators -/

theorem and_fff (x : Nat) : x &&& 0xfff = x % 4096 := by
  have := Nat.and_two_pow_sub_one_eq_mod x 12
  simpa using this

theorem and_ff (x : Nat) : x &&& 0xff = x % 256 := by
  have := Nat.and_two_pow_sub_one_eq_mod x 8
  simpa using this

theorem or_disjoint (a k : Nat) (i : Nat) (h : a < 2 ^ i) : a ||| k * 2 ^ i = a + k * 2 ^ i := by
  rw [Nat.or_comm, ← Nat.shiftLeft_eq, ← Nat.shiftLeft_add_eq_or_of_lt h, Nat.add_comm]

/-- the permission bits of `(mode & andMask) | orMask` depend only on the permission bits of
    `mode` -/
theorem perm_mod (a b c : Nat) : ((a &&& b) ||| c) % 4096 = (((a % 4096) &&& b) ||| c) % 4096 := by
  rw [← and_fff, ← and_fff, ← and_fff]
  apply Nat.eq_of_testBit_eq
  intro i
  simp only [Nat.testBit_and, Nat.testBit_or]
  cases a.testBit i <;> cases b.testBit i <;> cases c.testBit i <;> cases (0xfff : Nat).testBit i <;> rfl

/-! ### finishKind -/

theorem finishKind_dir {st : Option Lstat} {nis : Bool} {info : Entry} (h : info.ltype = ltDir) :
    finishKind st nis info = .ok (some info) := by
  unfold finishKind
  rw [if_pos h]

theorem finishKind_file {st : Option Lstat} {nis : Bool} {info : Entry} (h : info.ltype = ltFile) :
    finishKind st nis info =
      match st with
      | none => Res.err "stage"
      | some s => .ok (some { info with
          devino := if nis && s.nlink > 1 then some (s.dev, s.ino) else info.devino,
          fsize := s.size }) := by
  unfold finishKind
  rw [if_neg (by rw [h]; decide), if_pos h]
  rfl

theorem finishKind_symlink {st : Option Lstat} {nis : Bool} {info : Entry}
    (h : info.ltype = ltSymlink) :
    finishKind st nis info =
      if info.target.isEmpty then
        match st with
        | none => Res.err "stage"
        | some s =>
          if s.mode &&& S_IFMT = S_IFLNK then .ok (some { info with target := s.link })
          else Res.err "stage"
      else .ok (some info) := by
  unfold finishKind
  rw [if_neg (by rw [h]; decide), if_neg (by rw [h]; decide), if_pos h]
  rfl

theorem finishKind_device {st : Option Lstat} {nis : Bool} {info : Entry}
    (h : info.ltype = ltDevice) :
    finishKind st nis info =
      if !info.hasDev then
        match st with
        | none => Res.err "stage"
        | some s =>
          if s.mode &&& S_IFMT = S_IFCHR then
            .ok (some { info with devtype := chrC, major := devMajor s.rdev, minor := devMinor s.rdev })
          else if s.mode &&& S_IFMT = S_IFBLK then
            .ok (some { info with devtype := chrB, major := devMajor s.rdev, minor := devMinor s.rdev })
          else Res.err "stage"
      else .ok (some info) := by
  unfold finishKind
  rw [if_neg (by rw [h]; decide), if_neg (by rw [h]; decide), if_neg (by rw [h]; decide), if_pos h]
  rfl

theorem finishKind_other {st : Option Lstat} {nis : Bool} {info : Entry}
    (h1 : info.ltype ≠ ltDir) (h2 : info.ltype ≠ ltFile) (h3 : info.ltype ≠ ltSymlink)
    (h4 : info.ltype ≠ ltDevice) : finishKind st nis info = Res.err "stage" := by
  unfold finishKind
  rw [if_neg h1, if_neg h2, if_neg h3, if_neg h4]

/-- a successful `finishKind`, kind by kind: a field the line leaves open is read from the
    `lstat` record, which then has to exist and to be of the line's kind -/
theorem finishKind_cases (st : Option Lstat) (nis : Bool) (info : Entry) :
    (finishKind st nis info).Returns fun o =>
      (info.ltype = ltDir ∧ o = some info) ∨
      (info.ltype = ltFile ∧ ∃ s di, st = some s ∧ o = some { info with devino := di, fsize := s.size }) ∨
      (info.ltype = ltSymlink ∧
        (info.target ≠ [] ∧ o = some info ∨
         info.target = [] ∧ ∃ s, st = some s ∧ s.mode &&& S_IFMT = S_IFLNK ∧
          o = some { info with target := s.link })) ∨
      (info.ltype = ltDevice ∧
        (info.hasDev = true ∧ o = some info ∨
         info.hasDev = false ∧ ∃ s dt, st = some s ∧
          (s.mode &&& S_IFMT = S_IFCHR ∧ dt = chrC ∨ s.mode &&& S_IFMT = S_IFBLK ∧ dt = chrB) ∧
          o = some { info with devtype := dt, major := devMajor s.rdev, minor := devMinor s.rdev })) := by
  by_cases h1 : info.ltype = ltDir
  · rw [finishKind_dir h1]
    exact .ok (.inl ⟨h1, rfl⟩)
  by_cases h2 : info.ltype = ltFile
  · rw [finishKind_file h2]
    cases st with
    | none => exact .error
    | some s => exact .ok (.inr (.inl ⟨h2, s, _, rfl, rfl⟩))
  by_cases h3 : info.ltype = ltSymlink
  · rw [finishKind_symlink h3]
    refine ite_cases (fun htg => ?_) fun htg => .ok (.inr (.inr (.inl ⟨h3, .inl ⟨by simpa using htg, rfl⟩⟩)))
    cases st with
    | none => exact .error
    | some s =>
      exact ite_cases (fun hl => .ok (.inr (.inr (.inl ⟨h3, .inr ⟨by simpa using htg, s, rfl, hl, rfl⟩⟩))))
        fun _ => .error
  by_cases h4 : info.ltype = ltDevice
  · rw [finishKind_device h4]
    refine ite_cases (fun hd => ?_) fun hd => .ok (.inr (.inr (.inr ⟨h4, .inl ⟨by simpa using hd, rfl⟩⟩)))
    have hd : info.hasDev = false := by simpa using hd
    cases st with
    | none => exact .error
    | some s =>
      exact ite_cases (fun hc => .ok (.inr (.inr (.inr ⟨h4, .inr ⟨hd, s, _, rfl, .inl ⟨hc, rfl⟩, rfl⟩⟩))))
        fun _ => ite_cases (fun hb => .ok (.inr (.inr (.inr ⟨h4, .inr ⟨hd, s, _, rfl, .inr ⟨hb, rfl⟩, rfl⟩⟩))))
          fun _ => .error
  rw [finishKind_other h1 h2 h3 h4]
  exact .error

theorem finishKind_returns (st : Option Lstat) (nis : Bool) (info : Entry) :
    (finishKind st nis info).Returns fun o => ∃ di fz tg dt ma mi,
      o = some { info with
        devino := di, fsize := fz, target := tg, devtype := dt, major := ma, minor := mi } ∧
      info.ltype ≠ ltHardlink ∧ (di = info.devino ∨ info.ltype = ltFile) := by
  intro o h
  rcases finishKind_cases st nis info o h with ⟨hl, rfl⟩ | ⟨hl, s, di, rfl, rfl⟩ |
    ⟨hl, ⟨_, rfl⟩ | ⟨_, s, rfl, _, rfl⟩⟩ | ⟨hl, ⟨_, rfl⟩ | ⟨_, s, dt, rfl, _, rfl⟩⟩
  · exact ⟨_, _, _, _, _, _, rfl, by rw [hl]; decide, .inl rfl⟩
  · exact ⟨_, _, _, _, _, _, rfl, by rw [hl]; decide, .inr hl⟩
  · exact ⟨_, _, _, _, _, _, rfl, by rw [hl]; decide, .inl rfl⟩
  · exact ⟨_, _, _, _, _, _, rfl, by rw [hl]; decide, .inl rfl⟩
  · exact ⟨_, _, _, _, _, _, rfl, by rw [hl]; decide, .inl rfl⟩
  · exact ⟨_, _, _, _, _, _, rfl, by rw [hl]; decide, .inl rfl⟩

theorem finishKind_common {st : Option Lstat} {nis : Bool} {info e : Entry}
    (h : finishKind st nis info = .ok (some e)) :
    e.name = info.name ∧ e.ltype = info.ltype ∧ e.uid = info.uid ∧ e.gid = info.gid ∧
    e.orMask = info.orMask ∧ e.unixTime = info.unixTime ∧ e.xattrs = info.xattrs ∧
    e.source = info.source := by
  obtain ⟨_, _, _, _, _, _, he, _⟩ := finishKind_returns st nis info _ h
  cases he
  exact ⟨rfl, rfl, rfl, rfl, rfl, rfl, rfl, rfl⟩

theorem finishKind_ne_none {st : Option Lstat} {nis : Bool} {info : Entry} :
    finishKind st nis info ≠ .ok none := by
  intro h
  obtain ⟨_, _, _, _, _, _, he, _⟩ := finishKind_returns st nis info _ h
  cases he

theorem finishKind_faults (st : Option Lstat) (nis : Bool) (info : Entry) :
    (finishKind st nis info).FaultsIn (· = .err "stage") := by
  unfold finishKind
  refine ite_ind .ok (ite_ind ?_ (ite_ind (ite_ind ?_ .ok) (ite_ind (ite_ind ?_ .ok) (.err rfl))))
  · cases st with
    | none => exact .err rfl
    | some s => exact .ok
  · cases st with
    | none => exact .err rfl
    | some s => exact ite_ind .ok (.err rfl)
  · cases st with
    | none => exact .err rfl
    | some s => exact ite_ind .ok (ite_ind .ok (.err rfl))

theorem commonFields_keeps (st : Option Lstat) (info : Entry) (lt : Nat) :
    (commonFields st info lt).ltype = lt ∧ (commonFields st info lt).target = info.target ∧
    (commonFields st info lt).fsize = info.fsize ∧ (commonFields st info lt).hasDev = info.hasDev ∧
    (commonFields st info lt).devtype = info.devtype ∧ (commonFields st info lt).major = info.major ∧
    (commonFields st info lt).minor = info.minor :=
  ⟨rfl, rfl, rfl, rfl, rfl, rfl, rfl⟩

theorem headerOf_eq {e : Entry} (hne : e.ltype ≠ ltHardlink) :
    headerOf e = .ok
      { name := 46 :: e.name,
        typeflag := if e.ltype = ltDir then tyDir else if e.ltype = ltSymlink then tySymlink
          else if e.ltype = ltDevice then (if e.devtype = chrC then tyChar else tyBlock) else tyReg,
        linkname := if e.ltype = ltSymlink then e.target else [],
        size := e.fsize, mode := e.orMask, uid := e.uid, gid := e.gid, mtime := e.unixTime,
        devmajor := if e.ltype = ltDevice then e.major else 0,
        devminor := if e.ltype = ltDevice then e.minor else 0,
        xattrs := e.xattrs.getD [] } := by
  unfold headerOf
  by_cases h1 : e.ltype = ltDir
  · simp +decide only [h1, ↓reduceIte]
  by_cases h2 : e.ltype = ltFile
  · simp +decide only [h2, ↓reduceIte]
  by_cases h3 : e.ltype = ltSymlink
  · simp +decide only [h3, ↓reduceIte]
  by_cases h4 : e.ltype = ltDevice
  · simp +decide only [h4, ↓reduceIte]
  · simp only [h1, h2, h3, h4, hne, ↓reduceIte]

/-- the fields `headerOf` copies -/
theorem headerOf_returns (e : Entry) :
    (headerOf e).Returns fun h =>
      h.name = 46 :: e.name ∧ h.uid = e.uid ∧ h.gid = e.gid ∧ h.mode = e.orMask ∧
      h.mtime = e.unixTime ∧ h.size = e.fsize ∧ h.xattrs = e.xattrs.getD [] := by
  unfold headerOf
  refine ite_ind (.ok ⟨rfl, rfl, rfl, rfl, rfl, rfl, rfl⟩) (ite_ind (.ok ⟨rfl, rfl, rfl, rfl, rfl, rfl, rfl⟩)
    (ite_ind (.ok ⟨rfl, rfl, rfl, rfl, rfl, rfl, rfl⟩) (ite_ind ?_
      (ite_ind (.ok ⟨rfl, rfl, rfl, rfl, rfl, rfl, rfl⟩) (.ok ⟨rfl, rfl, rfl, rfl, rfl, rfl, rfl⟩)))))
  cases e.target with
  | nil => exact .error
  | cons c rest => exact .ok ⟨rfl, rfl, rfl, rfl, rfl, rfl, rfl⟩

/-! ### resolveLtype -/

/-- what a successful `resolveLtype` says: with `tbd` the type of the existing object, otherwise
    the line's type — checked against the object when `needLtypeCheck` and the object exists -/
theorem resolveLtype_spec (st : Option Lstat) (nis : Bool) (info : Entry) :
    (resolveLtype st nis info).Returns fun o => ∀ lt, o = some lt →
      (info.ltype = ltNone ∧ ∃ s, st = some s ∧ actualOf s.mode = .ok lt) ∨
      (info.ltype ≠ ltNone ∧ lt = info.ltype ∧
        (needLtypeCheck nis info = true → ∀ s, st = some s → actualOf s.mode = .ok lt)) := by
  unfold resolveLtype
  cases st with
  | none =>
    refine ite_ind (.ok nofun) (ite_cases (fun _ => .error) fun hne => .ok fun lt e => ?_)
    cases e
    exact .inr ⟨hne, rfl, fun _ _ => nofun⟩
  | some s =>
    rw [Option.map_some]
    cases ha : actualOf s.mode with
    | unknown => exact .error
    | deferred =>
      refine ite_cases (fun _ => .error) fun hne => ite_cases (fun _ => .error) fun hnc => .ok fun lt e => ?_
      cases e
      exact .inr ⟨hne, rfl, fun hn => absurd hn hnc⟩
    | ok t =>
      refine ite_cases (fun h0 => .ok fun lt e => ?_) fun hne => ite_cases
        (fun _ => ite_cases (fun _ => .error) fun hmis => .ok fun lt e => ?_) fun hnc => .ok fun lt e => ?_
      · cases e
        exact .inl ⟨h0, s, rfl, ha⟩
      · cases e
        -- the check passed: the line's type is the object's
        have ht : info.ltype = t := by simpa using hmis
        exact .inr ⟨hne, rfl, fun _ s' hs' => by cases hs'; rw [ha, ht]⟩
      · cases e
        exact .inr ⟨hne, rfl, fun hn => absurd hn hnc⟩

theorem resolveLtype_returns (st : Option Lstat) (nis : Bool) (info : Entry) :
    (resolveLtype st nis info).Returns fun o => o = none → info.skipIfAbsent = true := by
  unfold resolveLtype
  cases st with
  | none =>
    by_cases hs : info.skipIfAbsent = true
    · exact fun _ _ _ => hs
    · rw [Option.map_none]
      dsimp only
      rw [if_neg hs]
      exact ite_ind .error (.ok nofun)
  | some s =>
    rw [Option.map_some]
    cases actualOf s.mode with
    | unknown => exact .error
    | deferred => exact ite_ind .error (ite_ind .error (.ok nofun))
    | ok t => exact ite_ind (.ok nofun) (ite_ind (ite_ind .error (.ok nofun)) (.ok nofun))

theorem resolveLtype_none {st : Option Lstat} {nis : Bool} {info : Entry}
    (h : resolveLtype st nis info = .ok none) : info.skipIfAbsent = true :=
  resolveLtype_returns st nis info _ h rfl

theorem resolveLtype_faults (st : Option Lstat) (nis : Bool) (info : Entry) :
    (resolveLtype st nis info).FaultsIn (· = .err "stage") := by
  unfold resolveLtype
  cases st with
  | none => exact ite_ind .ok (ite_ind (.err rfl) .ok)
  | some s =>
    rw [Option.map_some]
    cases actualOf s.mode with
    | unknown => exact .err rfl
    | deferred => exact ite_ind (.err rfl) (ite_ind (.err rfl) .ok)
    | ok t => exact ite_ind .ok (ite_ind (ite_ind (.err rfl) .ok) .ok)

/-- `addSingleFile` stores nothing only for an absent path with `absent=skip` -/
theorem addSingleFile_none {fs : Bytes → Option Lstat} {root : Bytes} {e0 : Entry}
    (h : addSingleFile fs root e0 = .ok none) : e0.skipIfAbsent = true := by
  unfold addSingleFile at h
  simp only at h
  split at h
  · cases h
  · rename_i hr; exact resolveLtype_none hr
  · exact absurd h finishKind_ne_none

theorem addSingleFile_faults (fs : Bytes → Option Lstat) (root : Bytes) (e0 : Entry) :
    (addSingleFile fs root e0).FaultsIn (· = .err "stage") := by
  unfold addSingleFile
  dsimp only
  cases hr : resolveLtype _ _ _ with
  | error f => exact (resolveLtype_faults _ _ _).pass hr
  | ok o =>
    cases o with
    | none => exact .ok
    | some lt => exact finishKind_faults _ _ _

/-- `actualOf` and `kindOfMode` read the same type bits -/
theorem actualOf_kind {mode lt : Nat} (h : actualOf mode = .ok lt) :
    (lt = ltSymlink ∧ mode &&& S_IFMT = S_IFLNK ∧ kindOfMode mode = "l") ∨
    (lt = ltFile ∧ mode &&& S_IFMT = S_IFREG ∧ kindOfMode mode = "f") ∨
    (lt = ltDir ∧ mode &&& S_IFMT = S_IFDIR ∧ kindOfMode mode = "d") ∨
    (lt = ltDevice ∧ mode &&& S_IFMT = S_IFCHR ∧ kindOfMode mode = "c") ∨
    (lt = ltDevice ∧ mode &&& S_IFMT = S_IFBLK ∧ kindOfMode mode = "b") := by
  unfold actualOf at h
  unfold kindOfMode
  dsimp only at h ⊢
  generalize mode &&& S_IFMT = t at h ⊢
  -- on each of the five constants both functions evaluate
  by_cases h1 : t = S_IFLNK
  · subst h1; cases h; exact .inl ⟨rfl, rfl, rfl⟩
  by_cases h2 : t = S_IFREG
  · subst h2; cases h; exact .inr (.inl ⟨rfl, rfl, rfl⟩)
  by_cases h3 : t = S_IFDIR
  · subst h3; cases h; exact .inr (.inr (.inl ⟨rfl, rfl, rfl⟩))
  by_cases h4 : t = S_IFCHR
  · subst h4; cases h; exact .inr (.inr (.inr (.inl ⟨rfl, rfl, rfl⟩)))
  by_cases h5 : t = S_IFBLK
  · subst h5; cases h; exact .inr (.inr (.inr (.inr ⟨rfl, rfl, rfl⟩)))
  rw [if_neg h1, if_neg h2, if_neg (not_or.mpr ⟨h5, h4⟩), if_neg h3] at h
  split at h
  · cases h
  · split at h <;> cases h

end Lc.Stage
