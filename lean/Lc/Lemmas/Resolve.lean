/-
  Helper lemmas for C05 over the resolver's mutual recursion.  An invariant lemma generic in
  the invariant `I` on states, the guarantee `G` on resolved packages and the accepted
  errors `E` (`Hyps`, `resolveTop_inv`); and fuel extension: a `recur` that agrees with
  another wherever that one does not run out of fuel gives the same results (`Extends`,
  `resolveTop_ext`).  `R` has its own error type `Err`, so `Post`/`PostS` are stated here
  and not through `Res.Returns`/`Res.FaultsIn`.  Core Lean only.
-/
import Lc.Model.Resolve
import Lc.Spec.Closure
import Lc.Lemmas.Ite

namespace Lc.Resolve
open Lc.Spec.Closure

/-- the state right after `ia.Added = true; Resolution.Add(ia)` -/
def mark (st : St) (ia : Pkg) : St :=
  { st with added := ia.id :: st.added, res := st.res.add ia }

section Inv
variable (db : Db) (recur : Pkg → St → R St)
variable (I : St → Prop) (G : Pkg → Prop) (E : Err → Prop)

/-- what the generic lemma needs: `E` accepts the two genuine error classes, marking a
    package `Blocked` keeps `I`, and a call of `recur` (findDependencies) from a state
    satisfying `I`, on a freshly marked package satisfying `G`, ends in `I` / `E` -/
structure Hyps : Prop where
  eUnsat : E .unsat
  eBlocked : E .blocked
  block : ∀ st c, I st → st.added.contains c = false → I { st with blocked := c :: st.blocked }
  recur : ∀ st ia, I st → G ia → st.added.contains ia.id = false →
    st.blocked.contains ia.id = false →
    match recur ia (mark st ia) with
    | .ok st' => I st'
    | .error e => E e

def Post (r : R (St × List Pkg)) : Prop :=
  match r with
  | .ok (st', rs') => I st' ∧ ∀ x ∈ rs', G x
  | .error e => E e

def PostS (r : R St) : Prop :=
  match r with
  | .ok st' => I st'
  | .error e => E e

variable {db recur I G E}

/-- `Post` through `match x with | .error e => .error e | .ok (st, rs) => k st rs` -/
theorem Post.bind {β : Type} {Q : R β → Prop} {x : R (St × List Pkg)} {k : St → List Pkg → R β}
    (hx : Post I G E x) (he : ∀ e, E e → Q (.error e))
    (hk : ∀ st rs, I st → (∀ y ∈ rs, G y) → Q (k st rs)) :
    Q (match (generalizing := false) x with | .error e => .error e | .ok (st, rs) => k st rs) := by
  cases x with
  | error e => exact he e hx
  | ok v => exact hk v.1 v.2 hx.1 hx.2

theorem PostS.bind {β : Type} {Q : R β → Prop} {x : R St} {k : St → R β}
    (hx : PostS I E x) (he : ∀ e, E e → Q (.error e)) (hk : ∀ st, I st → Q (k st)) :
    Q (match (generalizing := false) x with | .error e => .error e | .ok st => k st) := by
  cases x with
  | error e => exact he e hx
  | ok st => exact hk st hx

theorem Post.ok {st : St} {rs : List Pkg} (hI : I st) (hrs : ∀ x ∈ rs, G x) :
    Post I G E (.ok (st, rs)) := ⟨hI, hrs⟩

theorem blockLoop_inv (h : Hyps recur I G E) (cands : List Pkg) (st : St) (hI : I st) :
    PostS I E (blockLoop cands st) := by
  induction cands generalizing st with
  | nil => exact hI
  | cons c rest ih =>
    unfold blockLoop
    split
    · exact h.eBlocked
    · rename_i hc
      exact ih _ (h.block st c.id hI (by simpa using hc))

theorem resolveAtom_inv (h : Hyps recur I G E) (cond : Bool) (a : DAtom) (st : St)
    (rs : List Pkg) (hI : I st) (hrs : ∀ x ∈ rs, G x)
    (hc : a.blocker = false → ∀ x ∈ candidates db a, G x) :
    Post I G E (resolveAtom db cond a st rs) := by
  unfold resolveAtom
  dsimp only
  by_cases hb : a.blocker = true
  · rw [if_pos hb]
    exact (blockLoop_inv h (candidates db a) st hI).bind (Q := Post I G E) (fun _ he => he)
      fun _ hI' => .ok hI' hrs
  · rw [if_neg hb]
    refine ite_ind (ite_ind h.eUnsat (.ok hI hrs)) (.ok hI fun x hx => ?_)
    rcases List.mem_append.mp hx with hx | hx
    · exact hrs x hx
    · exact hc (by simpa using hb) x hx

theorem postLoop_inv (h : Hyps recur I G E) (cond : Bool) (rs : List Pkg) (st : St)
    (hI : I st) (hrs : ∀ x ∈ rs, G x) : PostS I E (postLoop recur cond rs st) := by
  induction rs generalizing st with
  | nil => exact hI
  | cons ia rest ih =>
    have hrest : ∀ x ∈ rest, G x := fun x hx => hrs x (List.mem_cons_of_mem _ hx)
    unfold postLoop
    split
    · exact h.eBlocked
    · rename_i hbl
      split
      · exact ih st hI hrest
      · rename_i hadd
        rw [Bool.or_eq_true, not_or] at hadd
        have hr : PostS I E (recur ia (mark st ia)) :=
          h.recur st ia hI (hrs ia (List.mem_cons_self ..)) (by simpa using hadd.1)
            (by simpa using hbl)
        exact hr.bind (Q := PostS I E) (fun _ he => he) fun st2 h2 => ih st2 h2 hrest

theorem post_error {e : Err} (he : E e) : Post I G E (.error e) := he

mutual
theorem resolveKids_inv (h : Hyps recur I G E) (use : List Flag) (cond : Bool) (ds : DepList)
    (st : St) (rs : List Pkg) (hI : I st) (hrs : ∀ x ∈ rs, G x)
    (hc : ∀ a ∈ activeAtomsL use ds, a.blocker = false → ∀ x ∈ candidates db a, G x) :
    Post I G E (resolveKids db recur use cond ds st rs) := by
  match ds with
  | .nil => unfold resolveKids; exact ⟨hI, hrs⟩
  | .cons d rest =>
    unfold resolveKids
    unfold activeAtomsL at hc
    refine (resolveDep_inv h use cond d st rs hI hrs fun a ha =>
      hc a (List.mem_append_left _ ha)).bind (Q := Post I G E) (fun _ he => he) ?_
    intro st1 rs1 h1 h2
    exact resolveKids_inv h use cond rest st1 rs1 h1 h2 fun a ha =>
      hc a (List.mem_append_right _ ha)
theorem resolveDep_inv (h : Hyps recur I G E) (use : List Flag) (cond : Bool) (d : Dep)
    (st : St) (rs : List Pkg) (hI : I st) (hrs : ∀ x ∈ rs, G x)
    (hc : ∀ a ∈ activeAtomsD use d, a.blocker = false → ∀ x ∈ candidates db a, G x) :
    Post I G E (resolveDep db recur use cond d st rs) := by
  match d with
  | .atom a =>
    unfold resolveDep
    exact resolveAtom_inv h cond a st rs hI hrs (fun hb => hc a (by unfold activeAtomsD; simp) hb)
  | .group k ds =>
    have hsub : ∀ (c : Bool) (st0 : St) (rs0 : List Pkg), isActive use k = true → I st0 →
        (∀ x ∈ rs0, G x) → Post I G E (resolveKids db recur use c ds st0 rs0) := by
      intro c st0 rs0 hact hI0 hrs0
      exact resolveKids_inv h use c ds st0 rs0 hI0 hrs0 (fun a ha => hc a (by
        unfold activeAtomsD; simp only [hact, if_true]; exact ha))
    cases k with
    | all =>
      simp only [resolveDep]
      refine (hsub cond st rs rfl hI hrs).bind (Q := Post I G E) (fun _ he => he) ?_
      intro st1 rs1 h1 h2
      exact (postLoop_inv h cond rs1 st1 h1 h2).bind (Q := Post I G E) (fun _ he => he)
        fun _ hI' => .ok hI' h2
    | useSet f =>
      simp only [resolveDep]
      split
      · rename_i hf
        exact hsub cond st rs hf hI hrs
      · exact ⟨hI, hrs⟩
    | useUnset f =>
      simp only [resolveDep]
      split
      · rename_i hf
        exact hsub cond st rs hf hI hrs
      · exact ⟨hI, hrs⟩
    | anyOf | exactlyOne | atMostOne =>
      simp only [resolveDep]
      refine (hsub true st [] rfl hI (by simp)).bind (Q := Post I G E) (fun _ he => he) ?_
      intro st1 sub h1 h2
      split
      · exact h.eUnsat
      · refine ⟨h1, fun x hx => ?_⟩
        rcases List.mem_append.mp hx with hx | hx
        · exact hrs x hx
        · exact h2 x (List.mem_of_mem_take hx)
end

theorem resolveTop_inv (h : Hyps recur I G E) (use : List Flag) (ds : DepList) (st : St)
    (hI : I st)
    (hc : ∀ a ∈ activeAtomsL use ds, a.blocker = false → ∀ x ∈ candidates db a, G x) :
    PostS I E (resolveTop db recur use ds st) := by
  unfold resolveTop
  exact (resolveKids_inv h use false ds st [] hI (by simp) hc).bind (Q := PostS I E)
    (fun _ he => he) fun st1 rs1 h1 h2 => postLoop_inv h false rs1 st1 h1 h2

end Inv

/-! ### a second `recur` that agrees with the first wherever the first does not run out of
    fuel gives the same result wherever the first run does not run out of fuel -/

section Ext
variable {db : Db} {r1 r2 : Pkg → St → R St}

def Extends (r1 r2 : Pkg → St → R St) : Prop :=
  ∀ p st, r1 p st ≠ .error .fuel → r2 p st = r1 p st

/- In each proof below the call under `r2` is first rewritten to the call under `r1` (which
   cannot have run out of fuel, or the whole would have); only then are the cases of its
   result taken. -/

theorem postLoop_ext (h : Extends r1 r2) (cond : Bool) (rs : List Pkg) (st : St)
    (hn : postLoop r1 cond rs st ≠ .error .fuel) :
    postLoop r2 cond rs st = postLoop r1 cond rs st := by
  induction rs generalizing st with
  | nil => rfl
  | cons ia rest ih =>
    unfold postLoop at hn ⊢
    split
    · rfl
    · rename_i h1
      rw [if_neg h1] at hn
      split
      · rename_i h2
        rw [if_pos h2] at hn
        exact ih st hn
      · rename_i h2
        rw [if_neg h2] at hn
        rw [h ia _ fun hc => hn (by rw [hc])]
        cases hr : r1 ia { st with added := ia.id :: st.added, res := st.res.add ia } with
        | error e => rfl
        | ok st2 => rw [hr] at hn; exact ih st2 hn

mutual
theorem resolveKids_ext (h : Extends r1 r2) (use : List Flag) (cond : Bool) (ds : DepList)
    (st : St) (rs : List Pkg) (hn : resolveKids db r1 use cond ds st rs ≠ .error .fuel) :
    resolveKids db r2 use cond ds st rs = resolveKids db r1 use cond ds st rs := by
  match ds with
  | .nil => unfold resolveKids; rfl
  | .cons d rest =>
    unfold resolveKids at hn ⊢
    rw [resolveDep_ext h use cond d st rs fun hc => hn (by rw [hc])]
    cases hr : resolveDep db r1 use cond d st rs with
    | error e => rfl
    | ok v =>
      rw [hr] at hn
      exact resolveKids_ext h use cond rest v.1 v.2 hn
theorem resolveDep_ext (h : Extends r1 r2) (use : List Flag) (cond : Bool) (d : Dep)
    (st : St) (rs : List Pkg) (hn : resolveDep db r1 use cond d st rs ≠ .error .fuel) :
    resolveDep db r2 use cond d st rs = resolveDep db r1 use cond d st rs := by
  match d with
  | .atom a => unfold resolveDep; rfl
  | .group k ds =>
    cases k with
    | all =>
      simp only [resolveDep] at hn ⊢
      rw [resolveKids_ext h use cond ds st rs fun hc => hn (by rw [hc])]
      cases hr : resolveKids db r1 use cond ds st rs with
      | error e => rfl
      | ok v =>
        rw [hr] at hn
        dsimp only at hn ⊢
        rw [postLoop_ext h cond v.2 v.1 fun hc => hn (by rw [hc])]
    | useSet f =>
      simp only [resolveDep] at hn ⊢
      split
      · rename_i hf
        rw [if_pos hf] at hn
        exact resolveKids_ext h use cond ds st rs hn
      · rfl
    | useUnset f =>
      simp only [resolveDep] at hn ⊢
      split
      · rename_i hf
        rw [if_pos hf] at hn
        exact resolveKids_ext h use cond ds st rs hn
      · rfl
    | anyOf | exactlyOne | atMostOne =>
      simp only [resolveDep] at hn ⊢
      rw [resolveKids_ext h use true ds st [] fun hc => hn (by rw [hc])]
end

theorem resolveTop_ext (h : Extends r1 r2) (use : List Flag) (ds : DepList) (st : St)
    (hn : resolveTop db r1 use ds st ≠ .error .fuel) :
    resolveTop db r2 use ds st = resolveTop db r1 use ds st := by
  unfold resolveTop at hn ⊢
  rw [resolveKids_ext h use false ds st [] fun hc => hn (by rw [hc])]
  cases hr : resolveKids db r1 use false ds st [] with
  | error e => rfl
  | ok v =>
    rw [hr] at hn
    exact postLoop_ext h false v.2 v.1 hn

end Ext

end Lc.Resolve
