/-
  `expandConfigMounts` / `adjustPrefixedPath` / `findLayerBase`: where a configured import
  is mounted and what its source resolves to.  In front, `All2`, the element-wise relation
  between two lists, and `List.mapM` in `Except` in its terms.  Helper lemmas for Props/C01.
-/
import Lc.Model.Layers

namespace Lc.Expand
open Lc Lc.Layers Lc.Layerfile

/-- element-wise relation between two lists of the same length -/
inductive All2 {α β : Type} (R : α → β → Prop) : List α → List β → Prop
  | nil : All2 R [] []
  | cons {x y xs ys} : R x y → All2 R xs ys → All2 R (x :: xs) (y :: ys)

theorem All2.imp {α β : Type} {R S : α → β → Prop} (h : ∀ x y, R x y → S x y) {xs : List α} {ys : List β}
    (h2 : All2 R xs ys) : All2 S xs ys := by
  induction h2 with
  | nil => exact .nil
  | cons hr _ ih => exact .cons (h _ _ hr) ih

theorem All2.mem_left {α β : Type} {R : α → β → Prop} {xs : List α} {ys : List β}
    (h : All2 R xs ys) : ∀ x ∈ xs, ∃ y ∈ ys, R x y := by
  induction h with
  | nil => intro x hx; cases hx
  | cons hr _ ih =>
    intro x hx
    rcases List.mem_cons.mp hx with hx | hx
    · exact ⟨_, List.mem_cons_self, hx ▸ hr⟩
    · obtain ⟨y, hy, hxy⟩ := ih x hx
      exact ⟨y, List.mem_cons_of_mem _ hy, hxy⟩

theorem All2.length_eq {α β : Type} {R : α → β → Prop} {xs : List α} {ys : List β}
    (h : All2 R xs ys) : xs.length = ys.length := by
  induction h with
  | nil => rfl
  | cons _ _ ih => simp [ih]

theorem forall₂_mem_right {α β : Type} {R : α → β → Prop} {xs : List α} {ys : List β}
    (h : All2 R xs ys) : ∀ y ∈ ys, ∃ x ∈ xs, R x y := by
  induction h with
  | nil => intro y hy; cases hy
  | cons hr _ ih =>
    intro y hy
    rcases List.mem_cons.mp hy with hy | hy
    · exact ⟨_, List.mem_cons_self, hy ▸ hr⟩
    · obtain ⟨x, hx, hxy⟩ := ih y hy
      exact ⟨x, List.mem_cons_of_mem _ hx, hxy⟩

theorem all2_flip {α β : Type} {R : α → β → Prop} {l1 : List α} {l2 : List β} (h : All2 R l1 l2) :
    All2 (fun b a => R a b) l2 l1 := by
  induction h with
  | nil => exact .nil
  | cons hr _ ih => exact .cons hr ih

theorem all2_pairwise {α β : Type} {R : α → β → Prop} {P : α → α → Prop} {Q : β → β → Prop}
    {l1 : List α} {l2 : List β} (h : All2 R l1 l2)
    (himp : ∀ a b c d, a ∈ l1 → b ∈ l1 → R a c → R b d → P a b → Q c d) (hp : l1.Pairwise P) : l2.Pairwise Q := by
  induction h with
  | nil => exact .nil
  | @cons a c l1' l2' hr hrest ih =>
    have hp' := List.pairwise_cons.mp hp
    refine List.pairwise_cons.mpr ⟨?_, ih (fun a' b' c' d' ha' hb' => himp a' b' c' d'
      (List.mem_cons_of_mem _ ha') (List.mem_cons_of_mem _ hb')) hp'.2⟩
    intro d hd
    obtain ⟨b, hb, hbd⟩ := forall₂_mem_right hrest d hd
    exact himp a b c d (by simp) (List.mem_cons_of_mem _ hb) hr hbd (hp'.1 b hb)

theorem all2_perm {α β : Type} {R : α → β → Prop} {l1 l1' : List α} (hp : l1.Perm l1') :
    ∀ {l2 : List β}, All2 R l1 l2 → ∃ l2', l2'.Perm l2 ∧ All2 R l1' l2' := by
  induction hp with
  | nil => intro l2 h; cases h; exact ⟨[], .refl _, .nil⟩
  | cons x _ ih =>
    intro l2 h
    cases h with
    | cons hr hrest =>
      obtain ⟨m', hm', hf'⟩ := ih hrest
      exact ⟨_ :: m', .cons _ hm', .cons hr hf'⟩
  | swap x y l =>
    intro l2 h
    cases h with
    | cons hr1 h1 =>
      cases h1 with
      | cons hr2 h2 => exact ⟨_, .swap _ _ _, .cons hr2 (.cons hr1 h2)⟩
  | trans _ _ ih1 ih2 =>
    intro l2 h
    obtain ⟨m1, hm1, hf1⟩ := ih1 h
    obtain ⟨m2, hm2, hf2⟩ := ih2 hf1
    exact ⟨m2, hm2.trans hm1, hf2⟩

theorem all2_with_mem {α β : Type} {R : α → β → Prop} {l1 : List α} {l2 : List β} (h : All2 R l1 l2)
    (T : List β) (hT : ∀ b ∈ l2, b ∈ T) : All2 (fun a b => R a b ∧ b ∈ T) l1 l2 := by
  induction h with
  | nil => exact .nil
  | cons hr _ ih => exact .cons ⟨hr, hT _ (by simp)⟩ (ih (fun b hb => hT b (List.mem_cons_of_mem _ hb)))

theorem forall2_any {α β : Type} (R : α → β → Prop) (p : α → Bool) (q : β → Bool)
    (h : ∀ x y, R x y → p x = q y) :
    ∀ (xs : List α) (ys : List β), All2 R xs ys → xs.any p = ys.any q := by
  intro xs ys hf
  induction hf with
  | nil => rfl
  | cons hxy _ ih => simp only [List.any_cons, h _ _ hxy, ih]

theorem forall2_map {α β γ : Type} (R : α → β → Prop) (f : α → γ) (g : β → γ)
    (h : ∀ x y, R x y → f x = g y) :
    ∀ (xs : List α) (ys : List β), All2 R xs ys → xs.map f = ys.map g := by
  intro xs ys hf
  induction hf with
  | nil => rfl
  | cons hxy _ ih => simp only [List.map_cons, h _ _ hxy, ih]

theorem mapM_ok {α β ε : Type} (f : α → Except ε β) :
    ∀ (xs : List α) (ys : List β), xs.mapM f = .ok ys → All2 (fun x y => f x = .ok y) xs ys := by
  intro xs
  induction xs with
  | nil =>
    intro ys h
    simp only [List.mapM_nil] at h
    cases h
    exact All2.nil
  | cons x xs ih =>
    intro ys h
    rw [List.mapM_cons] at h
    cases hx : f x with
    | error e => rw [hx] at h; cases h
    | ok y =>
      rw [hx] at h
      cases hxs : xs.mapM f with
      | error e => rw [hxs] at h; cases h
      | ok ys' =>
        rw [hxs] at h
        cases h
        exact All2.cons hx (ih ys' hxs)

theorem mapM_err_exists {α β ε : Type} (f : α → Except ε β) :
    ∀ (xs : List α) (e : ε), xs.mapM f = .error e → ∃ x ∈ xs, f x = .error e := by
  intro xs
  induction xs with
  | nil =>
    intro e h
    simp [List.mapM_nil, pure, Except.pure] at h
  | cons x xs ih =>
    intro e h
    rw [List.mapM_cons] at h
    simp only [bind, Except.bind] at h
    split at h
    · rename_i e' he
      cases h
      exact ⟨x, List.mem_cons_self .., he⟩
    · rename_i y hy
      split at h
      · rename_i e' he
        cases h
        obtain ⟨x', hx', hf⟩ := ih e he
        exact ⟨x', List.mem_cons_of_mem _ hx', hf⟩
      · cases h

/-- the `$$name` resolver `expandConfigMounts` hands to `adjustPrefixedPath` -/
def resolver (d : Defs) (l : Layer) : Bytes → Option Bytes := fun sym =>
  if sym == b!"base" then (findLayerBase d (d.layers.length + 1) l).map (·.layerPath)
  else if sym == b!"self" then some l.layerPath
  else none

/-- the expanded import `e` comes from the configured import `m` of layer `l` -/
def ExpandsTo (cfg : Config) (d : Defs) (l : Layer) (m : NeededMount) (e : Expanded) : Prop :=
  e.mount = pathJoin [buildPath cfg l, m.mount] ∧ e.fstype = m.fstype ∧
  e.unMount = m.mount ∧ e.unSource = m.source ∧
  adjustPrefixedPath m.source (resolver d l) = .ok e.source

theorem expand_forall₂ {cfg : Config} {d : Defs} {l : Layer} {ex : List Expanded}
    (h : expandConfigMounts cfg d l = .ok ex) : All2 (ExpandsTo cfg d l) l.cmounts ex := by
  unfold expandConfigMounts at h
  have := mapM_ok _ _ _ h
  refine All2.imp ?_ this
  intro m e hme
  simp only at hme
  split at hme
  · rename_i src hsrc
    cases hme
    exact ⟨rfl, rfl, rfl, rfl, hsrc⟩
  · cases hme

theorem expand_err {cfg : Config} {d : Defs} {l : Layer} {e : Fault}
    (h : expandConfigMounts cfg d l = .error e) :
    ∃ m ∈ l.cmounts, adjustPrefixedPath m.source (resolver d l) = .error e := by
  obtain ⟨m, hm, hf⟩ := mapM_err_exists _ _ _ h
  refine ⟨m, hm, ?_⟩
  dsimp only at hf
  split at hf
  · cases hf
  · rename_i e' he
    cases hf
    exact he

/-- every expanded import stems from a configured one: mountpoint below the build path,
    same type, source resolved by `adjustPrefixedPath` -/
theorem expand_mem {cfg : Config} {d : Defs} {l : Layer} {ex : List Expanded}
    (h : expandConfigMounts cfg d l = .ok ex) :
    ∀ e ∈ ex, ∃ m ∈ l.cmounts, ExpandsTo cfg d l m e :=
  forall₂_mem_right (expand_forall₂ h)

theorem expand_length {cfg : Config} {d : Defs} {l : Layer} {ex : List Expanded}
    (h : expandConfigMounts cfg d l = .ok ex) : ex.length = l.cmounts.length :=
  (All2.length_eq (expand_forall₂ h)).symm

/-! ### `adjustPrefixedPath` -/

theorem decompose_self (tail : Bytes) (ht : tail = [] ∨ ∃ t, tail = 47 :: t) :
    decomposePrefix (b!"$$self" ++ tail) = ([36, 36], b!"self", tail) := by
  rcases ht with rfl | ⟨t, rfl⟩ <;> simp [decomposePrefix, List.takeWhile]

theorem decompose_base (tail : Bytes) (ht : tail = [] ∨ ∃ t, tail = 47 :: t) :
    decomposePrefix (b!"$$base" ++ tail) = ([36, 36], b!"base", tail) := by
  rcases ht with rfl | ⟨t, rfl⟩ <;> simp [decomposePrefix, List.takeWhile]

/-- the absolute-path check at the end of `AdjustPrefixedPath` -/
def absCheck (np : Bytes) : Res Bytes :=
  if np.length > 0 && np.head? != some 47 then Res.err "relative" else .ok np

/-- `$$self` + tail resolves to the layer directory joined with the tail -/
theorem adjust_self (tail : Bytes) (ht : tail = [] ∨ ∃ t, tail = 47 :: t) (d : Defs) (l : Layer) :
    adjustPrefixedPath (b!"$$self" ++ tail) (resolver d l) = absCheck (pathJoin [l.layerPath, tail]) := by
  unfold adjustPrefixedPath
  rw [decompose_self tail ht]
  simp [resolver, absCheck]

/-- `$$base` + tail resolves to the directory of the layer `findLayerBase` finds, joined
    with the tail -/
theorem adjust_base (tail : Bytes) (ht : tail = [] ∨ ∃ t, tail = 47 :: t) (d : Defs) (l r : Layer)
    (hr : findLayerBase d (d.layers.length + 1) l = some r) :
    adjustPrefixedPath (b!"$$base" ++ tail) (resolver d l) = absCheck (pathJoin [r.layerPath, tail]) := by
  unfold adjustPrefixedPath
  rw [decompose_base tail ht]
  simp [resolver, absCheck, hr]

/-- an absolute source without sigil is taken as it is -/
theorem adjust_plain (c : Nat) (p : Bytes) (hc : c ≠ 126 ∧ c ≠ 36) (habs : c = 47) (res : Bytes → Option Bytes) :
    adjustPrefixedPath (c :: p) res = .ok (c :: p) := by
  subst habs
  simp [adjustPrefixedPath, decomposePrefix, List.takeWhile]

/-! ### `findLayerBase` -/

/-- `r` is reached from `l` by following `base` links inside `d` -/
inductive UpChain (d : Defs) : Layer → Layer → Prop
  | refl (l : Layer) : UpChain d l l
  | step {l p r : Layer} : l.base.length > 0 → findLayer d l.base = some p → UpChain d p r → UpChain d l r

/-- `findLayerBase` returns the root base layer of `l`: reached over base links, itself
    without base -/
theorem findLayerBase_root (d : Defs) : ∀ (fuel : Nat) (l r : Layer),
    findLayerBase d fuel l = some r → r.base.length = 0 ∧ UpChain d l r := by
  intro fuel
  induction fuel with
  | zero => intro l r h; simp [findLayerBase] at h
  | succ k ih =>
    intro l r h
    unfold findLayerBase at h
    split at h
    · rename_i hb
      split at h
      · rename_i p hp
        obtain ⟨h1, h2⟩ := ih p r h
        exact ⟨h1, UpChain.step hb hp h2⟩
      · cases h
    · rename_i hb
      cases h
      exact ⟨by omega, UpChain.refl l⟩

end Lc.Expand
