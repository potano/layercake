/-
  Helper lemmas for Props/C04: the children list of rename, and what `umount` does with a layer
  that is not busy: its first call is the unmount of the deepest mount, the trace only grows
  from there, and the status is never "busy".
-/
import Lc.Lemmas.UmountTrace
import Lc.Lemmas.ForestCmd

namespace Lc.Busy
open Lc Lc.Mountinfo Lc.Layers Lc.RunM Lc.Hoare Std.Do

theorem find?_and {α} (p q : α → Bool) (k : α) : ∀ (l : List α), l.find? q = some k → p k = true →
    l.find? (fun a => p a && q a) = some k := by
  intro l
  induction l with
  | nil =>
    intro h
    simp at h
  | cons x xs ih =>
    intro h hp
    rw [List.find?_cons] at h ⊢
    by_cases hq : q x = true
    · simp only [hq] at h
      cases h
      simp [hq, hp]
    · simp only [hq] at h
      simp [hq]
      exact ih h hp

theorem kids_any (d : Defs) (old : Bytes) (co : List Bytes) (k : Layer)
    (hk : findLayer d k.name = some k) (hkb : k.base = old) (hb : isBusy k true = true) :
    ((ForestCmd.kidsOf d old co).any fun k => isBusy k true) = true := by
  rw [List.any_eq_true]
  refine ⟨k, ?_, hb⟩
  unfold ForestCmd.kidsOf
  have hmem : k ∈ d.layers := List.mem_of_find?_eq_some hk
  rw [List.mem_append]
  by_cases hc : co.contains k.name = true
  · left
    rw [List.mem_filterMap]
    refine ⟨k.name, by simpa using hc, ?_⟩
    rw [List.find?_filter]
    unfold findLayer at hk
    have := find?_and (fun a => a.base == old) (fun a => a.name == k.name) k d.layers hk (by simp [hkb])
    refine Eq.trans (congrArg (fun f => List.find? f d.layers) (funext fun a => ?_)) this
    rw [Bool.eq_iff_iff]
    simp
  · right
    simp only [List.mem_filter]
    exact ⟨⟨hmem, by simp [hkb]⟩, by simpa using hc⟩

/-! ### unmount: the trace only grows, and starts with the deepest mount -/

/-- the trace only grows from `t0` -/
def TraceExt (t0 : List Op) (w : World) : Prop := t0 <+: w.trace

theorem fsUnmount_ext (t0 : List Op) (t : Bytes) : Holds (TraceExt t0) (fsUnmount t) :=
  Trace.fsUnmount_inv t (Trace.gate_inv (fun _ h => h) (fun _ h => h)) (fun _ h => h)
    (fun _ h => h.trans (List.prefix_append _ _)) (fun _ _ h _ => h.trans (List.prefix_append _ _))

theorem fsUnmount_trace_passed (t : Bytes) (w : World)
    (hp : w.pretend = false) (hc : w.crashAt ≠ some (w.nops + 1)) (hf : w.faultAt ≠ some (w.nops + 1)) :
    ((fsUnmount t).run.run w).2.trace = w.trace ++ [.umount t (if w.force then 1 else 0)] := by
  rw [run_fsUnmount, gate_passes w hp hc hf]
  dsimp only [World.tick]
  cases Kernel.kumount w.kt t <;> rfl

theorem fsUnmount_first (w : World) (t : Bytes)
    (hp : w.pretend = false) (hc : w.crashAt ≠ some (w.nops + 1)) (hf : w.faultAt ≠ some (w.nops + 1)) :
    ⦃fun w' => ⌜w' = w⌝⦄ fsUnmount t
    ⦃post⟨fun _ w' => ⌜TraceExt (w.trace ++ [.umount t (if w.force then 1 else 0)]) w'⌝,
          fun _ w' => ⌜TraceExt (w.trace ++ [.umount t (if w.force then 1 else 0)]) w'⌝⟩⦄ := by
  apply triple_of_run
  rintro w' rfl
  have h := fsUnmount_trace_passed t w' hp hc hf
  generalize (fsUnmount t).run.run w' = r at h
  obtain ⟨x, w1⟩ := r
  cases x <;> exact h ▸ List.prefix_refl _

open Lc.UmountTrace

theorem unmountMounts_ext (t0 : List Op) (ms : List MountType) : Holds (TraceExt t0) (unmountMounts ms) := by
  induction ms with
  | nil => exact pure_holds _ _
  | cons m ms ih =>
    rw [unmountMounts_cons]
    exact bind_holds _ _ _ (fsUnmount_ext t0 _) fun _ => ih

/-- the deepest mount comes first; whatever follows only extends the trace -/
theorem unmount_first (cfg : Config) (d : Defs) (name : Bytes) (w : World) (l : Layer) (m : MountType)
    (hl : findLayer d name = some l) (hmb : l.mountBusy = false) (hov : l.overlain = false)
    (hm : l.mounts.getLast? = some m)
    (hp : w.pretend = false) (hc : w.crashAt ≠ some (w.nops + 1)) (hf : w.faultAt ≠ some (w.nops + 1)) :
    TraceExt (w.trace ++ [.umount m.mountpoint (if w.force then 1 else 0)])
      ((unmountLayer cfg d name).run.run w).2 := by
  obtain ⟨ys, hys⟩ := List.getLast?_eq_some_iff.mp hm
  have hloop : TraceExt (w.trace ++ [.umount m.mountpoint (if w.force then 1 else 0)])
      ((unmountMounts l.mounts.reverse).run.run w).2 := by
    rw [hys, List.reverse_append, List.reverse_singleton, List.singleton_append, unmountMounts_cons, run_bind]
    have h1 := fsUnmount_trace_passed m.mountpoint w hp hc hf
    generalize (fsUnmount m.mountpoint).run.run w = r at h1
    obtain ⟨x, w'⟩ := r
    cases x with
    | error e => exact h1 ▸ List.prefix_refl _
    | ok u => exact extract _ _ (unmountMounts_ext _ _) w' (h1 ▸ List.prefix_refl _)
  rcases unmountLayer_run_cases cfg d name w l hl with ⟨h, _⟩ | ⟨_, h, _⟩ | ⟨_, _, hok, herr⟩
  · simp [isBusy, hmb, hov] at h
  · simp [hys] at h
  · generalize (unmountMounts l.mounts.reverse).run.run w = r at hloop hok herr
    obtain ⟨x, w1⟩ := r
    cases x with
    | error e =>
      rw [herr e w1 rfl]
      exact hloop
    | ok u =>
      rw [hok u w1 rfl, (unmountTail_run cfg d name w1).1]
      exact hloop

/-- a layer that is not busy for umount never yields the status "busy" -/
theorem unmount_status (cfg : Config) (d : Defs) (name : Bytes) (l : Layer)
    (hl : findLayer d name = some l) (hb : isBusy l false = false) :
    HoldsOk (fun _ => True) (fun r _ => r.1 ≠ UStatus.busy) (unmountLayer cfg d name) := by
  apply triple_of_run
  intro w _
  obtain ⟨s, _, _, hN, _⟩ := unmountLayer_run cfg d name w
  generalize (unmountLayer cfg d name).run.run w = r at hN
  obtain ⟨x, w'⟩ := r
  cases x with
  | error e => trivial
  | ok r =>
    intro hbusy
    obtain ⟨l', hl', h | h | h⟩ := hN r rfl
    · rw [hl] at hl'
      cases hl'
      exact absurd (hb.symm.trans h.2.1) Bool.false_ne_true
    · cases hbusy.symm.trans h.1
    · cases hbusy.symm.trans h.1

end Lc.Busy
