/-
  Two consecutive runs of `layercake mount <name>`: the run function taken apart
  (`getLayers`, then `mountCmd` = checks, directory creation, the pass over the chain, export
  links), what the first successful run leaves behind (`mountCmd_first`) and why the second
  run issues no mount operation (`mountCmd_second`, `mount_twice`).
  Helper lemmas for Props/C01 (`mount_idempotent`).
-/
import Lc.Lemmas.MountChain
import Lc.Lemmas.StateProbeAll
import Lc.Lemmas.PretendKeeps

namespace Lc.MountTwice
open Std.Do Lc Lc.Layers Lc.Hoare Lc.Mountinfo Lc.Kernel Lc.KernelProbe Lc.Trace Lc.MountTrace
open Lc.FsGrow Lc.MountKernel Lc.MountArgs Lc.LayerCore Lc.MountChain

/-! ### `getLayers` -/

theorem probeLayer_core {cfg : Config} {inuse : List (Bytes × List User)} {fs : Fs.Tree} {d : Defs}
    {name : Bytes} {l0 l' : Layer} (h : StateProbe.probeLayer cfg inuse fs d name l0 = .ok l') :
    core l' = core l0 := by
  obtain ⟨s, rfl⟩ := StateProbe.probeLayer_eq cfg inuse fs d name l0 l' h
  rw [StateProbe.probeErr_eq]
  rfl

theorem probeStep_run {cfg : Config} {inuse : List (Bytes × List User)} {fs : Fs.Tree} {d d' : Defs}
    {name : Bytes} {w w' : World}
    (h : (StateProbe.probeStep cfg inuse fs d name).run.run w = (.ok d', w')) :
    w' = w ∧ d'.mounts = d.mounts ∧ LEq d d' := by
  rw [StateProbe.probeStep_eq] at h
  split at h
  · rw [RunM.run_throw] at h; cases h
  · rename_i l hl
    -- the step stores a record with the core of the one it found
    have key : ∀ l', core l' = core l → LEq d (setLayer d l') := fun l' hc => by
      have hn : l'.name = name := by
        rw [(core_eq_iff.mp hc).1]
        exact ForestInv.find_name hl
      exact LEq.setLayer (l := l) (by rw [hn]; exact hl) hc
    split at h
    · rw [RunM.run_pure] at h
      cases h
      -- (fix e3cb7aa) the record of a layer in the error state gets its mounts and users
      exact ⟨rfl, rfl, key _ (by rw [StateProbe.probeErr_eq]; rfl)⟩
    · obtain ⟨l', w1, h1, h2⟩ := RunM.bind_ok_inv _ _ _ _ _ h
      have hx := RunM.liftRes_run_ok h1
      rw [hx.1, RunM.run_pure] at h2
      cases h2
      exact ⟨rfl, rfl, key _ (probeLayer_core hx.2)⟩

theorem probeFold_run {cfg : Config} {inuse : List (Bytes × List User)} {fs : Fs.Tree} :
    ∀ (names : List Bytes) (d d' : Defs) (w w' : World),
    (names.foldlM (StateProbe.probeStep cfg inuse fs) d).run.run w = (.ok d', w') →
    w' = w ∧ d'.mounts = d.mounts ∧ LEq d d' := by
  intro names
  induction names with
  | nil =>
    intro d d' w w' h
    have : (([] : List Bytes).foldlM (StateProbe.probeStep cfg inuse fs) d).run.run w = (.ok d, w) := rfl
    rw [this] at h; cases h
    exact ⟨rfl, rfl, LEq.refl _⟩
  | cons n ns ih =>
    intro d d' w w' h
    rw [List.foldlM_cons] at h
    obtain ⟨d1, w1, h1, h2⟩ := RunM.bind_ok_inv _ _ _ _ _ h
    obtain ⟨rfl, e1, l1⟩ := probeStep_run h1
    obtain ⟨rfl, e2, l2⟩ := ih d1 d' _ _ h2
    exact ⟨rfl, e2.trans e1, l1.trans l2⟩

/-- a successful `getLayers` only read; its cache is the probe of the kernel table; its layer
    records have the cores `FindLayers` read from the tree -/
theorem getLayers_run {cfg : Config} {inuse : List (Bytes × List User)} {w w' : World} {d : Defs}
    (h : (getLayers cfg inuse).run.run w = (.ok d, w')) :
    w' = w ∧ Kernel.probe w.kt = .ok d.mounts ∧
      ∃ d0, (findLayers cfg).run.run w = (.ok d0, w) ∧ LEq d0 d := by
  unfold getLayers at h
  obtain ⟨d0, w1, h1, h2⟩ := RunM.bind_ok_inv _ _ _ _ _ h
  obtain ⟨rfl, _, _⟩ := findLayers_layers h1
  rw [StateProbe.probeAll_eq] at h2
  obtain ⟨d1, w2, h3, h4⟩ := RunM.bind_ok_inv _ _ _ _ _ h2
  obtain ⟨rfl, hprobe, hlay⟩ := RunM.refresh_run_ok h3
  obtain ⟨wx, w3, h5, h6⟩ := RunM.bind_ok_inv _ _ _ _ _ h4
  rw [RunM.run_getW] at h5
  cases h5
  obtain ⟨rfl, e, hle⟩ := probeFold_run _ _ _ _ _ h6
  refine ⟨rfl, by rw [e]; exact hprobe, d0, h1, ?_⟩
  have h01 : LEq d0 d1 := (LEq.overlain d0 d1.mounts _).trans (LEq.of_layers hlay)
  exact h01.trans hle

/-- `getLayers` only reads -/
theorem getLayers_same (w0 cfg inuse) : Holds (Same w0) (getLayers cfg inuse) :=
  getLayers_inv (fun _ h => h) cfg inuse

/-! ### `mountCmd` taken apart -/

theorem mountPre_chain {d : Defs} {name : Bytes} {w w' : World} {chain : List Layer}
    (h : (mountPre d name).run.run w = (.ok chain, w')) : w' = w ∧ BaseChain d chain name := by
  have hs := extract (Same w) _ (mountPre_holds _ d name) w rfl
  rw [h] at hs
  exact ⟨hs, Hoare.ret_elim _ _ (mountPre_ret d name) _ _ _ h⟩

/-! ### invariants of the file-system blocks, instantiated -/

def KtSame (w0 w : World) : Prop := w.kt = w0.kt

theorem fsStep_ktsame (w0 : World) (op : Op) (f) : Holds (KtSame w0) (fsStep op f) :=
  fsStep_inv op f (gate_inv (fun _ h => h) (fun _ h => h)) (fun _ h => h) (fun _ h => h) (fun _ _ h _ => h)

theorem fsMkdir_ktsame (w0 p) : Holds (KtSame w0) (fsMkdir p) := fsStep_ktsame w0 _ _
theorem fsSymlink_ktsame (w0 a b) : Holds (KtSame w0) (fsSymlink a b) := fsStep_ktsame w0 _ _

/-- a block that keeps `KGrow` and `KtSame`: from the run function -/
theorem fsblock_run {α} {m : M α} (hk : ∀ w0, Holds (KGrow w0) m) (hs : ∀ w0, Holds (KtSame w0) m)
    (w : World) : KGrow w (m.run.run w).2 ∧ (m.run.run w).2.kt = w.kt :=
  ⟨extract (KGrow w) m (hk w) w (KGrow.refl w), extract (KtSame w) m (hs w) w rfl⟩

theorem mkChainDirs_run (cfg : Config) (chain : List Layer) (d : Defs) (w : World) :
    KGrow w ((mkChainDirs cfg chain d).run.run w).2 ∧ ((mkChainDirs cfg chain d).run.run w).2.kt = w.kt :=
  fsblock_run (fun w0 => mkChainDirs_inv (fun _ h => h) (fsMkdir_kgrow w0) cfg chain d)
    (fun w0 => mkChainDirs_inv (fun _ h => h) (fsMkdir_ktsame w0) cfg chain d) w

theorem linkChain_run (cfg : Config) (d : Defs) (chain : List Layer) (w : World) :
    KGrow w ((linkChain cfg d chain).run.run w).2 ∧ ((linkChain cfg d chain).run.run w).2.kt = w.kt :=
  fsblock_run (fun w0 => linkChain_inv (fun _ h => h) (fsMkdir_kgrow w0) (fsSymlink_kgrow w0) cfg d chain)
    (fun w0 => linkChain_inv (fun _ h => h) (fsMkdir_ktsame w0) (fsSymlink_ktsame w0) cfg d chain) w

theorem np_of_kgrow {w w' : World} (h : KGrow w w') (hp : NP w) : NP w' := by
  unfold NP at *; rw [h.1]; exact hp

/-! ### the first run -/

/-- **first run of `mountCmd`**: not pretending, on a well-formed kernel table, with
    well-formed layer records and a sound cache, a successful `mountCmd` leaves a well-formed
    table that only grew, a tree that only grew, and a mount on every mountpoint of every layer
    of the base chain -/
theorem mountCmd_first {cfg : Config} {d d' : Defs} {name : Bytes} {w w' : World}
    (hp : NP w) (hwf : KWF w.kt) (hd : DefsOK cfg d) (hcs : CacheSound d w)
    (h : (mountCmd cfg d name).run.run w = (.ok d', w')) :
    NP w' ∧ KWF w'.kt ∧ KGrow w w' ∧ ∃ chain, BaseChain d chain name ∧
      ∀ a ∈ chain, ∀ l, findLayer d a.name = some l → PointsMounted cfg l w'.kt := by
  rw [mountCmd_eq] at h
  obtain ⟨chain, w0, h0, h1⟩ := RunM.bind_ok_inv _ _ _ _ _ h
  obtain ⟨rfl, hchain⟩ := mountPre_chain h0
  obtain ⟨dA, wA, hA, h2⟩ := RunM.bind_ok_inv _ _ _ _ _ h1
  obtain ⟨dB, wB, hB, h3⟩ := RunM.bind_ok_inv _ _ _ _ _ h2
  obtain ⟨_, wC, hC, h4⟩ := RunM.bind_ok_inv _ _ _ _ _ h3
  rw [RunM.run_pure] at h4
  cases h4
  -- directory creation
  have hkA := mkChainDirs_run cfg chain d w0
  rw [hA] at hkA
  obtain ⟨hmA, hleA⟩ := Hoare.ret_elim _ _ (mkChainDirs_ret cfg chain d) w0 dA wA hA
  have hpA := np_of_kgrow hkA.1 hp
  have hwfA : KWF wA.kt := by rw [hkA.2]; exact hwf
  have hdA : DefsOK cfg dA := LayerCore.DefsOK.of_sub hd hleA.symm.sub
  have hcsA : CacheSound dA wA := by
    intro p hpne
    rw [hkA.2]
    rw [hmA] at hpne
    exact hcs p hpne
  -- the chain
  obtain ⟨hpB, hwfB, hkB, _, hpts⟩ := mountChain_mounts cfg chain dA d' wA wB hpA hwfA hdA hcsA hB
  -- export links
  have hkC := linkChain_run cfg d' chain wB
  rw [hC] at hkC
  refine ⟨np_of_kgrow hkC.1 hpB, by rw [hkC.2]; exact hwfB, (hkA.1.trans hkB).trans hkC.1, chain, hchain, ?_⟩
  intro a ha l hl
  obtain ⟨lA, hlA, hc⟩ := hleA.sub _ l hl
  rw [hkC.2]
  exact (hpts a ha lA hlA).core hc.symm

/-! ### the second run -/

/-- a run of `m` from `w` — whatever its result — leaves the kernel table alone and appends only
    file-system operations to the trace -/
def Quiet {α} (m : M α) (w : World) : Prop :=
  (m.run.run w).2.kt = w.kt ∧ ∃ s, (m.run.run w).2.trace = w.trace ++ s ∧ NoSys s

theorem Quiet.of_same {α} {m : M α} {w : World} (h : (m.run.run w).2 = w) : Quiet m w := by
  unfold Quiet
  rw [h]
  exact ⟨rfl, [], (List.append_nil _).symm, NoSys.nil⟩

theorem Quiet.of_emits {α} {m : M α} {N : α → List Op → Prop} {w : World}
    (hk : (m.run.run w).2.kt = w.kt) (he : Emits m N NoSys) (hN : ∀ a s, N a s → NoSys s) : Quiet m w :=
  let ⟨s, e, n, _⟩ := he.run hN w
  ⟨hk, s, e, n⟩

theorem Quiet.bind {α β} {m : M α} {f : α → M β} {w : World} (hm : Quiet m w)
    (hf : ∀ a w', m.run.run w = (.ok a, w') → Quiet (f a) w') : Quiet (m >>= f) w := by
  unfold Quiet at hm ⊢
  rw [RunM.run_bind]
  generalize hr : m.run.run w = r at hm
  obtain ⟨res, w'⟩ := r
  cases res with
  | error e => exact hm
  | ok a =>
    obtain ⟨hk, s, hs, hn⟩ := hm
    obtain ⟨hk', s', hs', hn'⟩ := hf a w' hr
    exact ⟨hk'.trans hk, s ++ s', by rw [hs', hs, List.append_assoc], hn.append hn'⟩

/-- **second run of `mountCmd`**: not pretending, on a well-formed kernel table in which every
    mountpoint of every layer of the base chain carries a mount, with a complete cache, any run
    of `mountCmd` — whatever its result — appends only file-system operations to the trace -/
theorem mountCmd_second {cfg : Config} {d : Defs} {name : Bytes} {w : World}
    (hp : NP w) (hwf : KWF w.kt) (hcc : CacheComplete d w)
    (hpts : ∀ chain, BaseChain d chain name → ∀ a ∈ chain, ∀ l, findLayer d a.name = some l →
      PointsMounted cfg l w.kt) :
    Quiet (mountCmd cfg d name) w := by
  rw [mountCmd_eq]
  refine .bind (.of_same (extract (Same w) _ (mountPre_holds _ d name) w rfl)) fun chain w0 h0 => ?_
  obtain ⟨rfl, hchain⟩ := mountPre_chain h0
  -- directory creation
  have hkA := mkChainDirs_run cfg chain d w0
  refine .bind (.of_emits hkA.2 (mkChainDirs_emits cfg chain d) fun _ _ h => h.1) fun dA wA hA => ?_
  rw [hA] at hkA
  obtain ⟨hmA, hleA⟩ := Hoare.ret_elim _ _ (mkChainDirs_ret cfg chain d) w0 dA wA hA
  have hccA : CacheComplete dA wA := by
    intro p hm
    rw [hmA]
    rw [hkA.2] at hm
    exact hcc p hm
  have hptsA : ∀ a ∈ chain, ∀ l, findLayer dA a.name = some l → PointsMounted cfg l wA.kt := by
    intro a ha lA hlA
    obtain ⟨l, hl, hc⟩ := hleA.symm.sub _ lA hlA
    rw [hkA.2]
    exact (hpts chain hchain a ha l hl).core hc.symm
  -- the chain: every mountpoint is mounted already, the pass does nothing
  refine .bind (.of_same (mountChain_noop cfg chain dA wA (np_of_kgrow hkA.1 hp) (by rw [hkA.2]; exact hwf)
    hccA hptsA)) fun dB wB _ => ?_
  -- export links
  exact .bind (.of_emits (linkChain_run cfg dB chain wB).2 (linkChain_emits cfg dB chain) fun _ _ h => h)
    fun _ _ _ => .of_same rfl

/-! ### two runs -/

/-- a property of the chain layers that only depends on cores carries over from the base chain
    in `d0` to the base chain of the same name in a `d2` that finds every `d0` layer again -/
theorem chain_transfer {d0 d2 : Defs} (hsub : Sub d0 d2) (P : Layer → Prop)
    (hP : ∀ l l', core l' = core l → P l → P l') :
    ∀ (c2 : List Layer) (n : Bytes), BaseChain d2 c2 n → ∀ c1, BaseChain d0 c1 n →
      (∀ a ∈ c1, ∀ l, findLayer d0 a.name = some l → P l) →
      ∀ a ∈ c2, ∀ l, findLayer d2 a.name = some l → P l := by
  intro c2 n h2
  induction h2 with
  | nil _ => intro c1 _ _ a ha; cases ha
  | snoc hl2 hn2 hc2 ih =>
    rename_i c l2 n'
    intro c1 h1 hpts a ha l hl
    cases h1 with
    | nil h0 => exact absurd h0 hn2
    | @snoc c' l1 _ hl1 _ hc1 =>
    obtain ⟨l', hl', hcore⟩ := hsub _ l1 hl1
    rw [hl2] at hl'
    cases hl'
    have hbase : l2.base = l1.base := by
      rw [core_eq_iff] at hcore; exact hcore.2.1
    rcases List.mem_append.mp ha with ha | ha
    · apply ih c' (by rw [hbase]; exact hc1) (fun x hx => hpts x (by simp [hx])) a ha l hl
    · simp only [List.mem_singleton] at ha
      subst ha
      have hn2' : a.name = n' := ForestInv.find_name hl2
      rw [hn2', hl2] at hl
      cases hl
      have hn1 : l1.name = n' := ForestInv.find_name hl1
      exact hP l1 _ hcore (hpts l1 (by simp) l1 (by rw [hn1]; exact hl1))

theorem runCmd_mount (cfg : Config) (inuse : List (Bytes × List User)) (name : Bytes) :
    runCmd cfg inuse (.mount name) = (getLayers cfg inuse >>= fun d => mountCmd cfg d name) := rfl

theorem nosys_no_mount {s : List Op} (h : NoSys s) : ∀ op ∈ s, isMountOp op = false := by
  intro op hop
  have := h op hop
  unfold isSys at this
  cases hm : isMountOp op with
  | false => rfl
  | true => rw [hm] at this; simp at this

/-- **`mount` twice.**  If `layercake mount name` succeeds from world `w` — whose kernel table
    is well-formed and whose layer records are byte strings — then running the same command
    again from the resulting world appends no mount operation to the trace, whatever the
    second run returns. -/
theorem mount_twice {cfg : Config} {inuse : List (Bytes × List User)} {name : Bytes} {w w1 : World}
    {d1 : Defs} (hrun : run cfg inuse (.mount name) w = (.ok d1, w1)) (hwf : KWF w.kt)
    (hd : ∀ d0, (getLayers cfg inuse).run.run w = (.ok d0, w) → DefsOK cfg d0) :
    (run cfg inuse (.mount name) w1).2.kt = w1.kt ∧
    ∃ s, (run cfg inuse (.mount name) w1).2.trace = w1.trace ++ s ∧ ∀ op ∈ s, isMountOp op = false := by
  cases hpre : w.pretend with
  | true =>
    -- pretending: neither run attempts anything
    have h1 := extract (Pretend.PInv w) _ (Pretend.runCmd_keeps w cfg inuse (.mount name)) w
      (by simp [Pretend.PInv, hpre])
    have hrun' : (runCmd cfg inuse (.mount name)).run.run w = (.ok d1, w1) := hrun
    rw [hrun'] at h1
    have hp1 : w1.pretend = true := h1.2.2.2.2
    have h2 := extract (Pretend.PInv w1) _ (Pretend.runCmd_keeps w1 cfg inuse (.mount name)) w1
      ⟨rfl, rfl, rfl, rfl, hp1⟩
    exact ⟨h2.2.1, [], by rw [List.append_nil]; exact h2.2.2.1, fun op hop => by cases hop⟩
  | false =>
    have hp : NP w := hpre
    unfold run at hrun ⊢
    rw [runCmd_mount] at hrun ⊢
    -- first run
    obtain ⟨d0, wa, hg, hm⟩ := RunM.bind_ok_inv _ _ _ _ _ hrun
    obtain ⟨rfl, hprobe, d00, hfind, hle0⟩ := getLayers_run hg
    have hcs : CacheSound d0 wa := fun p hpne => (probe_getMount_iff hwf hprobe p).mp hpne
    obtain ⟨hp1, hwf1, hk1, chain1, hchain1, hpts1⟩ := mountCmd_first hp hwf (hd d0 hg) hcs hm
    -- second run
    suffices h : Quiet (getLayers cfg inuse >>= fun d => mountCmd cfg d name) w1 from
      ⟨h.1, h.2.imp fun _ hs => ⟨hs.1, nosys_no_mount hs.2⟩⟩
    refine .bind (.of_same (extract (Same w1) _ (getLayers_same w1 cfg inuse) w1 rfl)) fun d2 w2 hg2 => ?_
    obtain ⟨rfl, hprobe2, d20, hfind2, hle2⟩ := getLayers_run hg2
    have hcc : CacheComplete d2 w2 := fun p hm => (probe_getMount_iff hwf1 hprobe2 p).mpr hm
    have hsub : Sub d0 d2 := by
      refine (hle0.symm.sub).trans (Sub.trans ?_ hle2.sub)
      intro n l hl
      exact ⟨l, findLayers_found_ext hk1.2.2 hfind hfind2 n l hl, rfl⟩
    exact mountCmd_second hp1 hwf1 hcc fun chain2 hchain2 =>
      chain_transfer hsub (fun l => PointsMounted cfg l w2.kt) (fun l l' hc h => h.core hc)
        chain2 name hchain2 chain1 hchain1 hpts1

end Lc.MountTwice
