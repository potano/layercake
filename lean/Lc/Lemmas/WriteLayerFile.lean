/-
  Hoare-style specification of `writeLayerFile` (temp file + rename): the only operation
  that changes the node at the layerconfig path is the final rename; everything before
  only touches `<layerconfig>.new`.  The same for `rebaseLayer`, which does nothing else to
  the tree.  With the specifications of the primitives used on the way (`cursorOpen`,
  `cursorWrite`, and `fsStep_spec` for any gated tree operation).  Helper lemmas for
  Props/C11 (crash_atomic, crash_atomic_rebase).
-/
import Lc.Lemmas.Hoare
import Lc.Lemmas.FsWrite
import Lc.Lemmas.ExportPath

set_option mvcgen.warning false

namespace Lc.Lemmas.WriteLF
open Std.Do Lc Lc.Layers Lc.Layerfile Lc.Hoare Lc.Lemmas.FsWrite

def lcName : Bytes := b!"layerconfig"

theorem layerconfigPath_ne_root (l : Layer) : layerconfigPath l ≠ [47] := by
  unfold layerconfigPath pathJoin
  cases hp : l.layerPath with
  | nil => decide
  | cons c cs =>
    -- cleaning `<dir>/layerconfig` keeps the last component
    obtain ⟨B, hB⟩ := ExportPath.pathClean_prefix (c :: cs)
    have h := hB [lcName] (List.cons_ne_nil _ _) (ExportPath.single_clean _ (by decide))
    intro e
    have := congrArg List.length (h.symm.trans e)
    simp [joinWith, lcName] at this

def Frame (T : Bytes) (w0 w : World) : Prop :=
  (∀ p, p ≠ T → Fs.get w.fs p = Fs.get w0.fs p) ∧ w.pretend = w0.pretend

theorem frame_refl (T : Bytes) (w : World) : Frame T w w := ⟨fun _ _ => rfl, rfl⟩

theorem frame_trans (T : Bytes) (w0 w1 w2 : World) (h1 : Frame T w0 w1) (h2 : Frame T w1 w2) :
    Frame T w0 w2 :=
  ⟨fun p hp => (h2.1 p hp).trans (h1.1 p hp), h2.2.trans h1.2⟩

theorem cursorOpen_spec (T : Bytes) (w1 : World) :
    ⦃fun w => ⌜w = w1⌝⦄ cursorOpen T
    ⦃post⟨fun _ w => ⌜Frame T w1 w ∧ Fs.get w.fs T = some (.file [])⌝, fun _ w => ⌜Frame T w1 w⌝⟩⦄ := by
  apply triple_of_run
  rintro w rfl
  rw [RunM.run_cursorOpen]
  cases w.crashAt == some (w.nops + 1)
  · cases w.faultAt == some (w.nops + 1)
    · cases ho : Fs.openWrite w.fs T true
      · exact frame_refl T w
      · obtain ⟨h1, h2⟩ := openWrite_trunc _ _ _ ho
        exact ⟨⟨h2, rfl⟩, h1⟩
    · exact frame_refl T w
  · exact frame_refl T w

/-- one Printf: relative to the state before it -/
theorem cursorWrite_spec (T chunk : Bytes) (failed : Bool) (w1 : World) :
    ⦃fun w => ⌜w = w1⌝⦄ cursorWrite T chunk failed
    ⦃post⟨fun r w => ⌜Frame T w1 w ∧ (r = false → failed = false ∧
            ∀ c, Fs.get w1.fs T = some (.file c) → Fs.get w.fs T = some (.file (c ++ chunk)))⌝,
          fun _ w => ⌜Frame T w1 w⌝⟩⦄ := by
  apply triple_of_run
  rintro w rfl
  rw [RunM.run_cursorWrite]
  cases failed
  · cases w.crashAt == some (w.nops + 1)
    · cases w.faultAt == some (w.nops + 1)
      · exact ⟨⟨fun p hp => Fs.get_appendFile_ne _ _ _ _ hp, rfl⟩,
          fun _ => ⟨rfl, fun c hc => get_appendFile_eq _ _ _ _ hc⟩⟩
      · exact ⟨frame_refl T w, nofun⟩
    · exact frame_refl T w
  · exact ⟨frame_refl T w, nofun⟩

/-- a gated file-system step, relative to the state before it: pretending or failing
    leaves the tree alone, otherwise the tree is the operation's result -/
theorem fsStep_spec (op : Op) (f : Fs.Tree → Except String Fs.Tree) (w1 : World) :
    ⦃fun w => ⌜w = w1⌝⦄ fsStep op f
    ⦃post⟨fun _ w => ⌜w.pretend = w1.pretend ∧
            ((w1.pretend = true ∧ w.fs = w1.fs) ∨ (w1.pretend = false ∧ f w1.fs = .ok w.fs))⌝,
          fun _ w => ⌜w.fs = w1.fs ∧ w.pretend = w1.pretend⌝⟩⦄ := by
  apply triple_of_run
  rintro w rfl
  rw [RunM.run_fsStep]
  rcases RunM.gate_cases w with ⟨hp, h⟩ | ⟨hp, e, h⟩ | ⟨hp, h⟩ <;> rw [h]
  · exact ⟨rfl, .inl ⟨hp, rfl⟩⟩
  · exact ⟨rfl, rfl⟩
  · dsimp only [World.tick]
    cases f w.fs
    · exact ⟨rfl, rfl⟩
    · exact ⟨rfl, .inr ⟨hp, rfl⟩⟩

theorem tmp_ne_root (F : Bytes) : F ++ tmpSuffix ≠ [47] := by
  intro h
  have := congrArg List.length h
  simp [tmpSuffix] at this

theorem under_cfg_tmp (F : Bytes) (hF : F ≠ [47]) : Fs.under F (F ++ tmpSuffix) = false := by
  unfold Fs.under
  have hF' : (F == [47]) = false := by simpa using hF
  have h1 : (F ++ tmpSuffix == F) = false := by
    have : ¬ F ++ tmpSuffix = F := by
      intro h; have := congrArg List.length h; simp [tmpSuffix] at this
    simpa using this
  have h2 : hasPrefix (F ++ tmpSuffix) (F ++ [47]) = false := by
    cases hp : hasPrefix (F ++ tmpSuffix) (F ++ [47]) with
    | false => rfl
    | true =>
      obtain ⟨r, hr⟩ := (hasPrefix_iff _ _).mp hp
      rw [List.append_assoc] at hr
      have := List.append_cancel_left hr
      simp [tmpSuffix] at this
  simp [hF', h1, h2]

def cfgPath (l : Layer) : Bytes := layerconfigPath l
def tmpPath (l : Layer) : Bytes := layerconfigPath l ++ tmpSuffix
def newNode (l : Layer) : Fs.Node := .file (render (toLayerFile l))

/-- what a layer built from a loaded description writes out is that description; the message
    count is not written -/
theorem toLayerFile_layerOfFile (cfg : Config) (n : Bytes) (lf : LayerFile) :
    toLayerFile (layerOfFile cfg n lf) = { lf with nmsgs := 0 } := rfl

/-- state after an uninterrupted write relative to the state before it: the complete new
    text is at the layerconfig path, nothing outside that path and the temporary path
    has changed -/
def Written (l : Layer) (w0 w : World) : Prop :=
  Fs.get w.fs (cfgPath l) = some (newNode l) ∧
  ∀ p, Fs.under (cfgPath l) p = false → Fs.under (tmpPath l) p = false → Fs.get w.fs p = Fs.get w0.fs p

theorem writeLayerFile_spec (l : Layer) (w0 : World) :
    ⦃fun w => ⌜w = w0⌝⦄ writeLayerFile l
    ⦃post⟨fun _ w => ⌜w.pretend = w0.pretend ∧
            ((w0.pretend = true ∧ w.fs = w0.fs) ∨ (w0.pretend = false ∧ Written l w0 w))⌝,
          fun _ w => ⌜Frame (tmpPath l) w0 w⌝⟩⦄ := by
  have hF := layerconfigPath_ne_root l
  mvcgen [writeLayerFile, fsRename, getW, fail, cursorOpen_spec, cursorWrite_spec, fsStep_spec] invariants
  · post⟨fun (xs, failed) w => ⌜Frame (tmpPath l) w0 w ∧
      (failed = false → Fs.get w.fs (tmpPath l) = some (.file xs.prefix.flatten))⌝,
      fun _ w => ⌜Frame (tmpPath l) w0 w⌝⟩
  next =>
    subst_vars
    exact ⟨rfl, Or.inl ⟨by assumption, rfl⟩⟩
  · -- one chunk written
    rename_i h _
    intro s hfr hstep
    refine ⟨frame_trans _ _ _ _ h.1 hfr, fun hr => ?_⟩
    obtain ⟨hb, hc⟩ := hstep hr
    have h3 := hc _ (h.2 hb)
    simp only [List.flatten_append, List.flatten_cons, List.flatten_nil, List.append_nil]
    exact h3
  · rename_i h _
    intro s hfr
    exact frame_trans _ _ _ _ h.1 hfr
  · rename_i h
    subst_vars
    exact ⟨h.1, h.2⟩
  · rename_i h
    exact h.1
  · -- the rename went through
    rename_i hnp _ _ _ _ _ hr s1 hinv _ s
    intro hp hdisj
    subst_vars
    have hpre1 : s1.pretend = false := hinv.1.2.trans (Bool.eq_false_iff.mpr hnp)
    have hcontent := hinv.2 (Bool.eq_false_iff.mpr hr)
    rcases hdisj with ⟨ht, _⟩ | ⟨_, hren⟩
    · rw [hpre1] at ht; cases ht
    · refine ⟨hp.trans hinv.1.2, Or.inr ⟨by rw [← hinv.1.2]; exact hpre1, ?_, ?_⟩⟩
      · exact rename_get_target _ _ _ _ _ hren (tmp_ne_root _) (under_cfg_tmp _ hF) hcontent
      · intro p h1 h2
        rw [FsRename.rename_keeps _ _ _ _ hren (tmp_ne_root _) p h2 h1]
        exact hinv.1.1 p (by intro e; rw [e, FsRename.under_self] at h2; cases h2)
  · -- the rename failed or was interrupted
    rename_i hinv _ s
    intro hfs hp
    exact ⟨fun p hp' => by rw [hfs]; exact hinv.1.1 p hp', hp.trans hinv.1.2⟩
  · intro h
    subst_vars
    exact h

/-- rebase is the one rewriting command that touches nothing else -/
theorem rebaseLayer_spec (cfg : Config) (d : Defs) (name newbase : Bytes) (l : Layer) (w0 : World)
    (hl : findLayer d name = some l) :
    ⦃fun w => ⌜w = w0⌝⦄ rebaseLayer cfg d name newbase
    ⦃post⟨fun _ w => ⌜w.fs = w0.fs ∨ Written { l with base := newbase } w0 w⌝,
          fun _ w => ⌜Frame (tmpPath { l with base := newbase }) w0 w⌝⟩⦄ := by
  have hw : ∀ w, w = w0 → Frame (tmpPath { l with base := newbase }) w0 w := fun _ h => h ▸ frame_refl _ _
  have h1 := testName_inv hw d [(name, NAME_NEED), (newbase, NAME_NEED + NAME_OPTIONAL)]
  have h2 := errorIfError_inv hw l
  have h3 := errorIfBusy_inv hw l true
  have h4 := reorder_inv hw
  have hwl := writeLayerFile_spec { l with base := newbase } w0
  unfold rebaseLayer getL Respects at *
  simp only [hl]
  mvcgen [fail, h1, h2, h3, h4, hwl]
  · exact hw _ ‹_›
  · exact hw _ ‹_›
  · rename_i h
    exact h.2.imp (·.2) (·.2)

end Lc.Lemmas.WriteLF
