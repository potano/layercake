/-
  If the injected fault (the k-th mutating operation failing, `faultAt = some k`) has not fired when a
  function of the command model starts and the function returns normally, it has still
  not fired: a normal return means the k-th operation was never reached.  Helper lemmas
  for Props/C10.
-/
import Lc.Lemmas.Trace

namespace Lc.FaultOk
open Std.Do Lc Lc.Layers Lc.Hoare

set_option mvcgen.warning false

/-- the fault is armed at operation `k` and fewer than `k` fault points were passed -/
def NotFired (w0 w : World) : Prop := w.faultAt = w0.faultAt ∧ w.nops < w0.faultAt.getD 0

theorem NotFired.tick {w0 w : World} (h : NotFired w0 w) (hf : (w.faultAt == some (w.nops + 1)) = false) :
    NotFired w0 w.tick := by
  refine ⟨h.1, ?_⟩
  have h2 := h.2
  rw [← h.1] at h2 ⊢
  cases hfa : w.faultAt with
  | none =>
    rw [hfa] at h2
    exact absurd h2 (Nat.not_lt_zero _)
  | some k =>
    rw [hfa] at h2 hf
    have hne : k ≠ w.nops + 1 := by simpa using hf
    change w.nops < k at h2
    change w.nops + 1 < k
    omega

abbrev Ok {α} (w0 : World) (m : M α) : Prop :=
  ⦃fun w => ⌜NotFired w0 w⌝⦄ m ⦃post⟨fun _ w => ⌜NotFired w0 w⌝, fun _ _ => ⌜True⌝⟩⦄

theorem gate_ok (w0 : World) : Ok w0 gate :=
  triple_of_run _ _ _ _ fun w h => by
    rw [RunM.run_gate]
    cases w.pretend
    · cases w.crashAt == some (w.nops + 1)
      · cases hf : w.faultAt == some (w.nops + 1)
        · exact h.tick hf
        · trivial
      · trivial
    · exact h

theorem sysMount_ok (w0 : World) (s t f fl o) : Ok w0 (sysMount s t f fl o) :=
  Trace.sysMount_inv s t f fl o (fun _ _ => trivial) (fun _ _ h _ => h)

theorem fsStep_ok (w0 : World) (op : Op) (f) : Ok w0 (fsStep op f) :=
  Trace.fsStep_inv op f (gate_ok w0) (fun _ h => h) (fun _ _ => trivial) (fun _ _ h _ => h)

theorem cursorOpen_ok (w0 : World) (p) : Ok w0 (cursorOpen p) :=
  triple_of_run _ _ _ _ fun w h => by
    rw [RunM.run_cursorOpen]
    cases w.crashAt == some (w.nops + 1)
    · cases hf : w.faultAt == some (w.nops + 1)
      · cases Fs.openWrite w.fs p true
        · trivial
        · exact h.tick hf
      · trivial
    · trivial

/-- a chunk write that reports failure has let the fault fire: the invariant is kept only
    while no write has failed -/
theorem cursorWrite_spec (w0 : World) (p chunk : Bytes) (failed : Bool) :
    ⦃fun w => ⌜failed = false → NotFired w0 w⌝⦄ cursorWrite p chunk failed
    ⦃post⟨fun r w => ⌜r = false → NotFired w0 w⌝, fun _ _ => ⌜True⌝⟩⦄ :=
  triple_of_run _ _ _ _ fun w h => by
    rw [RunM.run_cursorWrite]
    cases failed
    · cases w.crashAt == some (w.nops + 1)
      · cases hf : w.faultAt == some (w.nops + 1)
        · exact fun _ => (h rfl).tick hf
        · exact nofun
      · trivial
    · exact nofun

theorem prims (w0 : World) : Prims (NotFired w0) (fun _ => True) where
  weaken _ _ := trivial
  fsStep := fsStep_ok w0
  fsMount s t f o := Trace.fsMount_inv s t f o (gate_ok w0) (sysMount_ok w0 _ _ _ _ _) (sysMount_ok w0 _ _ _ _ _)
  fsUnmount t := Trace.fsUnmount_inv t (gate_ok w0) (fun _ h => h) (fun _ _ => trivial) (fun _ _ h _ => h)
  writeLayerFile l := by
    have hcw := cursorWrite_spec w0
    have hco := cursorOpen_ok w0
    have hre : ∀ a b, Ok w0 (fsRename a b) := fun _ _ => fsStep_ok w0 _ _
    unfold Ok at hco hre
    mvcgen [writeLayerFile, getW, fail, hco, hcw, hre] invariants
    · post⟨fun (_, failed) w => ⌜failed = false → NotFired w0 w⌝, fun _ _ => ⌜True⌝⟩
    -- left: the world in which the loop starts, and the one it leaves with `failed` down
    next => assumption
    next hr _ h => exact h (Bool.eq_false_iff.mpr hr)

theorem fIsFile_ok (w0 : World) (p) : Ok w0 (fIsFile p) := fIsFile_inv _ _ p

theorem runCmd_ok (w0 : World) (cfg inuse c) : Ok w0 (runCmd cfg inuse c) := (prims w0).runCmd cfg inuse c

/-! ### the propagation call of `fs.Mount` as a fault point of its own -/

/-- flags `fs.Mount` passes with the first call -/
def mountFlagsOf (fstype : Bytes) : Nat :=
  if fstype == b!"bind" then Kernel.MS_BIND
  else if fstype == b!"rbind" then Kernel.MS_BIND + Kernel.MS_REC
  else if fstype == b!"remount" then Kernel.MS_REMOUNT else 0

theorem mountFlagsOf_eq : mountFlagsOf = Trace.mountFlags := rfl

theorem sysMount_frame (s t f : Bytes) (fl : Nat) (o : Bytes) (w : World) :
    ((sysMount s t f fl o).run.run w).2.nops = w.nops ∧
    ((sysMount s t f fl o).run.run w).2.pretend = w.pretend ∧
    ((sysMount s t f fl o).run.run w).2.crashAt = w.crashAt ∧
    ((sysMount s t f fl o).run.run w).2.faultAt = w.faultAt := by
  rw [RunM.run_sysMount]
  split <;> exact ⟨rfl, rfl, rfl, rfl⟩

end Lc.FaultOk
