/-
  The per-layer round of `ProbeAllLayerstate` (manage/probe.go:131-190) as a named
  function, proved equal to the lambda inside the model's `probeAll`; field-preservation
  and state-range lemmas.  Helper lemmas for Props/C08.
-/
import Lc.Lemmas.StateProbe

namespace Lc.StateProbe
open Lc Lc.Layers Lc.Mountinfo Lc.Layerfile

/-- the processes the in-use map attributes to a layer; `Spec.World.usersOf` and
    `Probe.usersOf` are the same function (`usersOf_eq_spec`, `rfl`) -/
def usersOf (inuse : List (Bytes × List User)) (name : Bytes) : List User :=
  match inuse.find? (·.1 == name) with
  | some (_, us) => us
  | none => []

/-- one round of the loop of `probeAll`, verbatim -/
def probeStep (cfg : Config) (inuse : List (Bytes × List User)) (fs : Fs.Tree) (d : Defs)
    (name : Bytes) : M Defs := do
  match findLayer d name with
  | none => throw Fault.panic
  | some l =>
    let buildroot := buildPath cfg l
    let l := { l with mounts := getMountAndSubmounts d.mounts buildroot }
    let l := classifyUsers cfg l (usersOf inuse name)
    if l.state == S_error then pure (setLayer d l) else
    if !Fs.isDir fs buildroot then pure (setLayer d { l with state := S_incomplete }) else
    let haveWork := Fs.isDir fs (workPath cfg l)
    let haveUpper := Fs.isDir fs (upperPath cfg l)
    if l.base.length ≥ 1 && (!haveWork || !haveUpper) then
      pure (setLayer d { l with state := S_incomplete })
    else
      let l ← liftRes (findLayerstate cfg fs d { l with state := S_complete })
      pure (setLayer d l)

theorem probeAll_eq (cfg : Config) (inuse : List (Bytes × List User)) (d : Defs) :
    probeAll cfg inuse d = (do
      let d ← refreshMountInfo cfg d
      let fs := (← getW).fs
      d.order.foldlM (probeStep cfg inuse fs) d) := by
  rfl

/-- the new record of a layer that is not in the error state: the pure content of one round -/
def probeLayer (cfg : Config) (inuse : List (Bytes × List User)) (fs : Fs.Tree) (d : Defs)
    (name : Bytes) (l0 : Layer) : Res Layer :=
  let buildroot := buildPath cfg l0
  let l := classifyUsers cfg { l0 with mounts := getMountAndSubmounts d.mounts buildroot }
    (usersOf inuse name)
  if !Fs.isDir fs buildroot then .ok { l with state := S_incomplete } else
  if l.base.length ≥ 1 && (!Fs.isDir fs (workPath cfg l) || !Fs.isDir fs (upperPath cfg l)) then
    .ok { l with state := S_incomplete }
  else findLayerstate cfg fs d { l with state := S_complete }

/-- the record of a layer that IS in the error state after its round (fix e3cb7aa): the
    state is kept, the mounts at or below the build root and the processes are recorded -/
def probeErr (cfg : Config) (inuse : List (Bytes × List User)) (d : Defs) (name : Bytes) (l0 : Layer) : Layer :=
  classifyUsers cfg { l0 with mounts := getMountAndSubmounts d.mounts (buildPath cfg l0) }
    (usersOf inuse name)

/-! ### what classification changes: three flags -/

theorem foldl_flags {α} (a b c : α → Bool) (f : Layer → α → Layer)
    (hf : ∀ l x, f l x = { l with mountBusy := l.mountBusy || a x,
                                  nonMountBusy := l.nonMountBusy || b x,
                                  chroot := l.chroot || c x })
    (xs : List α) (l : Layer) :
    xs.foldl f l = { l with mountBusy := l.mountBusy || xs.any a,
                            nonMountBusy := l.nonMountBusy || xs.any b,
                            chroot := l.chroot || xs.any c } := by
  induction xs generalizing l with
  | nil => simp
  | cons x xs ih =>
    rw [List.foldl_cons, ih, hf]
    simp only [List.any_cons, Bool.or_assoc]

theorem classifyUsers_eq (cfg : Config) (l : Layer) (us : List User) :
    classifyUsers cfg l us =
      { l with
        mountBusy := l.mountBusy ||
          us.any fun u => [cfg.buildRoot, cfg.workdir, cfg.upperdir].any (sameDirOrDesc u.file),
        nonMountBusy := l.nonMountBusy ||
          us.any fun u => [cfg.buildRoot, cfg.workdir, cfg.upperdir].any (fun mp => !sameDirOrDesc u.file mp),
        chroot := l.chroot || us.any (·.usedAs == 0) } := by
  unfold classifyUsers
  refine foldl_flags _ _ _ _ (fun l u => ?_) us l
  rw [foldl_flags (sameDirOrDesc u.file) (fun mp => !sameDirOrDesc u.file mp) (fun _ => u.usedAs == 0)]
  · simp
  · intro l mp
    cases sameDirOrDesc u.file mp <;> cases u.usedAs == 0 <;> simp

/-- `findLayerstate` only sets `mounts` and `state`; started at `complete` or above it never
    answers `empty` or `incomplete` -/
theorem findLayerstate_shape (cfg : Config) (fs : Fs.Tree) (d : Defs) (l l' : Layer)
    (h : findLayerstate cfg fs d l = .ok l') :
    ∃ s, l' = { l with mounts := getMountAndSubmounts d.mounts (buildPath cfg l), state := s } ∧
      (l.state < S_complete → s = l.state) ∧
      (¬ l.state < S_complete → s ≠ S_incomplete ∧ s ≠ S_empty) := by
  rcases findLayerstate_cases cfg fs d l l' h with ⟨hs, rfl⟩ | ⟨hs, hc⟩
  · exact ⟨l.state, rfl, fun _ => rfl, fun h => absurd hs h⟩
  rcases hc with rfl | ⟨-, rfl | rfl⟩ | ⟨-, -, hcl⟩
  · exact ⟨S_complete, rfl, fun h => absurd h hs, fun _ => by decide⟩
  · exact ⟨S_error, rfl, fun h => absurd h hs, fun _ => by decide⟩
  · exact ⟨S_mountable, rfl, fun h => absurd h hs, fun _ => by decide⟩
  rw [classify_eq] at hcl
  split at hcl
  · cases hcl
    exact ⟨S_inhabited, rfl, fun h => absurd h hs, fun _ => by decide⟩
  · cases hcl
  split at hcl
  · cases hcl
  cases hcl
  exact ⟨_, rfl, fun h => absurd h hs, fun _ => finishState_inhabited_ne ..⟩

theorem probeStep_eq (cfg : Config) (inuse : List (Bytes × List User)) (fs : Fs.Tree) (d : Defs)
    (name : Bytes) :
    probeStep cfg inuse fs d name =
      match findLayer d name with
      | none => throw Fault.panic
      | some l =>
        if l.state == S_error then pure (setLayer d (probeErr cfg inuse d name l)) else
          (liftRes (probeLayer cfg inuse fs d name l) >>= fun l' => pure (setLayer d l')) := by
  unfold probeStep probeLayer probeErr
  split
  · rfl
  · rename_i l hl
    simp only []
    have hst : (classifyUsers cfg
        ({ l with mounts := getMountAndSubmounts d.mounts (buildPath cfg l) } : Layer)
        (usersOf inuse name)).state = l.state := by
      rw [classifyUsers_eq]
    rw [hst]
    split
    · rfl
    · split
      · simp [liftRes]
      · split
        · simp [liftRes]
        · rfl

theorem probeErr_eq (cfg : Config) (inuse : List (Bytes × List User)) (d : Defs) (name : Bytes) (l : Layer) :
    probeErr cfg inuse d name l =
      { l with
        mounts := getMountAndSubmounts d.mounts (buildPath cfg l),
        mountBusy := l.mountBusy || (usersOf inuse name).any fun u =>
          [cfg.buildRoot, cfg.workdir, cfg.upperdir].any (sameDirOrDesc u.file),
        nonMountBusy := l.nonMountBusy || (usersOf inuse name).any fun u =>
          [cfg.buildRoot, cfg.workdir, cfg.upperdir].any (fun mp => !sameDirOrDesc u.file mp),
        chroot := l.chroot || (usersOf inuse name).any (·.usedAs == 0) } := by
  unfold probeErr
  rw [classifyUsers_eq]

theorem probeLayer_unfold (cfg : Config) (inuse : List (Bytes × List User)) (fs : Fs.Tree) (d : Defs)
    (name : Bytes) (l : Layer) :
    probeLayer cfg inuse fs d name l =
      if !Fs.isDir fs (buildPath cfg l) then .ok { probeErr cfg inuse d name l with state := S_incomplete }
      else if l.base.length ≥ 1 && (!Fs.isDir fs (workPath cfg l) || !Fs.isDir fs (upperPath cfg l)) then
        .ok { probeErr cfg inuse d name l with state := S_incomplete }
      else findLayerstate cfg fs d { probeErr cfg inuse d name l with state := S_complete } := by
  unfold probeLayer probeErr
  simp only [classifyUsers_eq]
  rfl

/-- a round changes a record only in the mounts (those at or below the build root), the three
    process flags (both as `probeErr` sets them) and the state -/
theorem probeLayer_eq (cfg : Config) (inuse : List (Bytes × List User)) (fs : Fs.Tree) (d : Defs)
    (name : Bytes) (l l' : Layer) (h : probeLayer cfg inuse fs d name l = .ok l') :
    ∃ s, l' = { probeErr cfg inuse d name l with state := s } := by
  rw [probeLayer_unfold] at h
  split at h
  · exact ⟨_, (Except.ok.inj h).symm⟩
  split at h
  · exact ⟨_, (Except.ok.inj h).symm⟩
  obtain ⟨s, rfl, -⟩ := findLayerstate_shape cfg fs d _ _ h
  refine ⟨s, ?_⟩
  unfold probeErr
  rw [classifyUsers_eq]
  rfl

end Lc.StateProbe
