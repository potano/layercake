/-
  `DiskForest cfg fs`: the tree is well-formed, the layers directory is a real directory, no
  layerconfig of a legal name is a symbolic link, and the table `findLayers` reads passes the
  cycle check — "the installation can be listed and is a forest".  The table read depends
  only on what is found at the layerconfig paths of legal names (`cfgBase`), so a tree that
  agrees with a forest there (up to new directories) is a forest (`diskForest_of_keep`), and
  a tree whose layerconfig bases are those of a table that passes the check is one
  (`Agrees`, `diskForest_of_table`; `diskForest_of_update` when one layerconfig changed).
  Helper lemmas for Props/C02.
-/
import Lc.Lemmas.DiskView
import Lc.Lemmas.LayerfileRW

namespace Lc.DiskForest
open Lc Lc.Layers Lc.Fs Lc.Lemmas.Path Lc.ExportPath Lc.InLayers Lc.TreeWF Lc.TreeKeeps Lc.ForestInv
  Lc.ForestCmd Lc.Lemmas.WriteLF Lc.Layerfile Lc.DiskView

/-- a legal, non-empty layer name -/
def LegalNE (a : Bytes) : Prop := a ≠ [] ∧ isLegalLayerName a = true

theorem LegalNE.clean {a : Bytes} (h : LegalNE a) : CleanName a := LayerPaths.legal_clean a h.1 h.2

/-- the part of the invariant that is not the cycle check -/
structure DiskOK (cfg : Config) (fs : Tree) : Prop where
  tree : TreeWF fs
  dir : Fs.get fs cfg.layerdirs = some .dir
  nolink : ∀ a, LegalNE a → ∀ t, Fs.get fs (cfgOf cfg a) ≠ some (.symlink t)

/-- **the installation can be listed and is a forest** -/
structure DiskForest (cfg : Config) (fs : Tree) : Prop where
  ok : DiskOK cfg fs
  check : checkInheritance (diskLayers cfg fs) = true

/-- the base line of the layerconfig found at the layerconfig path of `a` -/
def cfgBase (cfg : Config) (fs : Tree) (a : Bytes) : Option Bytes :=
  match Fs.get fs (cfgOf cfg a) with
  | some (.file c) => some (readLayerFile c).base
  | _ => none

/-- the parent of a layerconfig path is the layer directory -/
theorem pathDir_cfgOf {cfg : Config} {ds : List Bytes} (h : LD cfg ds) (a : Bytes) (ha : CleanName a) :
    pathDir (cfgOf cfg a) = layerPath cfg a := by
  rw [cfgOf_eq h a ha, layerPath_eq h a ha]
  exact (List.append_assoc ds [a] [lcName]) ▸
    pathDir_snoc' (ds ++ [a]) lcName (snoc_clean h.clean ha) LayerPaths.lcName_clean

theorem cfgOf_ne_root {cfg : Config} {ds : List Bytes} (h : LD cfg ds) (a : Bytes) (ha : CleanName a) :
    cfgOf cfg a ≠ [47] := by
  obtain ⟨r, hr, e⟩ := below_cfg h ha
  rw [e]
  exact absPath_ne_root _ (List.forall_mem_append.mpr ⟨h.clean, hr⟩) (by simp)

/-- the (name, base) pairs of the table `L` are the ones found on the tree, path by path: `a`
    is a legal name and the file at its layerconfig path has base line `b` -/
def Agrees (cfg : Config) (fs : Tree) (L : List Layer) : Prop :=
  ∀ a b, (a, b) ∈ L.map nb ↔ LegalNE a ∧ cfgBase cfg fs a = some b

theorem agrees_disk {cfg : Config} {ds : List Bytes} (h : LD cfg ds) {fs : Tree} (hok : DiskOK cfg fs) :
    Agrees cfg fs (diskLayers cfg fs) := by
  intro a b
  rw [mem_diskView_iff h hok.tree]
  constructor
  · rintro ⟨hne, hleg, _, c, hc, hb⟩
    refine ⟨⟨hne, hleg⟩, ?_⟩
    unfold cfgBase
    rw [readFile_nolink fs _ c (hok.nolink a ⟨hne, hleg⟩) hc]
    simp only [hb]
  · rintro ⟨hl, hb⟩
    unfold cfgBase at hb
    split at hb
    · rename_i c hg
      injection hb with hb
      refine ⟨hl.1, hl.2, ?_, c, readFile_of_get_file fs _ c hg, hb⟩
      -- the layerconfig is present, so is its directory
      have hk : cfgOf cfg a ∈ keys fs := (present_iff fs _).mp (by rw [hg]; rfl)
      have := key_parent hok.tree _ hk (cfgOf_ne_root h a hl.clean)
      rwa [pathDir_cfgOf h a hl.clean] at this
    · cases hb

/-- unchanged, or a directory where nothing was -/
def Keep (fs fs' : Tree) (p : Bytes) : Prop :=
  Fs.get fs' p = Fs.get fs p ∨ (Fs.get fs p = none ∧ Fs.get fs' p = some .dir)

theorem Keep.refl (fs : Tree) (p : Bytes) : Keep fs fs p := Or.inl rfl

theorem cfgBase_keep {cfg : Config} {fs fs' : Tree} {a : Bytes} (h : Keep fs fs' (cfgOf cfg a)) :
    cfgBase cfg fs' a = cfgBase cfg fs a := by
  unfold cfgBase
  rcases h with e | ⟨e1, e2⟩
  · rw [e]
  · rw [e1, e2]

theorem cfgBase_written {cfg : Config} {fs : Tree} {a : Bytes} {x : Layer}
    (hx : Lemmas.LayerfileRW.WF (toLayerFile x)) (hg : Fs.get fs (cfgOf cfg a) = some (newNode x)) :
    cfgBase cfg fs a = some x.base := by
  unfold cfgBase
  rw [hg]
  show some (readLayerFile (render (toLayerFile x))).base = _
  rw [Lemmas.LayerfileRW.read_render _ hx]
  rfl

theorem diskOK_of_keep {cfg : Config} {fs fs' : Tree} (hok : DiskOK cfg fs) (hT : TreeWF fs')
    (hd : Keep fs fs' cfg.layerdirs)
    (hc : ∀ a, LegalNE a → Keep fs fs' (cfgOf cfg a) ∨ ∀ t, Fs.get fs' (cfgOf cfg a) ≠ some (.symlink t)) :
    DiskOK cfg fs' := by
  refine ⟨hT, ?_, ?_⟩
  · rcases hd with e | ⟨e1, _⟩
    · rw [e]; exact hok.dir
    · rw [hok.dir] at e1; cases e1
  · intro a ha t
    rcases hc a ha with (e | ⟨_, e2⟩) | hn
    · rw [e]; exact hok.nolink a ha t
    · rw [e2]; intro hh; cases hh
    · exact hn t

/-- **a tree whose layerconfig bases are the (name, base) pairs of a table that passes the
    cycle check is a forest** -/
theorem diskForest_of_table {cfg : Config} {ds : List Bytes} (h : LD cfg ds) {fs : Tree} (hok : DiskOK cfg fs)
    (L : List Layer) (hL : checkInheritance L = true) (hv : Agrees cfg fs L) : DiskForest cfg fs :=
  ⟨hok, check_of_same_view (diskLayers_nodup hok.tree)
    (fun a b => (hv a b).trans (agrees_disk h hok a b).symm) hL⟩

/-- … in particular a tree that agrees with a forest on the relevant paths -/
theorem diskForest_of_keep {cfg : Config} {ds : List Bytes} (h : LD cfg ds) {fs fs' : Tree}
    (hf : DiskForest cfg fs) (hT : TreeWF fs') (hd : Keep fs fs' cfg.layerdirs)
    (hc : ∀ a, LegalNE a → Keep fs fs' (cfgOf cfg a)) : DiskForest cfg fs' := by
  refine diskForest_of_table h (diskOK_of_keep hf.ok hT hd (fun a ha => Or.inl (hc a ha))) _ hf.check ?_
  intro a b
  rw [agrees_disk h hf.ok]
  exact and_congr_right (fun ha => by rw [cfgBase_keep (hc a ha)])

/-- **one layerconfig changed**: `fs'` agrees with `fs` on the relevant paths except at the
    layerconfig of `n`, where the base line is now `v` (`none`: nothing readable); the table
    `L'` is a table that agreed with `fs`, changed at `n` in the same way -/
theorem diskForest_of_update {cfg : Config} {ds : List Bytes} (h : LD cfg ds) {fs fs' : Tree} {L L' : List Layer}
    (hok : DiskOK cfg fs) (hL : Agrees cfg fs L) (hT : TreeWF fs') (hd : Keep fs fs' cfg.layerdirs)
    {n : Bytes} (hn : LegalNE n) {v : Option Bytes} (hb : cfgBase cfg fs' n = v)
    (hnl : ∀ t, Fs.get fs' (cfgOf cfg n) ≠ some (.symlink t))
    (ho : ∀ a, LegalNE a → a ≠ n → Keep fs fs' (cfgOf cfg a)) (hchk : checkInheritance L' = true)
    (hL' : ∀ a b, (a, b) ∈ L'.map nb ↔ (a = n ∧ v = some b) ∨ (a ≠ n ∧ (a, b) ∈ L.map nb)) :
    DiskForest cfg fs' := by
  have hok' : DiskOK cfg fs' := diskOK_of_keep hok hT hd (fun a ha => by
    by_cases e : a = n
    · exact Or.inr (e ▸ hnl)
    · exact Or.inl (ho a ha e))
  refine diskForest_of_table h hok' L' hchk (fun a b => ?_)
  rw [hL']
  constructor
  · rintro (⟨rfl, hv⟩ | ⟨hne, hm⟩)
    · exact ⟨hn, hb.trans hv⟩
    · obtain ⟨ha, hb'⟩ := (hL a b).mp hm
      exact ⟨ha, (cfgBase_keep (ho a ha hne)).trans hb'⟩
  · rintro ⟨ha, hb'⟩
    by_cases e : a = n
    · exact Or.inl ⟨e, by rw [← hb, ← e]; exact hb'⟩
    · exact Or.inr ⟨e, (hL a b).mpr ⟨ha, (cfgBase_keep (ho a ha e)).symm.trans hb'⟩⟩

end Lc.DiskForest
