/-
  Pure lemmas about `Kernel.kumount` on the kernel mount-table model (helper lemmas for the
  end-state theorems of Props/C03):
  * `kumount_ok`        what a successful unmount does: the entry the lookup of the target ends
                        on (`Kernel.mountedAt`), which no entry has as its parent, is taken out;
                        with unique ids nothing else,
  * `kumountSeq`        a sequence of unmount calls that stops at the first failure,
  * `kumountSeq_spec`   the table reached is the initial one minus one entry per target done,
  * `kumountSeq_cleared` targets = the mountpoints of a region, all done ⇒ the region is empty
                        and everything outside it is as before, in the same order,
  * `KWF`               = `KernelResolve.Tree`, the tree discipline of a table (ids, parents), an
                        invariant of the kernel model (`KTWF_empty`, `kmount_KTWF`, `kumount_KTWF`);
                        `KernelProbe.KWF` is another predicate (every entry can be printed),
  * `Ext`               one byte string properly extends another (= `Props.C03.ProperExt`);
                        `KernelProbe.Ext` relates two tables instead,
  * `NoHidden`          (Lemmas/KernelResolve) nothing is covered; kept by `kumount`
                        (`kumount_noHidden`) and by a mount on a target below which nothing is
                        mounted (`addMount_noHidden`, `kmount_noHidden`),
  * `kumountSeq_succeeds` under `NoHidden`, targets = the mountpoints of the region at/below a
                        path, leaf-first ⇒ no call fails (no EBUSY, no EINVAL).
-/
import Lc.Model.Kernel
import Lc.Lemmas.KernelResolve

namespace Lc.KernelUmount
open Lc Lc.Kernel Lc.KernelResolve

/-! ### the region "at or below a path" as package manage sees it -/

/-- the filter of `getMountAndSubmounts`: `q` is `bp` or starts with `bp ++ "/"` -/
def atOrBelow (bp q : Bytes) : Bool := q == bp || hasPrefix q (bp ++ [47])

/-- `later` is a proper extension of `earlier` as a byte string -/
def Ext (earlier later : Bytes) : Prop := ∃ s, s ≠ [] ∧ later = earlier ++ s

/-- off the root the region test is the component-wise one (`bp = "/"` is the one degenerate
    case: there the region test looks for `"//"`) -/
theorem atOrBelow_eq_pathUnder {bp : Bytes} (hbp : bp ≠ [47]) (q : Bytes) : atOrBelow bp q = pathUnder bp q := by
  unfold atOrBelow pathUnder
  have : (bp == [47]) = false := by simpa using hbp
  rw [this]
  rfl

theorem ext_of_pathUnder {p q : Bytes} (hu : pathUnder p q = true) (hne : q ≠ p) : Ext p q := by
  obtain ⟨t, rfl, _⟩ := (pathUnder_iff_append p q).mp hu
  exact ⟨t, fun e => hne (by rw [e, List.append_nil]), rfl⟩

/-! ### `topmostAt` and `kumount` -/

theorem topmostAt_some {mnts : List KMnt} {p : Bytes} {m : KMnt} (h : topmostAt mnts p = some m) :
    ∃ a b, mnts = a ++ m :: b ∧ m.mp = p ∧ ∀ x ∈ b, x.mp ≠ p := by
  unfold topmostAt at h
  obtain ⟨hm, as, bs, he, hall⟩ := List.find?_eq_some_iff_append.mp h
  refine ⟨bs.reverse, as.reverse, ?_, by simpa using hm, ?_⟩
  · have := congrArg List.reverse he
    simpa using this
  · intro x hx
    have := hall x (List.mem_reverse.mp hx)
    simpa using this

theorem topmostAt_none {mnts : List KMnt} {p : Bytes} :
    topmostAt mnts p = none ↔ ∀ x ∈ mnts, x.mp ≠ p := by
  simp [topmostAt, List.find?_eq_none]

/-- taking out the entry with a given id, ids being unique, removes exactly that entry -/
theorem filter_id_ne {a b : List KMnt} {m : KMnt} (hn : ((a ++ m :: b).map (·.id)).Nodup) :
    (a ++ m :: b).filter (·.id != m.id) = a ++ b := by
  rw [List.map_append, List.map_cons] at hn
  have hn' := List.nodup_append.mp hn
  obtain ⟨_, h2, h3⟩ := hn'
  have h2' := List.nodup_cons.mp h2
  have ha : ∀ x ∈ a, (x.id != m.id) = true := by
    intro x hx
    have := h3 x.id (List.mem_map.mpr ⟨x, hx, rfl⟩) m.id (by simp)
    simpa using this
  have hb : ∀ x ∈ b, (x.id != m.id) = true := by
    intro x hx
    have : m.id ≠ x.id := fun e => h2'.1 (e ▸ List.mem_map.mpr ⟨x, hx, rfl⟩)
    simpa using fun e => this e.symm
  rw [List.filter_append, List.filter_cons]
  simp only [bne_self_eq_false, Bool.false_eq_true, if_false]
  rw [List.filter_eq_self.mpr ha, List.filter_eq_self.mpr hb]

/-- a successful `kumount`: the entry the lookup of the target ends on, no entry having it as
    parent; the new table is the old one without the entries of that id, counters untouched -/
theorem kumount_ok {t t' : KTable} {p : Bytes} (h : kumount t p = .ok t') :
    ∃ a m b, t.mnts = a ++ m :: b ∧ m.mp = p ∧ mountedAt t.mnts p = some m ∧
      (∀ c ∈ t.mnts, c.parent ≠ m.id) ∧
      t' = { t with mnts := t.mnts.filter (·.id != m.id) } := by
  unfold kumount at h
  split at h
  · cases h
  · rename_i m hm
    obtain ⟨_, hmem, hp⟩ := mountedAt_spec hm
    obtain ⟨a, b, he⟩ := List.append_of_mem hmem
    split at h
    · cases h
    · rename_i hany
      injection h with h
      refine ⟨a, m, b, he, hp, hm, ?_, h.symm⟩
      intro c hc hpar
      apply hany
      exact List.any_eq_true.mpr ⟨c, hc, by simpa using hpar⟩

/-- … with unique ids exactly that one entry goes -/
theorem kumount_ok_nodup {t t' : KTable} {p : Bytes} (h : kumount t p = .ok t')
    (hn : (t.mnts.map (·.id)).Nodup) :
    ∃ a m b, t.mnts = a ++ m :: b ∧ m.mp = p ∧ mountedAt t.mnts p = some m ∧
      (∀ c ∈ t.mnts, c.parent ≠ m.id) ∧ t' = { t with mnts := a ++ b } := by
  obtain ⟨a, m, b, he, hp, hb, hleaf, ht⟩ := kumount_ok h
  refine ⟨a, m, b, he, hp, hb, hleaf, ?_⟩
  rw [ht]
  congr 1
  rw [he] at hn ⊢
  exact filter_id_ne hn

/-- why an unmount fails: no lookup ends on a mount at that path (EINVAL: nothing is mounted
    there, or what is mounted there is hidden), or the mount found there is the parent of
    another mount (EBUSY) -/
theorem kumount_error {t : KTable} {p : Bytes} {e : KErr} (h : kumount t p = .error e) :
    (e = .einval ∧ mountedAt t.mnts p = none) ∨
    (e = .ebusy ∧ ∃ m, mountedAt t.mnts p = some m ∧ ∃ c ∈ t.mnts, c.parent = m.id) := by
  unfold kumount at h
  split at h
  · rename_i hn
    injection h with h
    exact .inl ⟨h.symm, hn⟩
  · rename_i m hm
    split at h
    · rename_i hany
      injection h with h
      obtain ⟨c, hc, hp⟩ := List.any_eq_true.mp hany
      exact .inr ⟨h.symm, m, hm, c, hc, by simpa using hp⟩
    · cases h

/-- on a table without hidden mounts EINVAL means that nothing is mounted there -/
theorem mountedAt_none_noHidden {mnts : List KMnt} (h : NoHidden mnts) {p : Bytes}
    (hn : mountedAt mnts p = none) : ∀ x ∈ mnts, x.mp ≠ p := by
  rw [mountedAt_eq_topmostAt h] at hn
  exact topmostAt_none.mp hn

/-! ### a sequence of unmount calls -/

/-- unmount the targets in order, stopping at the first failure:
    (targets done, table reached, the error that stopped it) -/
def kumountSeq (t : KTable) : List Bytes → List Bytes × KTable × Option KErr
  | [] => ([], t, none)
  | p :: ps =>
    match kumount t p with
    | .ok t' => let r := kumountSeq t' ps; (p :: r.1, r.2.1, r.2.2)
    | .error e => ([], t, some e)

/-- the targets done are an initial part of the list; all of it iff nothing failed, and
    otherwise the next target is the one the kernel refused in the table reached -/
theorem kumountSeq_prefix (t : KTable) (ts : List Bytes) :
    ∃ rest, ts = (kumountSeq t ts).1 ++ rest ∧
      ((kumountSeq t ts).2.2 = none → rest = []) ∧
      (∀ e, (kumountSeq t ts).2.2 = some e →
        ∃ p rest', rest = p :: rest' ∧ kumount (kumountSeq t ts).2.1 p = .error e) := by
  induction ts generalizing t with
  | nil => exact ⟨[], rfl, fun _ => rfl, fun e h => by simp [kumountSeq] at h⟩
  | cons p ps ih =>
    unfold kumountSeq
    cases hk : kumount t p with
    | error e =>
      refine ⟨p :: ps, rfl, fun h => by simp at h, ?_⟩
      intro e' he'
      simp only [Option.some.injEq] at he'
      subst he'
      exact ⟨p, ps, rfl, hk⟩
    | ok t' =>
      obtain ⟨rest, h1, h2, h3⟩ := ih t'
      exact ⟨rest, by simp only [List.cons_append]; rw [← h1], h2, h3⟩

/-- **what a sequence of unmounts leaves** (ids unique): the table reached is a sublist of
    the initial one — same order, nothing changed, nothing added —, its mountpoints together
    with the targets done are exactly the initial mountpoints (one entry went per target), and
    every entry outside a region that contains the targets done is still there -/
theorem kumountSeq_spec (t : KTable) (ts : List Bytes) (hn : (t.mnts.map (·.id)).Nodup) :
    (kumountSeq t ts).2.1.mnts.Sublist t.mnts ∧
    (t.mnts.map (·.mp)).Perm ((kumountSeq t ts).1 ++ (kumountSeq t ts).2.1.mnts.map (·.mp)) ∧
    (kumountSeq t ts).2.1.nextId = t.nextId ∧ (kumountSeq t ts).2.1.nextMinor = t.nextMinor ∧
    (∀ R : Bytes → Bool, (∀ p ∈ (kumountSeq t ts).1, R p = true) →
      (kumountSeq t ts).2.1.mnts.filter (fun m => !R m.mp) = t.mnts.filter (fun m => !R m.mp)) := by
  induction ts generalizing t with
  | nil => exact ⟨List.Sublist.refl _, by simp [kumountSeq], rfl, rfl, fun _ _ => rfl⟩
  | cons p ps ih =>
    unfold kumountSeq
    cases hk : kumount t p with
    | error e => exact ⟨List.Sublist.refl _, by simp, rfl, rfl, fun _ _ => rfl⟩
    | ok t' =>
      obtain ⟨a, m, b, he, hp, _, _, ht'⟩ := kumount_ok_nodup hk hn
      have hsub : t'.mnts.Sublist t.mnts := by
        rw [ht', he]
        exact List.Sublist.append (List.Sublist.refl a) (List.sublist_cons_self m b)
      have hn' : (t'.mnts.map (·.id)).Nodup := List.Nodup.sublist (hsub.map _) hn
      obtain ⟨i1, i2, i3, i4, i5⟩ := ih t' hn'
      refine ⟨i1.trans hsub, ?_, by rw [i3, ht'], by rw [i4, ht'], ?_⟩
      · have h0 : (t.mnts.map (·.mp)).Perm (p :: t'.mnts.map (·.mp)) := by
          rw [ht', he]
          simp only [List.map_append, List.map_cons, hp]
          exact List.perm_middle
        refine h0.trans ?_
        simp only [List.cons_append]
        exact List.Perm.cons p i2
      · intro R hR
        have hRp : R p = true := hR p (by simp)
        rw [i5 R (fun q hq => hR q (by simp [hq])), ht', he]
        simp only [List.filter_append, List.filter_cons, hp, hRp, Bool.not_true, Bool.false_eq_true,
          if_false]

/-- **the region is cleared**: when the targets are exactly the mountpoints of the entries
    of a region (as a multiset: stacked mounts count separately) and every call succeeded,
    the table reached is the initial one without the entries of the region — nothing of the
    region is left, everything else is there, unchanged and in the same order -/
theorem kumountSeq_cleared (t : KTable) (ts : List Bytes) (R : Bytes → Bool)
    (hn : (t.mnts.map (·.id)).Nodup)
    (hperm : ts.Perm ((t.mnts.filter (fun m => R m.mp)).map (·.mp)))
    (hok : (kumountSeq t ts).2.2 = none) :
    (kumountSeq t ts).2.1.mnts = t.mnts.filter (fun m => !R m.mp) := by
  obtain ⟨rest, hpre, hnone, _⟩ := kumountSeq_prefix t ts
  have hrest := hnone hok
  subst hrest
  rw [List.append_nil] at hpre
  obtain ⟨_, hp2, _, _, hfil⟩ := kumountSeq_spec t ts hn
  rw [← hpre] at hp2 hfil
  have hR : ∀ p ∈ ts, R p = true := by
    intro p hp
    have := hperm.mem_iff.mp hp
    obtain ⟨m, hm, rfl⟩ := List.mem_map.mp this
    simpa using (List.mem_filter.mp hm).2
  generalize (kumountSeq t ts).2.1.mnts = T at hp2 hfil ⊢
  -- count the entries of the region on both sides
  have hlen : ((t.mnts.map (·.mp)).filter R).length = ((ts ++ T.map (·.mp)).filter R).length :=
    (hp2.filter R).length_eq
  have h1 : (t.mnts.map (·.mp)).filter R = (t.mnts.filter (fun m => R m.mp)).map (·.mp) := by
    rw [List.filter_map]; rfl
  have h2 : ts.filter R = ts := List.filter_eq_self.mpr hR
  rw [h1, List.filter_append, h2, List.length_append, ← hperm.length_eq] at hlen
  have h3 : (T.map (·.mp)).filter R = [] := List.eq_nil_of_length_eq_zero (by omega)
  have h4 : T.filter (fun m => !R m.mp) = T := by
    apply List.filter_eq_self.mpr
    intro m hm
    have : m.mp ∉ (T.map (·.mp)).filter R := by rw [h3]; simp
    simp only [List.mem_filter, List.mem_map, not_and] at this
    have := this ⟨m, hm, rfl⟩
    simpa using this
  rw [← h4, hfil R hR]

/-! ### structural well-formedness of a table -/

/-- the tree discipline (`KernelResolve.Tree`): ids are unique; no entry is its own parent; an
    entry's parent is not listed after it; an entry lies at or below the mountpoint of its parent -/
abbrev KWF (mnts : List KMnt) : Prop := Tree mnts

theorem KWF.sublist {l l' : List KMnt} (hs : l'.Sublist l) (h : KWF l) : KWF l' where
  ids := List.Nodup.sublist (hs.map _) h.ids
  noSelf := fun c hc => h.noSelf c (hs.subset hc)
  under := fun c hc m hm => h.under c (hs.subset hc) m (hs.subset hm)
  parentFirst := List.Pairwise.sublist hs h.parentFirst

theorem kumount_sublist {t t' : KTable} {p : Bytes} (h : kumount t p = .ok t') :
    t'.mnts.Sublist t.mnts := by
  obtain ⟨_, _, _, _, _, _, _, ht⟩ := kumount_ok h
  rw [ht]
  exact List.filter_sublist

/-- taking a childless entry out keeps the strict tree discipline: the roots stay roots, since
    nothing hangs below the entry taken out -/
theorem _root_.Lc.TreeUmount.TreeS.remove_leaf {a b : List KMnt} {m : KMnt}
    (h : TreeUmount.TreeS (a ++ m :: b)) (hleaf : ∀ c ∈ a ++ m :: b, c.parent ≠ m.id) :
    TreeUmount.TreeS (a ++ b) := by
  have hs : (a ++ b).Sublist (a ++ m :: b) :=
    List.Sublist.append (List.Sublist.refl a) (List.sublist_cons_self m b)
  have hroot : ∀ z ∈ a ++ b, isRootIn (a ++ b) z = true → isRootIn (a ++ m :: b) z = true := by
    intro z hz hr
    cases hr2 : isRootIn (a ++ m :: b) z with
    | true => rfl
    | false =>
      exfalso
      obtain ⟨q, hq, hqid, hqne⟩ := isRootIn_false hr2
      have hqm : q = m ∨ q ∈ a ++ b := by
        rcases List.mem_append.mp hq with hq | hq
        · exact .inr (List.mem_append_left _ hq)
        · rcases List.mem_cons.mp hq with hq | hq
          · exact .inl hq
          · exact .inr (List.mem_append_right _ hq)
      rcases hqm with hqm | hqm
      · subst hqm
        exact hleaf z (hs.subset hz) hqid.symm
      · exact hqne (isRootIn_true hr q hqm hqid)
  exact { toTree := KWF.sublist hs h.toTree
          noTwins := fun x hx y hy => h.noTwins x (hs.subset hx) y (hs.subset hy)
          rootsApart := fun x hx y hy hne hrx hry =>
            h.rootsApart x (hs.subset hx) y (hs.subset hy) hne (hroot x hx hrx) (hroot y hy hry) }

theorem NoHidden.remove_leaf {a b : List KMnt} {m : KMnt} (h : NoHidden (a ++ m :: b))
    (hleaf : ∀ c ∈ a ++ m :: b, c.parent ≠ m.id) : NoHidden (a ++ b) := by
  obtain ⟨ht, hb⟩ := TreeUmount.noHidden_iff.mp h
  have hs : ∀ x ∈ a ++ b, x ∈ a ++ m :: b := fun x hx =>
    (List.Sublist.append (List.Sublist.refl a) (List.sublist_cons_self m b)).subset hx
  exact TreeUmount.noHidden_iff.mpr ⟨ht.remove_leaf hleaf, fun k hk x hx => hb k (hs k hk) x (hs x hx)⟩

/-- **`kumount` keeps a table free of hidden mounts** -/
theorem kumount_noHidden {t t' : KTable} {p : Bytes} (h : NoHidden t.mnts) (hk : kumount t p = .ok t') :
    NoHidden t'.mnts := by
  obtain ⟨a, m, b, he, _, _, hleaf, rfl⟩ := kumount_ok_nodup hk h.ids
  rw [he] at h hleaf
  exact NoHidden.remove_leaf h hleaf

/-- in a table without hidden mounts, unmounting a mountpoint below which nothing else is
    mounted succeeds -/
theorem kumount_leaf_ok (t : KTable) (p : Bytes) (hnh : NoHidden t.mnts) (hex : ∃ x ∈ t.mnts, x.mp = p)
    (hleaf : ∀ c ∈ t.mnts, pathUnder p c.mp = true → c.mp = p) : ∃ t', kumount t p = .ok t' := by
  obtain ⟨m, hm⟩ : ∃ m, topmostAt t.mnts p = some m := by
    cases ht : topmostAt t.mnts p with
    | some m => exact ⟨m, rfl⟩
    | none =>
      obtain ⟨x, hx, hp⟩ := hex
      exact absurd hp (topmostAt_none.mp ht x hx)
  obtain ⟨a, b, he, hp, hb⟩ := topmostAt_some hm
  unfold kumount
  rw [mountedAt_eq_topmostAt hnh, hm]
  have hmmem : m ∈ t.mnts := by rw [he]; simp
  have : t.mnts.any (fun c => c.parent == m.id) = false := by
    apply List.any_eq_false.mpr
    intro c hc hpar
    have hpar : c.parent = m.id := by simpa using hpar
    have hu := hnh.under c hc m hmmem hpar
    rw [hp] at hu
    have hcp := hleaf c hc hu
    -- c is stacked on m's mountpoint and, being a child of m, listed after it
    exact hb c (hnh.toTree.child_after he hc hpar) hcp
  simp [this]

/-- **no unmount of a leaf-first cover of a region fails**: no mount of the table hidden, the targets
    are exactly the mountpoints of the entries at or below `bp` (as a multiset), and no target
    properly extends an earlier one ⇒ every call succeeds -/
theorem kumountSeq_succeeds (bp : Bytes) (hbp : bp ≠ [47]) (ts : List Bytes) :
    ∀ (t : KTable), NoHidden t.mnts →
      ts.Perm ((t.mnts.filter (fun m => atOrBelow bp m.mp)).map (·.mp)) →
      ts.Pairwise (fun earlier later => ¬ Ext earlier later) →
      (kumountSeq t ts).2.2 = none := by
  induction ts with
  | nil => intro t _ _ _; rfl
  | cons p ps ih =>
    intro t hwf hperm hpw
    have hpmem : p ∈ (t.mnts.filter (fun m => atOrBelow bp m.mp)).map (·.mp) :=
      hperm.mem_iff.mp (by simp)
    obtain ⟨x, hx, hxp⟩ := List.mem_map.mp hpmem
    have hxmem := (List.mem_filter.mp hx).1
    have hRp : atOrBelow bp p = true := by rw [← hxp]; exact (List.mem_filter.mp hx).2
    have hleaf : ∀ c ∈ t.mnts, pathUnder p c.mp = true → c.mp = p := by
      intro c hc hu
      by_cases hcp : c.mp = p
      · exact hcp
      · exfalso
        have hRc : atOrBelow bp c.mp = true := by
          rw [atOrBelow_eq_pathUnder hbp] at hRp ⊢
          exact pathUnder_trans hRp hu
        have hext := ext_of_pathUnder hu hcp
        have hcm : c.mp ∈ p :: ps :=
          hperm.mem_iff.mpr (List.mem_map.mpr ⟨c, List.mem_filter.mpr ⟨hc, hRc⟩, rfl⟩)
        rcases List.mem_cons.mp hcm with h | h
        · exact hcp h
        · exact (List.pairwise_cons.mp hpw).1 c.mp h hext
    obtain ⟨t', ht'⟩ := kumount_leaf_ok t p hwf ⟨x, hxmem, hxp⟩ hleaf
    unfold kumountSeq
    rw [ht']
    show (kumountSeq t' ps).2.2 = none
    obtain ⟨a, m, b, he, hp, _, _, ht2⟩ := kumount_ok_nodup ht' hwf.ids
    apply ih t' (kumount_noHidden hwf ht') ?_ (List.pairwise_cons.mp hpw).2
    have h0 : (p :: ps).Perm (p :: (t'.mnts.filter (fun m => atOrBelow bp m.mp)).map (·.mp)) := by
      refine hperm.trans ?_
      rw [ht2, he]
      simp only [List.filter_append, List.filter_cons, hp, hRp, if_true, List.map_append, List.map_cons]
      exact List.perm_middle
    exact List.Perm.cons_inv h0

/-! ### `KWF` is an invariant of the kernel model -/

/-- well-formed table with its counters: ids and parent ids are below `nextId`, ids positive -/
structure KTWF (t : KTable) : Prop where
  wf : KWF t.mnts
  idLt : ∀ m ∈ t.mnts, 0 < m.id ∧ m.id < t.nextId
  parLt : ∀ m ∈ t.mnts, m.parent < t.nextId
  nextPos : 0 < t.nextId

theorem KTWF_empty : KTWF {} where
  wf := ⟨by simp, by simp, by simp, by simp⟩
  idLt := by simp
  parLt := by simp
  nextPos := by decide

/-- appending an entry with the next id whose parent is 0 or an entry containing it -/
theorem KTWF_snoc (t : KTable) (e : KMnt) (h : KTWF t) (hid : e.id = t.nextId)
    (hpar : e.parent = 0 ∨ ∃ p ∈ t.mnts, p.id = e.parent ∧ pathUnder p.mp e.mp = true) :
    KTWF { t with mnts := t.mnts ++ [e], nextId := t.nextId + 1 } := by
  have hpidLt : e.parent < t.nextId := by
    rcases hpar with h0 | ⟨p, hp, hpid, _⟩
    · rw [h0]; exact h.nextPos
    · rw [← hpid]; exact (h.idLt p hp).2
  have snoc : ∀ {x}, x ∈ t.mnts ++ [e] → x ∈ t.mnts ∨ x = e := fun hx => by simpa using hx
  refine ⟨⟨?_, ?_, ?_, ?_⟩, ?_, ?_, Nat.succ_pos _⟩
  · rw [List.map_append, List.nodup_append]
    refine ⟨h.wf.ids, by simp, ?_⟩
    intro a ha b hb
    obtain ⟨x, hx, rfl⟩ := List.mem_map.mp ha
    have hb : b = e.id := by simpa using hb
    have := (h.idLt x hx).2
    omega
  · show (t.mnts ++ [e]).Pairwise _
    rw [List.pairwise_append]
    refine ⟨h.wf.parentFirst, List.pairwise_singleton _ _, ?_⟩
    intro a ha b hb
    rw [List.mem_singleton.mp hb, hid]
    exact Nat.ne_of_lt (h.parLt a ha)
  · intro c hc
    rcases snoc hc with hc | rfl
    · exact h.wf.noSelf c hc
    · omega
  · -- an old entry does not hang below the new one; the new one hangs below `p` if below anything
    intro c hc x hx hcx
    rcases snoc hx with hx' | rfl
    · rcases snoc hc with hc' | rfl
      · exact h.wf.under c hc' x hx' hcx
      · rcases hpar with h0 | ⟨p, hp, hpid, hu⟩
        · have := (h.idLt x hx').1
          omega
        · rw [eq_of_id_eq h.wf.ids hx' hp (by rw [hpid]; exact hcx.symm)]
          exact hu
    · rcases snoc hc with hc' | rfl
      · have := h.parLt c hc'
        omega
      · omega
  · intro x hx
    show 0 < x.id ∧ x.id < t.nextId + 1
    rcases snoc hx with hx | rfl
    · have := h.idLt x hx
      omega
    · have := h.nextPos
      omega
  · intro x hx
    show x.parent < t.nextId + 1
    rcases snoc hx with hx | rfl
    · have := h.parLt x hx
      omega
    · omega

/-- the parent `addMount` assigns -/
def parentId (t : KTable) (mp : Bytes) : Nat :=
  match resolve t.mnts mp with
  | some p => p.id
  | none => 0

theorem addMount_eq (t : KTable) (m : KMnt) :
    addMount t m = { t with mnts := t.mnts ++ [{ m with id := t.nextId, parent := parentId t m.mp }],
                            nextId := t.nextId + 1 } := rfl

theorem addMount_KTWF (t : KTable) (m : KMnt) (h : KTWF t) : KTWF (addMount t m) := by
  rw [addMount_eq]
  apply KTWF_snoc t _ h rfl
  show parentId t m.mp = 0 ∨ ∃ p ∈ t.mnts, p.id = parentId t m.mp ∧ pathUnder p.mp m.mp = true
  unfold parentId
  cases hf : resolve t.mnts m.mp with
  | none => exact .inl rfl
  | some p =>
    obtain ⟨h1, h2⟩ := resolve_spec hf
    exact .inr ⟨p, h1, rfl, h2⟩

theorem KTWF_minor (t : KTable) (n : Nat) (h : KTWF t) : KTWF { t with nextMinor := n } :=
  ⟨h.wf, h.idLt, h.parLt, h.nextPos⟩

/-! ### what a successful `kmount` does -/

/-- the entry of a freshly created file system (the branches that are not a bind) -/
def freshMnt (t : KTable) (src tgt fstype : Bytes) (o : Mountinfo.OvlOpts) : KMnt :=
  { id := 0, parent := 0, dev := devOfMinor t.nextMinor, root := [47], mp := tgt,
    fstype := fstype, source := src, lower := o.lower, upper := o.upper, work := o.work }

/-- a successful `kmount` does nothing (remount / propagation change of a reachable mountpoint),
    or it attaches `root` on `tgt` and then, for a recursive bind, the copies of `subs` -/
theorem kmount_ok {t t' : KTable} {src tgt fstype : Bytes} {flags : Nat} {data : Bytes}
    (h : kmount t src tgt fstype flags data = .ok t') :
    ((hasFlag flags MS_REMOUNT || (flags / 131072) % 16 != 0) = true ∧ t' = t ∧
      ∃ m, mountedAt t.mnts tgt = some m) ∨
    ((hasFlag flags MS_REMOUNT || (flags / 131072) % 16 != 0) = false ∧
      ∃ (n : Nat) (root : KMnt) (subs : List KMnt), root.mp = tgt ∧
      t' = (subs.map fun c => { c with mp := joinRoot tgt (relTail src c.mp) }).foldl addMount
             (addMount { t with nextMinor := n } root) ∧
      ((hasFlag flags MS_BIND = true ∧ n = t.nextMinor ∧ ∃ m, resolve t.mnts src = some m ∧
          root = { m with root := joinRoot m.root (relTail m.mp src), mp := tgt } ∧
          subs = t.mnts.filter (fun c => hasFlag flags MS_REC &&
            (isBelow t.mnts m.id t.mnts.length c && pathUnder src c.mp && c.mp != src))) ∨
       (hasFlag flags MS_BIND = false ∧ subs = [] ∧
          ((n = t.nextMinor ∧
              ∃ p ∈ t.mnts, root = { p with root := [47], mp := tgt, source := src }) ∨
           (n = t.nextMinor + 1 ∧ root = freshMnt t src tgt fstype
              (if fstype == b!"overlay" then Mountinfo.parseOverlayOpts data else {})))))) := by
  unfold kmount at h
  split at h
  · rename_i hc
    split at h
    · cases h
    · cases h; exact .inl ⟨hc, rfl, _, ‹_›⟩
  · rename_i hc
    refine .inr ⟨by simpa using hc, ?_⟩
    split at h
    · rename_i hb
      split at h
      · cases h
      · rename_i m hm
        refine ⟨t.nextMinor, _, _, rfl, ?_, .inl ⟨hb, rfl, m, hm, rfl, rfl⟩⟩
        split at h
        · rename_i hr; cases h; simp only [hr, Bool.true_and]; rw [List.foldl_map]; rfl
        · rename_i hr
          cases h
          rw [List.filter_eq_nil_iff.mpr (by simp [hr])]
          rfl
    · rename_i hb
      have hb' : hasFlag flags MS_BIND = false := by simpa using hb
      split at h
      · rename_i ho
        cases h
        exact ⟨_, _, [], rfl, rfl, .inr ⟨hb', rfl, .inr ⟨rfl, by rw [if_pos ho]; rfl⟩⟩⟩
      · rename_i ho
        split at h
        · split at h
          · rename_i p hp
            cases h
            exact ⟨t.nextMinor, _, [], rfl, rfl,
              .inr ⟨hb', rfl, .inl ⟨rfl, p, List.mem_of_find?_eq_some hp, rfl⟩⟩⟩
          · cases h
            exact ⟨_, _, [], rfl, rfl, .inr ⟨hb', rfl, .inr ⟨rfl, by rw [if_neg ho]; rfl⟩⟩⟩
        · cases h
          exact ⟨_, _, [], rfl, rfl, .inr ⟨hb', rfl, .inr ⟨rfl, by rw [if_neg ho]; rfl⟩⟩⟩

theorem foldl_addMount_ind (P : KTable → Prop) : ∀ (ms : List KMnt) (t : KTable),
    (∀ t, ∀ m ∈ ms, P t → P (addMount t m)) → P t → P (ms.foldl addMount t)
  | [], _, _, h => h
  | m :: ms, t, hP, h => foldl_addMount_ind P ms _
      (fun t x hx => hP t x (List.mem_cons_of_mem _ hx)) (hP t m List.mem_cons_self h)

/-- every successful `kmount` keeps the table well-formed -/
theorem kmount_KTWF (t t' : KTable) (src tgt fstype : Bytes) (flags : Nat) (data : Bytes)
    (h : KTWF t) (hk : kmount t src tgt fstype flags data = .ok t') : KTWF t' := by
  rcases kmount_ok hk with ⟨_, rfl, _⟩ | ⟨_, n, root, subs, _, rfl, _⟩
  · exact h
  · exact foldl_addMount_ind KTWF _ _ (fun t m _ => addMount_KTWF t m)
      (addMount_KTWF _ _ (KTWF_minor t n h))

/-- every successful `kumount` keeps the table well-formed -/
theorem kumount_KTWF (t t' : KTable) (p : Bytes) (h : KTWF t) (hk : kumount t p = .ok t') : KTWF t' := by
  have hs := kumount_sublist hk
  obtain ⟨_, _, _, _, _, _, _, ht⟩ := kumount_ok hk
  refine ⟨h.wf.sublist hs, fun m hm => ?_, fun m hm => ?_, ?_⟩
  · have := h.idLt m (hs.subset hm); rw [ht]; exact this
  · have := h.parLt m (hs.subset hm); rw [ht]; exact this
  · rw [ht]; exact h.nextPos

/-! ### mounting where nothing is mounted below keeps the table free of hidden mounts -/

/-- nothing is mounted strictly below `q` (a mount exactly at `q` is allowed: the new mount is
    then stacked on it) -/
def NoneBelow (mnts : List KMnt) (q : Bytes) : Prop := ∀ x ∈ mnts, pathUnder q x.mp = true → x.mp = q

/-- no entry that would be a sibling of a mount on `q` contains `q`: the lookup of `q` ends on
    the parent chosen, so no child of that contains `q`; and when it finds nothing, no root does -/
theorem parentId_sibling {t : KTable} (h : KTWF t) {q : Bytes} {y : KMnt} (hy : y ∈ t.mnts)
    (hs : y.parent = parentId t q ∨
      ((∀ c ∈ t.mnts, c.id ≠ parentId t q) ∧ isRootIn t.mnts y = true)) :
    pathUnder y.mp q = false := by
  unfold parentId at hs
  cases hres : resolve t.mnts q with
  | some c0 =>
    simp only [hres] at hs
    rcases hs with hs | ⟨h1, _⟩
    · exact resolve_terminal h.wf hres y hy hs fun e => h.wf.noSelf y hy (hs.trans e.symm)
    · exact absurd rfl (h1 c0 (resolve_mem hres))
  | none =>
    simp only [hres] at hs
    apply resolve_none hres y hy
    rcases hs with hs | ⟨_, h2⟩
    · -- parent id 0, which no entry has
      exact isRootIn_iff.mpr fun r hr hrid => absurd (hrid.trans hs) (Nat.ne_of_gt (h.idLt r hr).1)
    · exact h2

/-- **`addMount` on a target below which nothing is mounted hides nothing** -/
theorem addMount_noHidden (t : KTable) (m : KMnt) (h : KTWF t) (hnh : NoHidden t.mnts)
    (hnb : NoneBelow t.mnts m.mp) : NoHidden (addMount t m).mnts := by
  have hk := addMount_KTWF t m h
  rw [addMount_eq] at hk ⊢
  refine { toTree := hk.wf, sib := ?_ }
  show ∀ a ∈ t.mnts ++ [_], ∀ b ∈ t.mnts ++ [_], _
  generalize hedef : ({ m with id := t.nextId, parent := parentId t m.mp } : KMnt) = e
  have heid : e.id = t.nextId := by rw [← hedef]
  have hemp : e.mp = m.mp := by rw [← hedef]
  have hepar : e.parent = parentId t m.mp := by rw [← hedef]
  have hold : ∀ x ∈ t.mnts, x.parent ≠ e.id := fun x hx => by
    have := h.parLt x hx
    omega
  -- an old sibling of the new entry does not contain the target
  have hnew : ∀ y ∈ t.mnts, Siblings (t.mnts ++ [e]) e y → pathUnder y.mp m.mp = false := by
    intro y hy hsib
    apply parentId_sibling h hy
    rcases hsib with hs | ⟨h1, h2⟩
    · exact .inl (by rw [← hs, hepar])
    · refine .inr ⟨fun c hc hcid => ?_, by rw [isRootIn_snoc (hold y hy)] at h2; exact h2⟩
      -- `e` is a root: an entry with the id of its parent would be `e`, whose id is new
      have := isRootIn_true h1 c (List.mem_append_left _ hc) (by rw [hcid, hepar])
      rw [heid] at this
      exact absurd this (Nat.ne_of_lt (h.idLt c hc).2)
  have snoc : ∀ {x}, x ∈ t.mnts ++ [e] → x ∈ t.mnts ∨ x = e := fun hx => by simpa using hx
  intro a ha b hb hne hsib
  rcases snoc ha with ha1 | rfl
  · rcases snoc hb with hb1 | rfl
    · refine hnh.sib a ha1 b hb1 hne (Or.imp id (fun ⟨h1, h2⟩ => ?_) hsib)
      rw [isRootIn_snoc (hold a ha1)] at h1
      rw [isRootIn_snoc (hold b hb1)] at h2
      exact ⟨h1, h2⟩
    · rw [hemp]
      exact hnew a ha1 hsib.symm
  · rcases snoc hb with hb1 | rfl
    · -- what lies at or below the target is mounted on it, and so would contain it
      cases hc : pathUnder a.mp b.mp with
      | false => rfl
      | true =>
        rw [hemp] at hc
        have := hnew b hb1 hsib
        rw [hnb b hb1 hc, pathUnder_refl] at this
        cases this
    · exact absurd rfl hne

theorem NoneBelow_minor (t : KTable) (n : Nat) (q : Bytes) (h : NoneBelow t.mnts q) :
    NoneBelow ({ t with nextMinor := n } : KTable).mnts q := h

/-- **a mount call that is not a recursive bind, on a target below which nothing is mounted,
    leaves no mount hidden** (layercake's own calls have such targets when the configured imports
    list a mountpoint before the mountpoints below it) -/
theorem kmount_noHidden (t t' : KTable) (src tgt fstype : Bytes) (flags : Nat) (data : Bytes)
    (h : KTWF t) (hnh : NoHidden t.mnts) (hnb : NoneBelow t.mnts tgt)
    (hrec : (hasFlag flags MS_BIND && hasFlag flags MS_REC) = false ∨
      (hasFlag flags MS_REMOUNT || (flags / 131072) % 16 != 0) = true)
    (hk : kmount t src tgt fstype flags data = .ok t') : NoHidden t'.mnts := by
  rcases kmount_ok hk with ⟨_, rfl, _⟩ | ⟨hs, n, root, subs, rfl, rfl, hc⟩
  · exact hnh
  · have hsubs : subs = [] := by
      rcases hc with ⟨hb, _, _, _, _, hsubs⟩ | ⟨_, hsubs, _⟩
      · rw [hs, hb] at hrec
        have hr : hasFlag flags MS_REC = false := by simpa using hrec
        simp [hsubs, hr]
      · exact hsubs
    rw [hsubs]
    exact addMount_noHidden _ _ (KTWF_minor t n h) hnh hnb

/-! ### recursive bind -/

/-- mountpoints are clean paths: "/" or not ending in a slash -/
def CleanMps (mnts : List KMnt) : Prop := ∀ x ∈ mnts, x.mp = [47] ∨ x.mp.getLast? ≠ some 47

theorem sl_of_long {p : Bytes} (h : 2 ≤ p.length) : sl p = p ++ [47] := by
  unfold sl
  have : (p == [47]) = false := by
    cases hp : p == [47] with
    | false => rfl
    | true => have := beq_iff_eq.mp hp; rw [this] at h; simp at h
  rw [this]; rfl

/-- where the copy of a mount strictly below the bind source goes: `src/r ↦ tgt/r` -/
theorem copy_mp {src tgt x : Bytes} (hsrc : src ≠ []) (hu : pathUnder src x = true) (hne : x ≠ src)
    (hcl : x = [47] ∨ x.getLast? ≠ some 47) :
    ∃ r, r ≠ [] ∧ x = sl src ++ r ∧ joinRoot tgt (relTail src x) = sl tgt ++ r := by
  rw [pathUnder_iff] at hu
  rcases hu with hu | ⟨r, hr⟩
  · exact absurd hu hne
  · have hrne : r ≠ [] := by
      intro e
      subst e
      rw [List.append_nil] at hr
      unfold sl at hr
      split at hr
      · rename_i h47
        exact hne (by rw [hr]; exact (beq_iff_eq.mp h47).symm)
      · rcases hcl with hcl | hcl
        · rw [hcl] at hr
          exact hsrc (List.self_eq_append_left.mp hr)
        · rw [hr] at hcl
          simp at hcl
    refine ⟨r, hrne, hr, ?_⟩
    have htail : relTail src x = 47 :: r := by
      unfold relTail
      by_cases h47 : src = [47]
      · subst h47
        have hs : sl [47] = [47] := rfl
        rw [hs] at hr
        have hx : (x == [47]) = false := by
          cases hxx : x == [47] with
          | false => rfl
          | true => exact absurd (beq_iff_eq.mp hxx) hne
        simp only [beq_self_eq_true, if_true, hx, Bool.false_eq_true, if_false]
        rw [hr]; rfl
      · have h47' : (src == [47]) = false := by simpa using h47
        simp only [h47', Bool.false_eq_true, if_false]
        have hs : sl src = src ++ [47] := by unfold sl; rw [h47']; rfl
        rw [hr, hs, List.append_assoc, List.drop_left]
        rfl
    rw [htail]
    unfold joinRoot sl
    by_cases ht : tgt = [47]
    · subst ht; simp
    · have ht' : (tgt == [47]) = false := by simpa using ht
      simp [ht']

/-- nesting of two copies reflects nesting of the originals -/
theorem copy_reflect {A B r1 r2 : Bytes} (hA : A ≠ []) (hB : B ≠ []) (h1 : r1 ≠ [])
    (h : pathUnder (A ++ r1) (A ++ r2) = true) : pathUnder (B ++ r1) (B ++ r2) = true := by
  have lenA : 2 ≤ (A ++ r1).length := by
    have := List.length_pos_iff.mpr hA
    have := List.length_pos_iff.mpr h1
    simp; omega
  have lenB : 2 ≤ (B ++ r1).length := by
    have := List.length_pos_iff.mpr hB
    have := List.length_pos_iff.mpr h1
    simp; omega
  rw [pathUnder_iff, sl_of_long lenA] at h
  rw [pathUnder_iff, sl_of_long lenB]
  rcases h with h | ⟨t, h⟩
  · left
    rw [List.append_cancel_left h]
  · right
    refine ⟨t, ?_⟩
    have : r2 = r1 ++ [47] ++ t := by
      apply List.append_cancel_left (as := A)
      rw [h]; simp [List.append_assoc]
    rw [this]; simp [List.append_assoc]

theorem sl_ne_nil' (p : Bytes) : sl p ≠ [] := sl_ne_nil p

/-- **a recursive bind on a target below which nothing is mounted hides nothing**: the copies of
    the mounts below the source are attached in table order, each on a place below which
    nothing is mounted yet (a copy made earlier never lies below a later one) -/
theorem rbind_noHidden (t : KTable) (root : KMnt) (src tgt : Bytes) (P : KMnt → Bool)
    (h : KTWF t) (hnh : NoHidden t.mnts) (hnb : NoneBelow t.mnts tgt) (hcl : CleanMps t.mnts)
    (hsrc : src ≠ []) (hroot : root.mp = tgt)
    (hP : ∀ c, P c = true → pathUnder src c.mp = true ∧ c.mp ≠ src) :
    NoHidden ((t.mnts.filter P).foldl (fun acc c =>
      addMount acc { c with mp := joinRoot tgt (relTail src c.mp) }) (addMount t root)).mnts := by
  let J := fun (x : Bytes) => joinRoot tgt (relTail src x)
  -- state of the fold after the entries `pre` of the table: what lies at or below the target is
  -- mounted on the target itself or is a copy made so far
  have key : ∀ (post pre : List KMnt) (acc : KTable), t.mnts = pre ++ post →
      KTWF acc → NoHidden acc.mnts →
      (∀ x ∈ acc.mnts, pathUnder tgt x.mp = true → x.mp = tgt ∨ ∃ d ∈ pre, P d = true ∧ x.mp = J d.mp) →
      NoHidden ((post.filter P).foldl (fun acc c =>
        addMount acc { c with mp := joinRoot tgt (relTail src c.mp) }) acc).mnts := by
    intro post
    induction post with
    | nil => intro pre acc _ _ hn _; exact hn
    | cons c post' ih =>
      intro pre acc he hk hn hsrcs
      have hmono : ∀ x ∈ acc.mnts, pathUnder tgt x.mp = true → x.mp = tgt ∨
          ∃ d ∈ pre ++ [c], P d = true ∧ x.mp = J d.mp := fun x hx hu =>
        (hsrcs x hx hu).imp id fun ⟨d, hd, h⟩ => ⟨d, List.mem_append_left _ hd, h⟩
      by_cases hPc : P c = true
      · rw [List.filter_cons, if_pos hPc, List.foldl_cons]
        have hcm : c ∈ t.mnts := by rw [he]; simp
        obtain ⟨hcu, hcne⟩ := hP c hPc
        obtain ⟨rc, hrc, hxc, hJc⟩ := copy_mp (tgt := tgt) hsrc hcu hcne (hcl c hcm)
        have hJt : pathUnder tgt (J c.mp) = true := by
          show pathUnder tgt (joinRoot tgt (relTail src c.mp)) = true
          rw [hJc]; exact (pathUnder_iff _ _).mpr (.inr ⟨rc, rfl⟩)
        -- nothing is mounted strictly below the place of the copy
        have hnbc : NoneBelow acc.mnts (J c.mp) := by
          intro x hx hux
          rcases hsrcs x hx (pathUnder_trans hJt hux) with hxt | ⟨d, hd, hPd, hxd⟩
          · rw [hxt] at hux ⊢
            exact pathUnder_antisymm hJt hux
          · -- an earlier copy: the original lies at/below c and is listed before it
            have hdm : d ∈ t.mnts := by rw [he]; simp [hd]
            obtain ⟨hdu, hdne⟩ := hP d hPd
            obtain ⟨rd, _, hxd', hJd⟩ := copy_mp (tgt := tgt) hsrc hdu hdne (hcl d hdm)
            rw [hxd] at hux ⊢
            have hcd : pathUnder c.mp d.mp = true := by
              rw [hxc, hxd']
              apply copy_reflect (sl_ne_nil tgt) (sl_ne_nil src) hrc
              rw [← hJc, ← hJd]
              exact hux
            obtain ⟨a, b', hsplit⟩ := List.append_of_mem hd
            have he2 : t.mnts = a ++ d :: (b' ++ c :: post') := by rw [he, hsplit]; simp
            exact congrArg J (earlier_below_eq hnh he2 (by simp) hcd)
        have hk' := addMount_KTWF acc { c with mp := J c.mp } hk
        have hn' := addMount_noHidden acc { c with mp := J c.mp } hk hn hnbc
        apply ih (pre ++ [c]) _ (by rw [he]; simp) hk' hn'
        intro x hx hu
        rw [addMount_eq] at hx
        rcases List.mem_append.mp hx with hx | hx
        · exact hmono x hx hu
        · exact .inr ⟨c, by simp, hPc, by rw [List.mem_singleton.mp hx]⟩
      · rw [List.filter_cons, if_neg hPc]
        exact ih (pre ++ [c]) acc (by rw [he]; simp) hk hn hmono
  apply key t.mnts [] (addMount t root) rfl (addMount_KTWF t root h)
    (addMount_noHidden t root h hnh (by rw [hroot]; exact hnb))
  intro x hx hu
  rw [addMount_eq] at hx
  rcases List.mem_append.mp hx with hx | hx
  · exact .inl (hnb x hx hu)
  · exact .inl (by rw [List.mem_singleton.mp hx]; exact hroot)

/-- **every successful `kmount` on a target below which nothing is mounted leaves no mount
    hidden** (recursive binds included; clean mountpoints, a non-empty source path) -/
theorem kmount_noHidden_all (t t' : KTable) (src tgt fstype : Bytes) (flags : Nat) (data : Bytes)
    (h : KTWF t) (hnh : NoHidden t.mnts) (hnb : NoneBelow t.mnts tgt) (hcl : CleanMps t.mnts)
    (hsrc : src ≠ []) (hk : kmount t src tgt fstype flags data = .ok t') : NoHidden t'.mnts := by
  by_cases hrec : (hasFlag flags MS_BIND && hasFlag flags MS_REC) = false ∨
      (hasFlag flags MS_REMOUNT || (flags / 131072) % 16 != 0) = true
  · exact kmount_noHidden t t' src tgt fstype flags data h hnh hnb hrec hk
  · rcases kmount_ok hk with ⟨hs, _⟩ | ⟨_, n, root, subs, hroot, rfl, hc⟩
    · exact absurd (.inr hs) hrec
    · rcases hc with ⟨hb, rfl, m, _, _, rfl⟩ | ⟨hb, _⟩
      · rw [List.foldl_map]
        exact rbind_noHidden t root src tgt _ h hnh hnb hcl hsrc hroot (fun c hc => by
          simp only [Bool.and_eq_true, bne_iff_ne, ne_eq] at hc
          exact ⟨hc.2.1.2, hc.2.2⟩)
      · exact absurd (.inl (by rw [hb, Bool.false_and])) hrec

/-- a remount or propagation change returns the table as it is -/
theorem kmount_nonstructural_eq {t t' : KTable} {src tgt fstype : Bytes} {flags : Nat} {data : Bytes}
    (hs : (hasFlag flags MS_REMOUNT || (flags / 131072) % 16 != 0) = true)
    (h : kmount t src tgt fstype flags data = .ok t') : t' = t := by
  rcases kmount_ok h with ⟨_, h, _⟩ | ⟨hs', _⟩
  · exact h
  · rw [hs] at hs'; cases hs'

/-! ### on tables without hidden mounts `kumount` and `addMount` read the table flat -/

/-- the flat model of umount(2): the last entry with that mountpoint -/
def kumountFlat (t : KTable) (tgt : Bytes) : Except KErr KTable :=
  match topmostAt t.mnts tgt with
  | none => .error .einval
  | some m =>
    if t.mnts.any (·.parent == m.id) then .error .ebusy
    else .ok { t with mnts := t.mnts.filter (·.id != m.id) }

/-- the flat choice of a parent: the longest mountpoint containing the path, last among equals -/
def addMountFlat (t : KTable) (m : KMnt) : KTable :=
  let parent := match findContaining t.mnts m.mp with
    | some p => p.id
    | none => 0
  { t with mnts := t.mnts ++ [{ m with id := t.nextId, parent := parent }], nextId := t.nextId + 1 }

/-- **on a table without hidden mounts `kumount` is the flat model** -/
theorem kumount_eq_flat {t : KTable} (h : NoHidden t.mnts) (p : Bytes) : kumount t p = kumountFlat t p := by
  unfold kumount kumountFlat
  rw [mountedAt_eq_topmostAt h]
  rfl

/-- **… and so is the parent `addMount` assigns**, and the source mount of a bind -/
theorem addMount_eq_flat {t : KTable} (h : NoHidden t.mnts) (m : KMnt) : addMount t m = addMountFlat t m := by
  unfold addMount addMountFlat
  rw [resolve_eq_findContaining h]
  rfl

end Lc.KernelUmount
