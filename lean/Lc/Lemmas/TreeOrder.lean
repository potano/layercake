/-
  `GetMountAndSubmounts` after fix e546b99 (Model: `Mountinfo.covers`, `hasCoveredMount`,
  `inTreeOrder`; `Layers.getMountAndSubmounts`): the path-sorted list of the mounts at/below a
  path, re-ordered along the mount tree exactly when a listed mount covers a listed sibling.
  * `inTreeOrder_perm`, `getMountAndSubmounts_perm_sorted`/`_perm_region`,
    `mem_getMountAndSubmounts`: in every case a permutation of the mounts at/below the path;
  * `getMountAndSubmounts_noCovered`: when nothing is covered it is the path-sorted list;
  * `foldl_insertTree_inv`: the loop carries an invariant of (input processed, list placed);
    `Placed`, `inTreeOrder_parent_first`: no mount is listed before the mount it hangs below;
  * `inTreeOrder_covered_first`: a covered mount is listed before the mount that covers it.
-/
import Lc.Model.Layers
import Lc.Lemmas.SortBy

namespace Lc.TreeOrder
open Lc Lc.Layers Lc.Mountinfo Lc.SortByAux

/-- the mounts at or below `path` as the table lists them -/
def regionOf (m : Mounts) (path : Bytes) : List MountType :=
  m.list.filter fun x => x.mountpoint == path || hasPrefix x.mountpoint (path ++ [47])

/-- … sorted by mountpoint -/
def sortedRegion (m : Mounts) (path : Bytes) : List MountType :=
  sortBy (fun a b => bytesLt a.mountpoint b.mountpoint) (regionOf m path).reverse

theorem getMountAndSubmounts_eq (m : Mounts) (path : Bytes) :
    getMountAndSubmounts m path =
      if hasCoveredMount (sortedRegion m path) then inTreeOrder (sortedRegion m path) else sortedRegion m path := rfl

/-! ### one insertion -/

theorem mem_takeWhile_imp {α} {p : α → Bool} {l : List α} {x : α} (h : x ∈ l.takeWhile p) : p x = true :=
  List.all_eq_true.mp List.all_takeWhile x h

theorem dropWhile_head_not {α} {p : α → Bool} {l : List α} {y : α} {ys : List α}
    (h : l.dropWhile p = y :: ys) : p y = false := by
  have := List.head?_dropWhile_not p l
  rw [h] at this
  exact this

theorem dropWhile_nil_all {α} {p : α → Bool} {l : List α} (h : l.dropWhile p = []) : ∀ x ∈ l, p x = true := by
  have := List.any_dropWhile (p := p) (l := l)
  rw [h] at this
  simpa using this

theorem placeBelow_parts (out : List (MountType × Nat)) (m : MountType) :
    (placeBelow out m).2.1 ++ (placeBelow out m).2.2 = out := by
  unfold placeBelow
  cases hp : out.dropWhile (fun (p : MountType × Nat) => !(p.1.id == m.parent)) with
  | nil => exact List.append_nil _
  | cons par after =>
    simp only [List.append_assoc, List.cons_append, List.takeWhile_append_dropWhile]
    rw [← hp, List.takeWhile_append_dropWhile]

/-- what one round does: `m` is put between two parts `A`, `B` of the list placed so far, and
    nothing in `A` covers it — in front of the first placed mount that covers it; otherwise
    behind the first placed mount with its parent id and the run of deeper entries that follows
    it; otherwise at the end -/
theorem insertTree_cases (out : List (MountType × Nat)) (m : MountType) :
    ∃ A B, out = A ++ B ∧ insertTree out m = A ++ (m, (placeBelow out m).1) :: B ∧
      (∀ x ∈ A, covers x.1 m = false) ∧
      ((∃ a back, B = a :: back ∧ covers a.1 m = true) ∨
       (∃ before par blk, A = before ++ par :: blk ∧ par.1.id = m.parent ∧ ∀ q ∈ blk, q.2 > par.2) ∨
       ((∀ x ∈ out, x.1.id ≠ m.parent) ∧ B = [])) := by
  unfold insertTree
  cases hc : out.dropWhile (fun (a : MountType × Nat) => !(covers a.1 m)) with
  | cons a back =>
    exact ⟨_, a :: back, by rw [← hc, List.takeWhile_append_dropWhile], rfl,
      fun x hx => by simpa using mem_takeWhile_imp hx,
      .inl ⟨a, back, rfl, by simpa using dropWhile_head_not hc⟩⟩
  | nil =>
    refine ⟨_, _, (placeBelow_parts out m).symm, rfl,
      fun x hx => by simpa using dropWhile_nil_all hc x (placeBelow_parts out m ▸ List.mem_append_left _ hx),
      .inr ?_⟩
    unfold placeBelow
    cases hp : out.dropWhile (fun (p : MountType × Nat) => !(p.1.id == m.parent)) with
    | cons par after =>
      exact .inl ⟨_, par, _, rfl, by simpa using dropWhile_head_not hp,
        fun q hq => by simpa using mem_takeWhile_imp hq⟩
    | nil => exact .inr ⟨fun x hx => by simpa using dropWhile_nil_all hp x hx, rfl⟩

theorem mem_insertTree (out : List (MountType × Nat)) (m : MountType) (e : MountType × Nat) :
    e ∈ insertTree out m ↔ e = (m, (placeBelow out m).1) ∨ e ∈ out := by
  obtain ⟨A, B, he, hi, _⟩ := insertTree_cases out m
  rw [hi, he, List.mem_append, List.mem_cons, List.mem_append, or_left_comm]

theorem insertTree_perm (out : List (MountType × Nat)) (m : MountType) :
    ((insertTree out m).map (·.1)).Perm (m :: out.map (·.1)) := by
  obtain ⟨A, B, he, hi, _⟩ := insertTree_cases out m
  rw [hi, he]
  simp only [List.map_append, List.map_cons]
  exact List.perm_middle

theorem insertTree_sublist (out : List (MountType × Nat)) (m : MountType) :
    (out.map (·.1)).Sublist ((insertTree out m).map (·.1)) := by
  obtain ⟨A, B, he, hi, _⟩ := insertTree_cases out m
  rw [hi, he]
  simp only [List.map_append, List.map_cons]
  exact List.Sublist.append (List.Sublist.refl _) (List.sublist_cons_self _ _)

theorem foldl_insertTree_perm (l : List MountType) : ∀ (out : List (MountType × Nat)),
    ((l.foldl insertTree out).map (·.1)).Perm (out.map (·.1) ++ l) := by
  induction l with
  | nil => intro out; simp
  | cons x xs ih =>
    intro out
    rw [List.foldl_cons]
    refine (ih _).trans ?_
    refine ((insertTree_perm out x).append_right xs).trans ?_
    simp only [List.cons_append]
    exact List.perm_middle.symm

/-- the tree order is a permutation -/
theorem inTreeOrder_perm (l : List MountType) : (inTreeOrder l).Perm l := by
  have := foldl_insertTree_perm l []
  simpa [inTreeOrder] using this

/-- **in every case a permutation of the path-sorted list** -/
theorem getMountAndSubmounts_perm_sorted (m : Mounts) (path : Bytes) :
    (getMountAndSubmounts m path).Perm (sortedRegion m path) := by
  rw [getMountAndSubmounts_eq]
  split
  · exact inTreeOrder_perm _
  · exact List.Perm.refl _

theorem getMountAndSubmounts_perm_region (m : Mounts) (path : Bytes) :
    (getMountAndSubmounts m path).Perm (regionOf m path) :=
  ((getMountAndSubmounts_perm_sorted m path).trans (sortBy_perm _ _)).trans (List.reverse_perm _)

theorem mem_getMountAndSubmounts (m : Mounts) (path : Bytes) (x : MountType) :
    x ∈ getMountAndSubmounts m path ↔
      x ∈ m.list ∧ (x.mountpoint = path ∨ hasPrefix x.mountpoint (path ++ [47]) = true) := by
  rw [(getMountAndSubmounts_perm_region m path).mem_iff]
  unfold regionOf
  simp [List.mem_filter]

/-! ### the tree order: parents first, covered mounts before the covering one -/

theorem pairwise_insert {α} {R : α → α → Prop} {A B : List α} {m : α} (h : (A ++ B).Pairwise R)
    (hA : ∀ x ∈ A, R x m) (hB : ∀ y ∈ B, R m y) : (A ++ m :: B).Pairwise R := by
  rw [List.pairwise_append] at h ⊢
  refine ⟨h.1, List.pairwise_cons.mpr ⟨hB, h.2.1⟩, ?_⟩
  intro x hx y hy
  rcases List.mem_cons.mp hy with hy | hy
  · rw [hy]; exact hA x hx
  · exact h.2.2 x hx y hy

theorem covers_iff {a b : MountType} : covers a b = true ↔
    a.id ≠ [] ∧ a.id ≠ b.id ∧ a.parent ≠ [] ∧ a.parent = b.parent ∧
      ∃ t, b.mountpoint = a.mountpoint ++ 47 :: t := by
  unfold covers
  simp only [Bool.and_eq_true, decide_eq_true_eq, bne_iff_ne, ne_eq, beq_iff_eq,
    List.length_pos_iff, hasPrefix_iff, and_assoc, List.append_assoc,
    List.singleton_append]

theorem covers_parent {a b : MountType} (h : covers a b = true) : a.parent = b.parent :=
  (covers_iff.mp h).2.2.2.1

theorem covers_ne_id {a b : MountType} (h : covers a b = true) : a.id ≠ b.id :=
  (covers_iff.mp h).2.1

theorem covers_lt {a b : MountType} (h : covers a b = true) : bytesLt a.mountpoint b.mountpoint = true := by
  obtain ⟨t, ht⟩ := (covers_iff.mp h).2.2.2.2
  rw [ht]
  exact prefix_lt _ _ (by simp)

/-- nothing listed after an entry is the mount it hangs below -/
def PF (out : List (MountType × Nat)) : Prop := out.Pairwise (fun x y => y.1.id ≠ x.1.parent)

theorem insertTree_PF (out : List (MountType × Nat)) (m : MountType) (hinv : PF out)
    (hnd : (out.map (·.1.id)).Nodup) (hns : ∀ x ∈ out, x.1.id ≠ x.1.parent)
    (hbefore : ∀ x ∈ out, m.id ≠ x.1.parent) : PF (insertTree out m) := by
  unfold PF at *
  obtain ⟨A, B, he, hi, _, hcase⟩ := insertTree_cases out m
  rw [hi]
  rw [he] at hinv hns hbefore hnd
  apply pairwise_insert hinv (fun x hx => hbefore x (List.mem_append_left _ hx))
  intro y hy
  rcases hcase with ⟨a, back, hB, hca⟩ | ⟨before, par, blk, hA, hpar, _⟩ | ⟨_, hB⟩
  · -- the covering mount hangs below the same mount; that mount is listed before it
    rw [hB] at hy hns hinv
    rw [← covers_parent hca]
    rcases List.mem_cons.mp hy with hy | hy
    · rw [hy]; exact hns a (by simp)
    · exact (List.pairwise_cons.mp (List.pairwise_append.mp hinv).2.1).1 y hy
  · -- two entries with the id of the parent
    intro heq
    rw [List.map_append] at hnd
    refine (List.nodup_append.mp hnd).2.2 _ (List.mem_map.mpr ⟨par, ?_, rfl⟩) _ (List.mem_map.mpr ⟨y, hy, rfl⟩)
      (by rw [hpar, heq])
    rw [hA]
    simp
  · rw [hB] at hy
    cases hy

/-- the loop seen from the input `l`: an invariant of the list placed so far and the part `pre`
    of the input it was made from, kept by every round, holds of the whole at the end -/
theorem foldl_insertTree_inv {l : List MountType} (I : List MountType → List (MountType × Nat) → Prop)
    (step : ∀ pre m rest out, l = pre ++ m :: rest → I pre out → I (pre ++ [m]) (insertTree out m)) :
    ∀ (rest pre : List MountType) (out : List (MountType × Nat)), l = pre ++ rest → I pre out →
      I l (rest.foldl insertTree out) := by
  intro rest
  induction rest with
  | nil => intro pre out hl hi; rw [hl, List.append_nil]; exact hi
  | cons m rest' ih =>
    intro pre out hl hi
    exact ih (pre ++ [m]) _ (by rw [hl]; simp) (step pre m rest' out hl hi)

/-- the list placed so far holds the entries `pre` of the input, none before the mount it hangs below -/
structure Placed (pre : List MountType) (out : List (MountType × Nat)) : Prop where
  perm : (out.map (·.1)).Perm pre
  pf : PF out

theorem Placed.mem_pre {pre : List MountType} {out : List (MountType × Nat)} (h : Placed pre out)
    {e : MountType × Nat} (he : e ∈ out) : e.1 ∈ pre :=
  h.perm.mem_iff.mp (List.mem_map.mpr ⟨e, he, rfl⟩)

theorem Placed.nodup_ids {l pre rest : List MountType} {out : List (MountType × Nat)} (h : Placed pre out)
    (hl : l = pre ++ rest) (hnd : (l.map (·.id)).Nodup) : (out.map (·.1.id)).Nodup := by
  have h1 : (out.map (·.1.id)) = (out.map (·.1)).map (·.id) := by rw [List.map_map]; rfl
  rw [h1]
  apply (h.perm.map _).nodup_iff.mpr
  rw [hl, List.map_append] at hnd
  exact (List.nodup_append.mp hnd).1

theorem insertTree_placed {l pre rest : List MountType} {m : MountType} {out : List (MountType × Nat)}
    (hl : l = pre ++ m :: rest) (hnd : (l.map (·.id)).Nodup) (hns : ∀ x ∈ l, x.id ≠ x.parent)
    (hpf : l.Pairwise (fun x y => y.id ≠ x.parent)) (h : Placed pre out) :
    Placed (pre ++ [m]) (insertTree out m) := by
  refine ⟨((insertTree_perm out m).trans (List.Perm.cons m h.perm)).trans
    (List.perm_append_singleton m pre).symm, ?_⟩
  rw [hl, List.pairwise_append] at hpf
  exact insertTree_PF out m h.pf (h.nodup_ids hl hnd)
    (fun e he => hns e.1 (by rw [hl]; exact List.mem_append_left _ (h.mem_pre he)))
    (fun e he => hpf.2.2 e.1 (h.mem_pre he) m List.mem_cons_self)

/-- **every mount precedes the mounts hanging below it**: if in the (path-sorted) list nothing
    is listed before the mount it hangs below, ids are unique and nobody is its own parent,
    the same holds of the tree order -/
theorem inTreeOrder_parent_first (l : List MountType) (hnd : (l.map (·.id)).Nodup)
    (hns : ∀ x ∈ l, x.id ≠ x.parent) (hl : l.Pairwise (fun x y => y.id ≠ x.parent)) :
    (inTreeOrder l).Pairwise (fun x y => y.id ≠ x.parent) := by
  have h := foldl_insertTree_inv Placed (fun _ _ _ _ he => insertTree_placed he hnd hns hl)
    l [] [] rfl ⟨List.Perm.refl _, List.Pairwise.nil⟩
  unfold inTreeOrder
  rw [List.pairwise_map]
  exact h.pf

theorem foldl_insertTree_sublist (l : List MountType) : ∀ (out : List (MountType × Nat)),
    (out.map (·.1)).Sublist ((l.foldl insertTree out).map (·.1)) := by
  induction l with
  | nil => intro out; exact List.Sublist.refl _
  | cons m rest ih =>
    intro out
    rw [List.foldl_cons]
    exact (insertTree_sublist out m).trans (ih _)

/-- **a covered mount is listed before the mount that covers it** (so it is unmounted after it) -/
theorem inTreeOrder_covered_first (pre rest : List MountType) (a b : MountType) (ha : a ∈ pre)
    (hc : covers a b = true) : [b, a].Sublist (inTreeOrder (pre ++ b :: rest)) := by
  unfold inTreeOrder
  rw [List.foldl_append, List.foldl_cons]
  refine List.Sublist.trans ?_ (foldl_insertTree_sublist rest _)
  have hmem : a ∈ (pre.foldl insertTree []).map (·.1) := by
    have := (foldl_insertTree_perm pre []).mem_iff (a := a)
    simpa using this.mpr (by simpa using ha)
  obtain ⟨xa, hxa, hxa1⟩ := List.mem_map.mp hmem
  obtain ⟨A, B, he, hi, hA, _⟩ := insertTree_cases (pre.foldl insertTree []) b
  rw [hi]
  rw [he] at hxa
  have hxa' : xa ∈ B := by
    rcases List.mem_append.mp hxa with h | h
    · have := hA xa h
      rw [hxa1, hc] at this; cases this
    · exact h
  simp only [List.map_append, List.map_cons]
  apply List.Sublist.trans _ (List.sublist_append_right _ _)
  apply List.Sublist.cons_cons
  exact List.singleton_sublist.mpr (List.mem_map.mpr ⟨xa, hxa', hxa1⟩)

/-- no listed mount covers a listed sibling -/
def NoCovered (m : Mounts) (path : Bytes) : Prop :=
  ∀ a ∈ regionOf m path, ∀ b ∈ regionOf m path, covers a b = false

theorem hasCoveredMount_false {l : List MountType} (h : ∀ a ∈ l, ∀ b ∈ l, covers a b = false) :
    hasCoveredMount l = false := by
  unfold hasCoveredMount
  apply List.any_eq_false.mpr
  intro a ha
  simp only [Bool.not_eq_true]
  apply List.any_eq_false.mpr
  intro b hb
  simp [h a ha b hb]

/-- **when nothing is covered the list is the path-sorted one** (what `GetMountAndSubmounts`
    returned in every case before fix e546b99) -/
theorem getMountAndSubmounts_noCovered (m : Mounts) (path : Bytes) (h : NoCovered m path) :
    getMountAndSubmounts m path = sortedRegion m path := by
  rw [getMountAndSubmounts_eq]
  have : hasCoveredMount (sortedRegion m path) = false := by
    apply hasCoveredMount_false
    intro a ha b hb
    unfold sortedRegion at ha hb
    exact h a (List.mem_reverse.mp ((mem_sortBy _ _ a).mp ha)) b (List.mem_reverse.mp ((mem_sortBy _ _ b).mp hb))
  rw [this]
  rfl

/-- tables whose entries carry no ids (hand-made `Mounts` values) are never re-ordered -/
theorem noCovered_of_no_ids (m : Mounts) (path : Bytes) (h : ∀ x ∈ m.list, x.id = []) : NoCovered m path := by
  intro a ha b _
  unfold covers
  have : a.id = [] := h a (List.mem_filter.mp ha).1
  simp [this]

end Lc.TreeOrder
