/-
  Helper lemmas for Props/C06Links: the loop of `ultimateSymlinkTarget` (`chainLoop`) against
  the relation "following k links from here ends at t" (`Chain`), and the walk of
  `addMissingLinks` (`walkDir`/`walkEntries`) against the set of entries it visits (`Reach`).
  Core Lean only.
-/
import Lc.Lemmas.StageClosed
import Lc.Lemmas.DiskView
import Lc.Model.StageLinks
import Lc.Base.Utf8

namespace Lc.Stage
open Lc Lc.Lemmas.Path Lc.ExportPath Lc.InLayers
open Lc.TreeWF (CleanAbs cleanAbs_absPath absPath_snoc_eq pfx)

/-! ### the constants -/

/-- the two lists of the model are the split `RecoverMissingLinks` makes of
    `strings.Fields(defaults.DoNotTraverse)` by `name[0] == '/'` -/
theorem nogo_split :
    nogoPaths = (fields doNotTraverse).filter (fun n => n.head? == some SLASH) ∧
    nogoNames = (fields doNotTraverse).filter (fun n => n.head? != some SLASH) := by
  decide +kernel

/-- no field is empty: `name[0]` does not panic -/
theorem nogo_fields_nonempty : ∀ n ∈ fields doNotTraverse, n ≠ [] := by decide +kernel

theorem readlinkAt_faults (env : Env) (p : Bytes) : (readlinkAt env p).FaultsIn (· = .err "stage") := by
  unfold readlinkAt
  cases env.fs p with
  | none => exact .err rfl
  | some st => exact ite_ind .ok (.err rfl)

theorem readlinkAt_ok {env : Env} {p t : Bytes} (h : readlinkAt env p = .ok t) :
    ∃ st, env.fs p = some st ∧ st.mode &&& S_IFMT = S_IFLNK ∧ st.link = t := by
  unfold readlinkAt at h
  cases hst : env.fs p with
  | none => rw [hst] at h; cases h
  | some st =>
    rw [hst] at h
    dsimp only at h
    by_cases hl : st.mode &&& S_IFMT = S_IFLNK
    · rw [if_pos hl] at h; exact ⟨st, rfl, hl, Except.ok.inj h⟩
    · rw [if_neg hl] at h; cases h

theorem readlinkAt_islink {env : Env} {p t : Bytes} (h : readlinkAt env p = .ok t) :
    isSymlinkAt env p = true := by
  obtain ⟨st, h1, h2, _⟩ := readlinkAt_ok h
  simp [isSymlinkAt, h1, h2]

/-- `addFiles` on a single resolved entry fails with an error return only (class "stage") -/
theorem addEntry_faults (env : Env) (m : EMap) (e : Entry) :
    (addEntry env m e).FaultsIn (· = .err "stage") := by
  unfold addEntry
  cases hs : addSingleFile env.fs env.rootDir e with
  | error f => exact (addSingleFile_faults _ _ _).pass hs
  | ok o => cases o <;> exact .ok

/-- a symbolic-link entry without `absent=skip` is stored whenever `addFiles` succeeds -/
theorem addEntry_symlink_mem {env : Env} {m m' : EMap} {n : Bytes}
    (h : addEntry env m { ltype := ltSymlink, name := n } = .ok m') : n ∈ m'.names := by
  unfold addEntry at h
  split at h
  · cases h
  · rename_i hs
    have := addSingleFile_none hs
    cases this
  · rename_i e' hs
    cases h
    have := (addSingleFile_ok hs).1
    exact (mem_names_insert _ _ _).mpr (Or.inl this.symm)

/-! ### the chain of links -/

/-- the path `fs.IsSymlink`/`fs.Readlink` are asked about for the name `t` -/
abbrev inRoot (env : Env) (t : Bytes) : Bytes := pathJoin2 env.rootDir t

/-- `Chain env rel abs k t`: `abs` (the place of the name `rel`) is a symbolic link, and
    following `k` links from there — relative targets resolved against the directory of the
    link's name, as the code does — arrives at the name `t`, which is not a symbolic link
    (it may be absent).  Every link on the way has a non-empty target. -/
inductive Chain (env : Env) : Bytes → Bytes → Nat → Bytes → Prop where
  | last {rel abs : Bytes} {c : Nat} {rest : Bytes} :
      readlinkAt env abs = .ok (c :: rest) →
      isSymlinkAt env (inRoot env (resolveTarget rel c rest)) = false →
      Chain env rel abs 1 (resolveTarget rel c rest)
  | hop {rel abs : Bytes} {c : Nat} {rest : Bytes} {k : Nat} {t : Bytes} :
      readlinkAt env abs = .ok (c :: rest) →
      isSymlinkAt env (inRoot env (resolveTarget rel c rest)) = true →
      Chain env (resolveTarget rel c rest) (inRoot env (resolveTarget rel c rest)) k t →
      Chain env rel abs (k + 1) t

/-- `LinksAhead env rel abs k`: `k` hops can be made from `abs`, and every one of them
    arrives at a symbolic link again (the chain has more than `k` links) -/
inductive LinksAhead (env : Env) : Bytes → Bytes → Nat → Prop where
  | zero {rel abs : Bytes} : LinksAhead env rel abs 0
  | succ {rel abs : Bytes} {c : Nat} {rest : Bytes} {k : Nat} :
      readlinkAt env abs = .ok (c :: rest) →
      isSymlinkAt env (inRoot env (resolveTarget rel c rest)) = true →
      LinksAhead env (resolveTarget rel c rest) (inRoot env (resolveTarget rel c rest)) k →
      LinksAhead env rel abs (k + 1)

theorem Chain.pos {env : Env} {rel abs : Bytes} {k : Nat} {t : Bytes} (h : Chain env rel abs k t) :
    1 ≤ k := by
  cases h <;> omega

theorem chainLoop_succ (env : Env) (fuel lc : Nat) (rel abs : Bytes) :
    chainLoop env (fuel + 1) lc rel abs =
      match readlinkAt env abs with
      | .error f => .error f
      | .ok [] => Res.panic
      | .ok (c :: rest) =>
        if !isSymlinkAt env (inRoot env (resolveTarget rel c rest)) then .ok (resolveTarget rel c rest)
        else if lc + 1 > maxSymlinkChain then Res.err "stage"
        else chainLoop env fuel (lc + 1) (resolveTarget rel c rest) (inRoot env (resolveTarget rel c rest)) := by
  rfl

/-- a successful loop followed a chain of at most `MaxSymlinkChain + 1 - linkCount` links -/
theorem chainLoop_ok {env : Env} : ∀ (fuel lc : Nat) (rel abs t : Bytes),
    chainLoop env fuel lc rel abs = .ok t → lc ≤ maxSymlinkChain →
    ∃ k, lc + k ≤ maxSymlinkChain + 1 ∧ Chain env rel abs k t := by
  intro fuel
  induction fuel with
  | zero => intro lc rel abs t h; cases h
  | succ fuel ih =>
    intro lc rel abs t h hlc
    rw [chainLoop_succ] at h
    split at h
    · cases h
    · cases h
    · rename_i c rest hr
      split at h
      · rename_i hs
        cases h
        exact ⟨1, by omega, Chain.last hr (by simpa using hs)⟩
      · rename_i hs
        split at h
        · cases h
        · rename_i hgt
          obtain ⟨k, hk, hc⟩ := ih _ _ _ _ h (by omega)
          exact ⟨k + 1, by omega, Chain.hop hr (by simpa using hs) hc⟩

/-- a chain of at most `MaxSymlinkChain + 1 - linkCount` links is followed to its end -/
theorem chainLoop_complete {env : Env} {rel abs t : Bytes} {k : Nat} (hc : Chain env rel abs k t) :
    ∀ (fuel lc : Nat), lc + k ≤ maxSymlinkChain + 1 → maxSymlinkChain + 1 ≤ lc + fuel →
    chainLoop env fuel lc rel abs = .ok t := by
  induction hc with
  | last hr hs =>
    intro fuel lc h1 h2
    cases fuel with
    | zero => omega
    | succ fuel => rw [chainLoop_succ, hr]; simp [hs]
  | hop hr hs hrest ih =>
    rename_i k' _
    intro fuel lc h1 h2
    have := hrest.pos
    cases fuel with
    | zero => omega
    | succ fuel =>
      rw [chainLoop_succ, hr]
      have hgt : ¬ (lc + 1 > maxSymlinkChain) := by omega
      simp only [hs, Bool.not_true, Bool.false_eq_true, if_false, hgt]
      exact ih fuel (lc + 1) (by omega) (by omega)

/-- when at least `MaxSymlinkChain + 1 - linkCount` further hops arrive at a symbolic link
    the loop gives up with the error "symlink chain … too long" -/
theorem chainLoop_too_long {env : Env} : ∀ (fuel lc k : Nat) (rel abs : Bytes),
    LinksAhead env rel abs k → lc ≤ maxSymlinkChain → maxSymlinkChain + 1 ≤ lc + k →
    maxSymlinkChain + 1 ≤ lc + fuel → chainLoop env fuel lc rel abs = Res.err "stage" := by
  intro fuel
  induction fuel with
  | zero => intro lc k rel abs _ h1 _ h3; omega
  | succ fuel ih =>
    intro lc k rel abs hl h1 h2 h3
    cases hl with
    | zero => omega
    | succ hr hs hrest =>
      rename_i c rest k'
      rw [chainLoop_succ, hr]
      simp only [hs, Bool.not_true, Bool.false_eq_true, if_false]
      split
      · rfl
      · rename_i hgt
        exact ih (lc + 1) k' _ _ hrest (by omega) (by omega) (by omega)

/-- more fuel than `MaxSymlinkChain` changes nothing -/
theorem chainLoop_fuel {env : Env} : ∀ (f1 f2 lc : Nat) (rel abs : Bytes),
    maxSymlinkChain + 1 ≤ lc + f1 → maxSymlinkChain + 1 ≤ lc + f2 → lc ≤ maxSymlinkChain →
    chainLoop env f1 lc rel abs = chainLoop env f2 lc rel abs := by
  intro f1
  induction f1 with
  | zero => intro f2 lc rel abs h1 _ h3; omega
  | succ f1 ih =>
    intro f2 lc rel abs h1 h2 h3
    cases f2 with
    | zero => omega
    | succ f2 =>
      rw [chainLoop_succ, chainLoop_succ]
      split
      · rfl
      · rfl
      · split
        · rfl
        · split
          · rfl
          · exact ih f2 _ _ _ (by omega) (by omega) (by omega)

/-- no symbolic link has an empty target (Linux: `symlink(2)` refuses one with ENOENT) -/
def NoEmptyLink (env : Env) : Prop :=
  ∀ p st, env.fs p = some st → st.mode &&& S_IFMT = S_IFLNK → st.link ≠ []

theorem readlinkAt_ne_nil {env : Env} (hne : NoEmptyLink env) {p : Bytes} :
    readlinkAt env p ≠ .ok [] := by
  intro h
  obtain ⟨st, h1, h2, h3⟩ := readlinkAt_ok h
  exact hne p st h1 h2 h3

/-- how following a link can fail: an error return of class "stage", or the panic on an empty
    target, which needs a link that has one -/
def LinkFault (env : Env) (f : Fault) : Prop := f = .err "stage" ∨ (f = .panic ∧ ¬ NoEmptyLink env)

theorem fuel_not_linkFault {env : Env} : ¬ LinkFault env (.err "fuel") :=
  fun h => h.elim (by decide) fun hp => absurd hp.1 (by decide)

theorem chainLoop_faults {env : Env} : ∀ (fuel lc : Nat) (rel abs : Bytes),
    maxSymlinkChain + 1 ≤ lc + fuel → lc ≤ maxSymlinkChain →
    (chainLoop env fuel lc rel abs).FaultsIn (LinkFault env) := by
  intro fuel
  induction fuel with
  | zero => intro lc rel abs h1 h2; omega
  | succ fuel ih =>
    intro lc rel abs h1 h2
    rw [chainLoop_succ]
    cases hr : readlinkAt env abs with
    | error f => exact .error (.inl (readlinkAt_faults _ _ f hr))
    | ok t =>
      cases t with
      | nil => exact .error (.inr ⟨rfl, fun hne => readlinkAt_ne_nil hne hr⟩)
      | cons c rest =>
        refine ite_ind .ok ?_
        by_cases hgt : lc + 1 > maxSymlinkChain
        · rw [if_pos hgt]; exact .err (.inl rfl)
        · rw [if_neg hgt]; exact ih _ _ _ (by omega) (by omega)

/-! #### the same for `ultimateSymlinkTarget` -/

theorem ultimateTarget_ok {env : Env} {src abs t : Bytes} (h : ultimateTarget env src abs = .ok t) :
    ∃ k, 1 ≤ k ∧ k ≤ maxSymlinkChain ∧ Chain env src abs k t := by
  obtain ⟨k, hk, hc⟩ := chainLoop_ok _ _ _ _ _ h (by decide)
  exact ⟨k, hc.pos, by omega, hc⟩

theorem ultimateTarget_complete {env : Env} {src abs t : Bytes} {k : Nat}
    (hc : Chain env src abs k t) (hk : k ≤ maxSymlinkChain) : ultimateTarget env src abs = .ok t :=
  chainLoop_complete hc _ _ (by omega) (by decide)

theorem ultimateTarget_too_long {env : Env} {src abs : Bytes}
    (hl : LinksAhead env src abs maxSymlinkChain) : ultimateTarget env src abs = Res.err "stage" :=
  chainLoop_too_long _ _ _ _ _ hl (by decide) (by decide) (by decide)

theorem ultimateTarget_faults {env : Env} (src abs : Bytes) :
    (ultimateTarget env src abs).FaultsIn (LinkFault env) :=
  chainLoop_faults _ _ _ _ (by decide) (by decide)

theorem ultimateTarget_no_fuel {env : Env} {src abs : Bytes} :
    ultimateTarget env src abs ≠ Res.err "fuel" :=
  (ultimateTarget_faults src abs).ne fuel_not_linkFault

theorem ultimateTarget_error {env : Env} (hne : NoEmptyLink env) {src abs : Bytes} {f : Fault}
    (h : ultimateTarget env src abs = .error f) : f = .err "stage" :=
  (ultimateTarget_faults src abs f h).resolve_right fun hp => hp.2 hne

theorem Chain.islink {env : Env} {rel abs t : Bytes} {k : Nat} (h : Chain env rel abs k t) :
    isSymlinkAt env abs = true := by
  cases h with
  | last hr _ => exact readlinkAt_islink hr
  | hop hr _ _ => exact readlinkAt_islink hr

theorem Chain.end_not_link {env : Env} {rel abs t : Bytes} {k : Nat} (h : Chain env rel abs k t) :
    isSymlinkAt env (inRoot env t) = false := by
  induction h with
  | last _ hs => exact hs
  | hop _ _ _ ih => exact ih

/-! ### sizes -/

theorem Node.size_dir (es : List (Bytes × Node)) : (Node.dir es).size = 1 + Node.sizeList es := by
  simp [Node.size]

theorem Node.sizeList_cons (c : Bytes) (n : Node) (rest : List (Bytes × Node)) :
    Node.sizeList ((c, n) :: rest) = n.size + Node.sizeList rest := by
  simp [Node.sizeList]

theorem Node.size_pos (n : Node) : 1 ≤ n.size := by
  cases n <;> simp [Node.size]

theorem mem_sizeList {c : Bytes} {ch : Node} : ∀ {es : List (Bytes × Node)}, (c, ch) ∈ es →
    ch.size ≤ Node.sizeList es := by
  intro es
  induction es with
  | nil => intro h; cases h
  | cons e rest ih =>
    intro h
    obtain ⟨c', n'⟩ := e
    rw [Node.sizeList_cons]
    rcases List.mem_cons.mp h with h | h
    · injection h with h1 h2; rw [h2]; omega
    · have := ih h; omega

/-! ### unfolding the walk -/

theorem walkDir_succ (env : Env) (fuel : Nat) (dir : Bytes) (node : Node) (m : EMap) :
    walkDir env (fuel + 1) dir node m =
      if nogoPaths.contains dir then .ok m
      else match node with
        | .dir entries => walkEntries env (walkDir env fuel) dir entries m
        | _ => Res.err "stage" := rfl

theorem walkEntries_cons (env : Env) (rec : Bytes → Node → EMap → Res EMap) (dir c : Bytes) (ch : Node)
    (rest : List (Bytes × Node)) (m : EMap) :
    walkEntries env rec dir ((c, ch) :: rest) m =
      match entryStep env rec dir c ch m with
      | .error f => .error f
      | .ok m' => walkEntries env rec dir rest m' := rfl

/-! ### what the walk visits -/

/-- `Reach dir es n c`: the walk, standing in the directory named `dir` whose entries are
    `es`, comes to an entry with the name `n` (as the code forms it, with `path.Join`) and the
    node `c` — in this directory, or in a directory below that it enters: one that is a real
    directory, whose entry name is not in `nogoNames` and whose name is not in `nogoPaths`. -/
inductive Reach : Bytes → List (Bytes × Node) → Bytes → Node → Prop where
  | here {dir : Bytes} {es : List (Bytes × Node)} {mt : Bytes} {c : Node} :
      (mt, c) ∈ es → Reach dir es (pathJoin2 dir mt) c
  | deeper {dir : Bytes} {es : List (Bytes × Node)} {mt : Bytes} {es' : List (Bytes × Node)}
      {n : Bytes} {c : Node} :
      (mt, Node.dir es') ∈ es → nogoNames.contains mt = false →
      nogoPaths.contains (pathJoin2 dir mt) = false → Reach (pathJoin2 dir mt) es' n c →
      Reach dir es n c

/-- the walk started at `dir` on `tree` comes to the entry `n`, node `c` -/
def Visits (dir : Bytes) (tree : Node) (n : Bytes) (c : Node) : Prop :=
  ∃ es, tree = .dir es ∧ nogoPaths.contains dir = false ∧ Reach dir es n c

theorem Reach.tail {dir : Bytes} {e : Bytes × Node} {rest : List (Bytes × Node)} {n : Bytes} {c : Node}
    (h : Reach dir rest n c) : Reach dir (e :: rest) n c := by
  cases h with
  | here hm => exact Reach.here (List.mem_cons_of_mem _ hm)
  | deeper hm h1 h2 hr => exact Reach.deeper (List.mem_cons_of_mem _ hm) h1 h2 hr

/-- what one entry contributes -/
def REntry (dir mt : Bytes) (ch : Node) (n : Bytes) (c : Node) : Prop :=
  (n = pathJoin2 dir mt ∧ c = ch) ∨
  (∃ es', ch = .dir es' ∧ nogoNames.contains mt = false ∧
    nogoPaths.contains (pathJoin2 dir mt) = false ∧ Reach (pathJoin2 dir mt) es' n c)

theorem REntry.reach {dir mt : Bytes} {ch : Node} {rest : List (Bytes × Node)} {n : Bytes} {c : Node}
    (h : REntry dir mt ch n c) : Reach dir ((mt, ch) :: rest) n c := by
  rcases h with ⟨h1, h2⟩ | ⟨es', h1, h2, h3, h4⟩
  · rw [h1, h2]; exact Reach.here List.mem_cons_self
  · rw [h1]; exact Reach.deeper List.mem_cons_self h2 h3 h4

theorem Reach.cons_inv {dir mt : Bytes} {ch : Node} {rest : List (Bytes × Node)} {n : Bytes} {c : Node}
    (h : Reach dir ((mt, ch) :: rest) n c) : REntry dir mt ch n c ∨ Reach dir rest n c := by
  cases h with
  | here hm =>
    rcases List.mem_cons.mp hm with e | hm
    · injection e with e1 e2
      left; left; rw [e1, e2]; exact ⟨rfl, rfl⟩
    · right; exact Reach.here hm
  | deeper hm h1 h2 hr =>
    rcases List.mem_cons.mp hm with e | hm
    · injection e with e1 e2
      left; right
      rw [← e1, ← e2]
      exact ⟨_, rfl, h1, h2, hr⟩
    · right; exact Reach.deeper hm h1 h2 hr

theorem Reach.nil_false {dir n : Bytes} {c : Node} (h : Reach dir [] n c) : False := by
  cases h with
  | here hm => cases hm
  | deeper hm => cases hm

/-! ### what the walk does to the member map -/

/-- the link `n` qualifies for the members `m`: its chain ends at one of them -/
def LinkOK (env : Env) (m : EMap) (n : Bytes) : Prop :=
  isSymlinkAt env (inRoot env n) = true ∧
    ∃ t, ultimateTarget env n (inRoot env n) = .ok t ∧ t ∈ m.names

/-- the effect of (a part of) the walk that visits the entries `R` on the member map -/
structure WalkSpec (env : Env) (R : Bytes → Node → Prop) (m m' : EMap) : Prop where
  mono : ∀ x ∈ m.names, x ∈ m'.names
  /-- what is added is a visited symbolic link that qualifies for the members of before -/
  added : ∀ x ∈ m'.names, x ∈ m.names ∨ (∃ tgt, R x (.symlink tgt)) ∧ LinkOK env m x
  /-- every visited symbolic link is a member afterwards, or its chain ended (without error)
      at a name that was no member -/
  seen : ∀ x tgt, R x (.symlink tgt) →
    x ∈ m'.names ∨ ∃ t, ultimateTarget env x (inRoot env x) = .ok t ∧ t ∉ m.names

theorem WalkSpec.refl {env : Env} {R : Bytes → Node → Prop} (m : EMap)
    (hR : ∀ x tgt, ¬ R x (.symlink tgt)) : WalkSpec env R m m :=
  ⟨fun _ h => h, fun _ h => Or.inl h, fun x tgt h => absurd h (hR x tgt)⟩

theorem WalkSpec.congr {env : Env} {R1 R2 : Bytes → Node → Prop} {m m' : EMap}
    (h : WalkSpec env R1 m m') (h1 : ∀ x tgt, R1 x (.symlink tgt) → R2 x (.symlink tgt))
    (h2 : ∀ x tgt, R2 x (.symlink tgt) → R1 x (.symlink tgt)) : WalkSpec env R2 m m' :=
  ⟨h.mono, fun x hx => (h.added x hx).imp_right fun ⟨⟨tgt, hr⟩, hl⟩ => ⟨⟨tgt, h1 _ _ hr⟩, hl⟩,
    fun x tgt hr => h.seen x tgt (h2 _ _ hr)⟩

theorem WalkSpec.comp {env : Env} {R1 R2 R : Bytes → Node → Prop} {m m1 m' : EMap}
    (ha : WalkSpec env R1 m m1) (hb : WalkSpec env R2 m1 m')
    (h1 : ∀ x tgt, R1 x (.symlink tgt) → R x (.symlink tgt))
    (h2 : ∀ x tgt, R2 x (.symlink tgt) → R x (.symlink tgt))
    (h3 : ∀ x tgt, R x (.symlink tgt) → R1 x (.symlink tgt) ∨ R2 x (.symlink tgt)) :
    WalkSpec env R m m' := by
  refine ⟨fun x hx => hb.mono x (ha.mono x hx), ?_, ?_⟩
  · intro x hx
    rcases hb.added x hx with h0 | ⟨⟨tgt, hr⟩, hl, t, hu, ht⟩
    · exact (ha.added x h0).imp_right fun ⟨⟨tgt, hr⟩, hl⟩ => ⟨⟨tgt, h1 _ _ hr⟩, hl⟩
    · refine Or.inr ⟨⟨tgt, h2 _ _ hr⟩, hl, t, hu, ?_⟩
      -- the first part added symbolic links only, and the end of a chain is none
      obtain ⟨_, _, _, hc⟩ := ultimateTarget_ok hu
      exact (ha.added t ht).resolve_right fun ⟨_, hlt, _⟩ => by
        rw [hc.end_not_link] at hlt; cases hlt
  · intro x tgt hr
    rcases h3 x tgt hr with hr | hr
    · exact (ha.seen x tgt hr).imp_left (hb.mono x)
    · exact (hb.seen x tgt hr).imp_right fun ⟨t, hu, ht⟩ => ⟨t, hu, fun hm => ht (ha.mono t hm)⟩

theorem linkStep_spec {env : Env} {m m' : EMap} {n : Bytes} (t0 : Bytes) (h : linkStep env m n = .ok m') :
    WalkSpec env (fun x c => x = n ∧ c = .symlink t0) m m' := by
  unfold linkStep at h
  by_cases hn : m.has n = true
  · rw [if_pos hn] at h
    cases h
    exact ⟨fun _ h => h, fun _ h => Or.inl h, fun x tgt hx => Or.inl (hx.1 ▸ (has_iff _ _).mp hn)⟩
  rw [if_neg hn] at h
  cases hu : ultimateTarget env n (pathJoin2 env.rootDir n) with
  | error f => rw [hu] at h; cases h
  | ok target =>
    rw [hu] at h
    dsimp only at h
    by_cases ht : m.has target = true
    · rw [if_pos ht] at h
      obtain ⟨a, b⟩ := addEntry_names h
      obtain ⟨_, _, _, hc⟩ := ultimateTarget_ok hu
      refine ⟨a, fun x hx => (b x hx).symm.imp_right fun e => ?_,
        fun x tgt hx => Or.inl (hx.1 ▸ addEntry_symlink_mem h)⟩
      exact e ▸ ⟨⟨t0, rfl, rfl⟩, hc.islink, target, hu, (has_iff _ _).mp ht⟩
    · rw [if_neg ht] at h
      cases h
      exact ⟨fun _ h => h, fun _ h => Or.inl h,
        fun x tgt hx => Or.inr (hx.1 ▸ ⟨target, hu, fun hm => ht ((has_iff _ _).mpr hm)⟩)⟩

theorem REntry.visits {dir mt : Bytes} {ch : Node} (hns : ∀ t, ch ≠ .symlink t) {x tgt : Bytes} :
    REntry dir mt ch x (.symlink tgt) ↔
      nogoNames.contains mt = false ∧ Visits (pathJoin2 dir mt) ch x (.symlink tgt) :=
  ⟨fun h => h.elim (fun ⟨_, e⟩ => absurd e.symm (hns tgt))
      fun ⟨es, e1, hn, e2, e3⟩ => ⟨hn, es, e1, e2, e3⟩,
    fun ⟨hn, es, e1, e2, e3⟩ => .inr ⟨es, e1, hn, e2, e3⟩⟩

theorem entryStep_spec {env : Env} {rec : Bytes → Node → EMap → Res EMap}
    (hrec : ∀ dir node m m', rec dir node m = .ok m' → WalkSpec env (Visits dir node) m m')
    {dir mt : Bytes} {ch : Node} {m m' : EMap} (h : entryStep env rec dir mt ch m = .ok m') :
    WalkSpec env (REntry dir mt ch) m m' := by
  have down : ∀ (ch : Node), (∀ t, ch ≠ .symlink t) →
      (if nogoNames.contains mt then .ok m else rec (pathJoin2 dir mt) ch m) = .ok m' →
      WalkSpec env (REntry dir mt ch) m m' := by
    intro ch hns h
    by_cases hn : nogoNames.contains mt = true
    · rw [if_pos hn] at h
      cases h
      exact .refl m fun x tgt hr => by rw [((REntry.visits hns).mp hr).1] at hn; cases hn
    · rw [if_neg hn] at h
      exact (hrec _ _ _ _ h).congr
        (fun x tgt hv => (REntry.visits hns).mpr ⟨by simpa using hn, hv⟩)
        (fun x tgt hr => ((REntry.visits hns).mp hr).2)
  have none : ∀ (ch : Node), (∀ t, ch ≠ .symlink t) → (∀ es, ch ≠ .dir es) →
      WalkSpec env (REntry dir mt ch) m m := fun ch hns hnd =>
    .refl m fun x tgt hr => by obtain ⟨_, es, e, _⟩ := (REntry.visits hns).mp hr; exact hnd es e
  cases ch with
  | symlink t =>
    refine (linkStep_spec (n := pathJoin2 dir mt) t h).congr (fun x tgt he => Or.inl he) ?_
    rintro x tgt (he | ⟨es', e, _⟩)
    · exact he
    · cases e
  | dir es => exact down _ nofun h
  | unreadable => exact down _ nofun h
  | file => cases h; exact none _ nofun nofun
  | other => cases h; exact none _ nofun nofun

theorem walkEntries_spec {env : Env} {rec : Bytes → Node → EMap → Res EMap}
    (hrec : ∀ dir node m m', rec dir node m = .ok m' → WalkSpec env (Visits dir node) m m')
    (dir : Bytes) : ∀ (es : List (Bytes × Node)) (m m' : EMap),
    walkEntries env rec dir es m = .ok m' → WalkSpec env (Reach dir es) m m' := by
  intro es
  induction es with
  | nil =>
    intro m m' h
    cases h
    exact WalkSpec.refl m (fun x tgt hr => hr.nil_false)
  | cons e rest ih =>
    intro m m' h
    obtain ⟨mt, ch⟩ := e
    rw [walkEntries_cons] at h
    split at h
    · cases h
    · rename_i m1 h1
      exact (entryStep_spec hrec h1).comp (ih m1 m' h)
        (fun x tgt hr => hr.reach) (fun x tgt hr => hr.tail) (fun x tgt hr => hr.cons_inv)

/-- **the walk against what it visits** -/
theorem walkDir_spec {env : Env} : ∀ (fuel : Nat) (dir : Bytes) (node : Node) (m m' : EMap),
    walkDir env fuel dir node m = .ok m' → WalkSpec env (Visits dir node) m m' := by
  intro fuel
  induction fuel with
  | zero => intro dir node m m' h; cases h
  | succ fuel ih =>
    intro dir node m m' h
    rw [walkDir_succ] at h
    split at h
    · rename_i hn
      cases h
      refine WalkSpec.refl m ?_
      rintro x tgt ⟨es, _, e, _⟩
      rw [hn] at e; cases e
    · rename_i hn
      have hn' : nogoPaths.contains dir = false := by simpa using hn
      split at h
      · rename_i es
        refine (walkEntries_spec ih dir es m m' h).congr ?_ ?_
        · intro x tgt hr; exact ⟨es, rfl, hn', hr⟩
        · rintro x tgt ⟨es', e1, _, e3⟩
          cases e1; exact e3
      · cases h

/-! ### fuel -/

theorem entryStep_congr {env : Env} {rec1 rec2 : Bytes → Node → EMap → Res EMap} {dir mt : Bytes}
    {ch : Node} (h : ∀ d m, rec1 d ch m = rec2 d ch m) (m : EMap) :
    entryStep env rec1 dir mt ch m = entryStep env rec2 dir mt ch m := by
  cases ch <;> simp only [entryStep, h]

theorem walkEntries_congr {env : Env} {rec1 rec2 : Bytes → Node → EMap → Res EMap} (dir : Bytes) :
    ∀ (es : List (Bytes × Node)), (∀ c ch, (c, ch) ∈ es → ∀ d m, rec1 d ch m = rec2 d ch m) →
    ∀ m, walkEntries env rec1 dir es m = walkEntries env rec2 dir es m := by
  intro es
  induction es with
  | nil => intro _ m; rfl
  | cons e rest ih =>
    intro h m
    obtain ⟨c, ch⟩ := e
    rw [walkEntries_cons, walkEntries_cons, entryStep_congr (h c ch List.mem_cons_self)]
    split
    · rfl
    · exact ih (fun c' ch' hm => h c' ch' (List.mem_cons_of_mem _ hm)) _

/-- any two amounts of fuel from the number of nodes on give the same result -/
theorem walkDir_fuel {env : Env} : ∀ (f1 f2 : Nat) (node : Node), node.size ≤ f1 → node.size ≤ f2 →
    ∀ dir m, walkDir env f1 dir node m = walkDir env f2 dir node m := by
  intro f1
  induction f1 with
  | zero => intro f2 node h1; have := node.size_pos; omega
  | succ f1 ih =>
    intro f2 node h1 h2 dir m
    cases f2 with
    | zero => have := node.size_pos; omega
    | succ f2 =>
      rw [walkDir_succ, walkDir_succ]
      split
      · rfl
      · cases node with
        | dir es =>
          simp only
          rw [Node.size_dir] at h1 h2
          apply walkEntries_congr
          intro c ch hm d m'
          have := mem_sizeList hm
          exact ih f2 ch (by omega) (by omega) d m'
        | _ => rfl

theorem linkStep_faults {env : Env} (m : EMap) (n : Bytes) :
    (linkStep env m n).FaultsIn (LinkFault env) := by
  unfold linkStep
  refine ite_ind .ok ?_
  cases hu : ultimateTarget env n (pathJoin2 env.rootDir n) with
  | error f => exact (ultimateTarget_faults _ _).pass hu
  | ok t => exact ite_ind (fun f h => .inl (addEntry_faults _ _ _ f h)) .ok

theorem walkEntries_faults {env : Env} {S : Fault → Prop} {rec : Bytes → Node → EMap → Res EMap}
    (hl : ∀ m n, (linkStep env m n).FaultsIn S) (dir : Bytes) :
    ∀ (es : List (Bytes × Node)), (∀ c ch, (c, ch) ∈ es → ∀ d m, (rec d ch m).FaultsIn S) →
    ∀ m, (walkEntries env rec dir es m).FaultsIn S := by
  intro es
  induction es with
  | nil => exact fun _ _ => .ok
  | cons e rest ih =>
    intro hrec m
    obtain ⟨c, ch⟩ := e
    rw [walkEntries_cons]
    cases h1 : entryStep env rec dir c ch m with
    | ok m' => exact ih (fun c' ch' hm => hrec c' ch' (List.mem_cons_of_mem _ hm)) m'
    | error f =>
      refine Res.FaultsIn.pass ?_ h1
      have hr := hrec c ch List.mem_cons_self
      cases ch with
      | symlink t => exact hl _ _
      | dir es' => exact ite_ind .ok (hr _ _)
      | unreadable => exact ite_ind .ok (hr _ _)
      | file => exact .ok
      | other => exact .ok

theorem walkDir_faults {env : Env} : ∀ (fuel : Nat) (node : Node), node.size ≤ fuel →
    ∀ dir m, (walkDir env fuel dir node m).FaultsIn (LinkFault env) := by
  intro fuel
  induction fuel with
  | zero => intro node h; have := node.size_pos; omega
  | succ fuel ih =>
    intro node h dir m
    rw [walkDir_succ]
    refine ite_ind .ok ?_
    cases node with
    | dir es =>
      rw [Node.size_dir] at h
      exact walkEntries_faults linkStep_faults dir es
        (fun c ch hm => ih ch (by have := mem_sizeList hm; omega)) m
    | _ => exact .err (.inl rfl)

theorem walkDir_no_fuel {env : Env} (fuel : Nat) (node : Node) (h : node.size ≤ fuel) (dir : Bytes) (m : EMap) :
    walkDir env fuel dir node m ≠ Res.err "fuel" :=
  (walkDir_faults fuel node h dir m).ne fuel_not_linkFault

/-! ### the walk and the candidate list -/

theorem recoverAll_append {env : Env} : ∀ (xs ys : List Cand) (m : EMap),
    recoverAll env m (xs ++ ys) =
      match recoverAll env m xs with
      | .error f => .error f
      | .ok m' => recoverAll env m' ys := by
  intro xs
  induction xs with
  | nil => intro ys m; rfl
  | cons x xs ih =>
    intro ys m
    simp only [List.cons_append, recoverAll]
    split
    · rfl
    · exact ih ys _

/-- the link branch of the loop body is `recoverOne` on the candidate of that link -/
theorem linkStep_eq_recoverOne {env : Env} (hne : NoEmptyLink env) (m : EMap) (n : Bytes) :
    linkStep env m n = recoverOne env m (candOf env n) := by
  unfold linkStep recoverOne candOf
  cases hu : ultimateTarget env n (pathJoin2 env.rootDir n) with
  | error f =>
    have := ultimateTarget_error hne hu
    rw [this]
    simp only
    split <;> rfl
  | ok t => simp

theorem candsDir_succ (env : Env) (fuel : Nat) (dir : Bytes) (node : Node) :
    candsDir env (fuel + 1) dir node =
      if nogoPaths.contains dir then []
      else match node with
        | .dir entries => candsEntries env (candsDir env fuel) dir entries
        | _ => [] := rfl

theorem Node.readable_dir (es : List (Bytes × Node)) : (Node.dir es).readable = Node.readableList es := by
  simp [Node.readable]

theorem mem_readableList {c : Bytes} {ch : Node} : ∀ {es : List (Bytes × Node)},
    Node.readableList es = true → (c, ch) ∈ es → ch.readable = true := by
  intro es
  induction es with
  | nil => intro _ h; cases h
  | cons e rest ih =>
    intro hr h
    obtain ⟨c', n'⟩ := e
    simp only [Node.readableList, Bool.and_eq_true] at hr
    rcases List.mem_cons.mp h with h | h
    · injection h with h1 h2; rw [h2]; exact hr.1
    · exact ih hr.2 h

theorem walkEntries_eq_recoverAll {env : Env} (hne : NoEmptyLink env)
    {rec : Bytes → Node → EMap → Res EMap} {recC : Bytes → Node → List Cand} (dir : Bytes) :
    ∀ (es : List (Bytes × Node)),
    (∀ c es', (c, Node.dir es') ∈ es → ∀ d m, rec d (.dir es') m = recoverAll env m (recC d (.dir es'))) →
    (∀ c, (c, Node.unreadable) ∉ es) →
    ∀ m, walkEntries env rec dir es m = recoverAll env m (candsEntries env recC dir es) := by
  intro es
  induction es with
  | nil => intro _ _ m; rfl
  | cons e rest ih =>
    intro hrec hun m
    obtain ⟨c, ch⟩ := e
    rw [walkEntries_cons]
    simp only [candsEntries]
    rw [recoverAll_append]
    have hstep : entryStep env rec dir c ch m = recoverAll env m (candsEntry env recC dir c ch) := by
      cases ch with
      | symlink t =>
        simp only [entryStep, candsEntry, recoverAll]
        rw [linkStep_eq_recoverOne hne]
        split <;> assumption
      | dir es' =>
        simp only [entryStep, candsEntry]
        split
        · rfl
        · exact hrec c es' List.mem_cons_self _ _
      | unreadable => exact absurd List.mem_cons_self (hun c)
      | file => rfl
      | other => rfl
    rw [hstep]
    split
    · rfl
    · exact ih (fun c' es' hm => hrec c' es' (List.mem_cons_of_mem _ hm))
        (fun c' hm => hun c' (List.mem_cons_of_mem _ hm)) _

/-- **the walk is `recoverAll` on its candidate list** (directories all readable, no empty
    link target) -/
theorem walkDir_eq_recoverAll {env : Env} (hne : NoEmptyLink env) : ∀ (fuel : Nat) (es : List (Bytes × Node)),
    (Node.dir es).size ≤ fuel → Node.readableList es = true →
    ∀ dir m, walkDir env fuel dir (.dir es) m = recoverAll env m (candsDir env fuel dir (.dir es)) := by
  intro fuel
  induction fuel with
  | zero => intro es h; have := (Node.dir es).size_pos; omega
  | succ fuel ih =>
    intro es h hr dir m
    rw [walkDir_succ, candsDir_succ]
    split
    · rfl
    · simp only
      rw [Node.size_dir] at h
      apply walkEntries_eq_recoverAll hne
      · intro c es' hm d m'
        have h1 := mem_sizeList hm
        have h2 := mem_readableList hr hm
        rw [Node.readable_dir] at h2
        exact ih es' (by omega) h2 d m'
      · intro c hm
        have := mem_readableList hr hm
        simp [Node.readable] at this

/-- every candidate is a symbolic link the walk visits -/
theorem candsEntries_visits {env : Env} {recC : Bytes → Node → List Cand}
    (hrec : ∀ d node c, c ∈ recC d node → ∃ tgt, Visits d node c.name (.symlink tgt)) (dir : Bytes) :
    ∀ (es : List (Bytes × Node)) (c : Cand), c ∈ candsEntries env recC dir es →
    ∃ tgt, Reach dir es c.name (.symlink tgt) := by
  intro es
  induction es with
  | nil => intro c h; cases h
  | cons e rest ih =>
    intro c h
    obtain ⟨mt, ch⟩ := e
    simp only [candsEntries, List.mem_append] at h
    rcases h with h | h
    · cases ch with
      | symlink t =>
        simp only [candsEntry, List.mem_singleton] at h
        refine ⟨t, ?_⟩
        have : c.name = pathJoin2 dir mt := by
          rw [h]; unfold candOf; split <;> rfl
        rw [this]
        exact Reach.here List.mem_cons_self
      | dir es' =>
        simp only [candsEntry] at h
        split at h
        · cases h
        · rename_i hn
          obtain ⟨tgt, es2, e1, e2, e3⟩ := hrec _ _ _ h
          cases e1
          exact ⟨tgt, Reach.deeper List.mem_cons_self (by simpa using hn) e2 e3⟩
      | unreadable =>
        simp only [candsEntry] at h
        split at h
        · cases h
        · obtain ⟨tgt, es2, e1, _⟩ := hrec _ _ _ h
          cases e1
      | file => cases h
      | other => cases h
    · obtain ⟨tgt, hr⟩ := ih c h
      exact ⟨tgt, hr.tail⟩

theorem candsDir_visits {env : Env} : ∀ (fuel : Nat) (dir : Bytes) (node : Node) (c : Cand),
    c ∈ candsDir env fuel dir node → ∃ tgt, Visits dir node c.name (.symlink tgt) := by
  intro fuel
  induction fuel with
  | zero => intro dir node c h; cases h
  | succ fuel ih =>
    intro dir node c h
    rw [candsDir_succ] at h
    split at h
    · cases h
    · rename_i hn
      split at h
      · rename_i es
        obtain ⟨tgt, hr⟩ := candsEntries_visits ih dir es c h
        exact ⟨tgt, es, rfl, by simpa using hn, hr⟩
      · cases h

/-! ### a tree as its own oracle -/

mutual
/-- no symbolic link of the tree has an empty target -/
def Node.linksNonEmpty : Node → Bool
  | .dir es => Node.linksNonEmptyList es
  | .symlink t => !t.isEmpty
  | _ => true
def Node.linksNonEmptyList : List (Bytes × Node) → Bool
  | [] => true
  | (_, n) :: rest => n.linksNonEmpty && Node.linksNonEmptyList rest
end

theorem mem_linksNonEmptyList {e : Bytes × Node} : ∀ {es : List (Bytes × Node)},
    Node.linksNonEmptyList es = true → e ∈ es → e.2.linksNonEmpty = true := by
  intro es
  induction es with
  | nil => intro _ h; cases h
  | cons x rest ih =>
    intro hr h
    obtain ⟨c', n'⟩ := x
    simp only [Node.linksNonEmptyList, Bool.and_eq_true] at hr
    rcases List.mem_cons.mp h with h | h
    · rw [h]; exact hr.1
    · exact ih hr.2 h

theorem find_linksNonEmpty : ∀ (cs : List Bytes) (node : Node) (t : Bytes),
    node.linksNonEmpty = true → node.find cs = some (.symlink t) → t ≠ [] := by
  intro cs
  induction cs with
  | nil =>
    intro node t h hf
    simp only [Node.find] at hf
    injection hf with hf
    subst hf
    intro e; subst e
    simp [Node.linksNonEmpty] at h
  | cons c cs ih =>
    intro node t h hf
    cases node with
    | dir es =>
      simp only [Node.find] at hf
      split at hf
      · rename_i e he
        have hm := List.mem_of_find?_eq_some he
        simp only [Node.linksNonEmpty] at h
        exact ih e.2 t (mem_linksNonEmptyList h hm) hf
      · cases hf
    | _ => simp [Node.find] at hf

theorem noEmptyLink_of_tree (rootDir : Bytes) (tree : Node) (h : tree.linksNonEmpty = true) :
    NoEmptyLink (Env.ofTree rootDir tree) := by
  intro p st h1 h2
  unfold Env.ofTree at h1
  simp only at h1
  split at h1
  · cases h1
  · rename_i rel _
    cases hf : tree.find (pathComps rel) with
    | none => rw [hf] at h1; cases h1
    | some nd =>
      rw [hf] at h1
      injection h1 with h1
      subst h1
      cases nd with
      | symlink t => exact find_linksNonEmpty _ tree t h hf
      | dir es => exact absurd h2 (by simp only [Node.lstat]; decide)
      | _ => exact absurd h2 (by decide)

/-! ### the names the walk forms -/

/-- `path.Join(dir, name)` of an absolute `dir` is a clean absolute path, whatever `name` is -/
theorem pathJoin2_cleanAbs (dir c : Bytes) (h : isAbs dir = true) : CleanAbs (pathJoin2 dir c) := by
  cases dir with
  | nil => cases h
  | cons x xs =>
    have e : pathJoin2 (x :: xs) c = pathClean ((x :: xs) ++ SLASH :: c) := by
      simp [pathJoin2, pathJoin, List.dropWhile, joinWith]
    rw [e]
    apply pathClean_cleanAbs
    rw [isAbs_cons] at h
    show isAbs (x :: (xs ++ SLASH :: c)) = true
    rw [isAbs_cons]
    exact h

/-- every name the walk forms is a clean absolute path when it starts at an absolute one -/
theorem Reach.cleanAbs {dir : Bytes} {es : List (Bytes × Node)} {n : Bytes} {c : Node}
    (h : Reach dir es n c) : isAbs dir = true → CleanAbs n := by
  induction h with
  | here _ => intro hd; exact pathJoin2_cleanAbs _ _ hd
  | deeper _ _ _ _ ih => intro hd; exact ih (pathJoin2_cleanAbs _ _ hd).2

/-- the name the walk gives to what it reaches from `dir` through the entry names `comps` -/
def joinAll (dir : Bytes) (comps : List Bytes) : Bytes := comps.foldl pathJoin2 dir

/-- `At es comps c`: following the entry names `comps` from the directory with the entries
    `es`, through directories, leads to the node `c` -/
inductive At : List (Bytes × Node) → List Bytes → Node → Prop where
  | here {es : List (Bytes × Node)} {mt : Bytes} {c : Node} : (mt, c) ∈ es → At es [mt] c
  | deeper {es : List (Bytes × Node)} {mt : Bytes} {es' : List (Bytes × Node)} {cs : List Bytes} {c : Node} :
      (mt, Node.dir es') ∈ es → At es' cs c → At es (mt :: cs) c

theorem At.ne_nil {es : List (Bytes × Node)} {cs : List Bytes} {c : Node} (h : At es cs c) : cs ≠ [] := by
  cases h <;> simp

/-- **where a visited entry lies**: its place in the tree is given by entry names `comps`;
    its name is `comps` joined onto `dir`; none of the directories on the way — the proper,
    non-empty prefixes of `comps` — has a name in `nogoPaths`, and none of their entry names
    (all of `comps` but the last) is in `nogoNames` -/
theorem Reach.comps {dir : Bytes} {es : List (Bytes × Node)} {n : Bytes} {c : Node}
    (h : Reach dir es n c) :
    ∃ comps, At es comps c ∧ n = joinAll dir comps ∧
      (∀ pre, pre <+: comps → pre ≠ [] → pre ≠ comps → nogoPaths.contains (joinAll dir pre) = false) ∧
      (∀ x ∈ comps.dropLast, nogoNames.contains x = false) := by
  induction h with
  | @here dir es mt c hm =>
    refine ⟨[mt], At.here hm, rfl, ?_, nofun⟩
    intro pre hp hne hne2
    rcases List.prefix_cons_iff.mp hp with e | ⟨t, e, ht⟩
    · exact absurd e hne
    · rw [List.prefix_nil.mp ht] at e; exact absurd e hne2
  | @deeper dir es mt es' n c hm h1 h2 _ ih =>
    obtain ⟨comps, hat, hn, hp, hd⟩ := ih
    refine ⟨mt :: comps, At.deeper hm hat, by rw [hn]; rfl, ?_, ?_⟩
    · intro pre hpre hne1 hne2
      rcases List.prefix_cons_iff.mp hpre with e | ⟨t, e, ht⟩
      · exact absurd e hne1
      · subst e
        show nogoPaths.contains (joinAll (pathJoin2 dir mt) t) = false
        by_cases hnil : t = []
        · rw [hnil]; exact h2
        · exact hp t ht hnil fun e => hne2 (by rw [e])
    · intro x hx
      rw [List.dropLast_cons_of_ne_nil hat.ne_nil] at hx
      rcases List.mem_cons.mp hx with e | hx
      · rw [e]; exact h1
      · exact hd x hx

/-! #### on a tree whose entry names are clean path elements -/

theorem joinAll_absPath : ∀ (comps pre : List Bytes), (∀ x ∈ pre, CleanName x) → (∀ x ∈ comps, CleanName x) →
    joinAll (absPath pre) comps = absPath (pre ++ comps) := by
  intro comps
  induction comps with
  | nil => intro pre _ _; simp [joinAll]
  | cons c cs ih =>
    intro pre hp hc
    obtain ⟨hc1, hc2⟩ := List.forall_mem_cons.mp hc
    have h1 : ∀ x ∈ [c], CleanName x := by simpa using hc1
    show joinAll (pathJoin2 (absPath pre) c) cs = _
    rw [show pathJoin2 (absPath pre) c = absPath (pre ++ [c]) from
        InLayers.pathJoin_absPath pre [c] hp h1 (List.cons_ne_nil _ _),
      ih (pre ++ [c]) (List.forall_mem_append.mpr ⟨hp, h1⟩) hc2, List.append_assoc]
    rfl

/-- the `nogoPaths` as component lists -/
def nogoPathComps : List (List Bytes) :=
  [[b!"boot"], [b!"dev"], [b!"home"], [b!"media"], [b!"mnt"], [b!"proc"], [b!"run"],
   [b!"usr", b!"portage"], [b!"sys"], [b!"var", b!"db"]]

theorem nogoPaths_eq : nogoPaths = nogoPathComps.map absPath := by decide +kernel

theorem nogoPathComps_clean : ∀ pc ∈ nogoPathComps, pc ≠ [] ∧ ∀ x ∈ pc, CleanName x := by decide +kernel

/-- a name with clean elements that the walk forms from the root, below (in the sense of
    the byte string) a `DoNotTraverse` path: then that path is the name of one of the
    directories on the way -/
theorem below_nogo_prefix (comps : List Bytes) (hc : ∀ x ∈ comps, CleanName x) (p : Bytes)
    (hp : p ∈ nogoPaths) (hpre : hasPrefix (absPath comps) (p ++ [SLASH]) = true) :
    ∃ pre, pre <+: comps ∧ pre ≠ [] ∧ pre ≠ comps ∧ joinAll [SLASH] pre = p := by
  rw [nogoPaths_eq] at hp
  obtain ⟨pc, hpc, rfl⟩ := List.mem_map.mp hp
  obtain ⟨hne, hcl⟩ := nogoPathComps_clean pc hpc
  have hpx : pc <+: comps :=
    (atOrBelow_iff pc comps hcl hc hne).mp (by rw [hpre]; simp)
  refine ⟨pc, hpx, hne, ?_, ?_⟩
  · intro e
    rw [e] at hpre
    obtain ⟨t, ht⟩ := (hasPrefix_iff _ _).mp hpre
    have := congrArg List.length ht
    simp at this
  · have := joinAll_absPath pc [] (by simp) hcl
    rw [List.nil_append] at this
    exact this

end Lc.Stage
