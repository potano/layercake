/-
  The layer table through the commands.  What add / remove / rename / rebase return
  (`Hoare.Ret m Q`: whenever `m` ends normally the value satisfies `Q`), stated with the pure
  table updates of `Lemmas/ForestInv.lean`; for rename, that the loop over the children computes
  `rebaseKid` on every record whatever order it visits them in (`kids_foldl_layers`).  What
  probing never touches (`sig`, `probeAll_sig`).  FindLayers as a function of the tree
  (`findLayers_run`) and the well-formed table it returns (`findLayers_wf`).
-/
import Lc.Lemmas.Hoare
import Lc.Lemmas.RunM
import Lc.Lemmas.ForestInv
import Lc.Lemmas.ProbeLoop
import Lc.Lemmas.CmdBlocks
import Lc.Lemmas.Path

namespace Lc.ForestCmd
open Std.Do Lc Lc.Layers Lc.Hoare Lc.ForestInv Lc.Forest Lc.RunM
set_option mvcgen.warning false

theorem reorder_ret (d : Defs) :
    Ret (reorder d) (fun d' => ∃ o, normalizeOrder d.layers = .ok o ∧ d' = { d with order := o }) := by
  unfold Ret reorder
  split <;> mvcgen
  rename_i o ho _
  exact ⟨o, ho, rfl⟩

theorem addFiles_ret (cfg : Config) (d : Defs) (l : Layer) :
    Ret (addFiles cfg d l) (fun d' => ∃ o, normalizeOrder (d.layers ++ [l]) = .ok o ∧
      d' = { d with layers := d.layers ++ [l], order := o }) := by
  have hR := reorder_ret
  have hM := fun p => holds_true (fsMkdir p)
  have hW := fun l => holds_true (writeLayerFile l)
  have hF := fun p c => holds_true (fsWriteTextFile p c)
  unfold Ret Holds at *
  mvcgen [addFiles, hR, hM, hW, hF]

theorem addLayer_ret (cfg : Config) (d : Defs) (n b f : Bytes) :
    Ret (addLayer cfg d n b f) (fun d' =>
      testName1 d n NAME_FREE = true ∧ testName1 d b (NAME_OPTIONAL + NAME_NEED) = true ∧
      ∃ cm ce o, normalizeOrder (d.layers ++ [{ name := n, base := b, cmounts := cm, cexports := ce, layerPath := layerPath cfg n }]) = .ok o ∧
        d' = { d with layers := d.layers ++ [{ name := n, base := b, cmounts := cm, cexports := ce, layerPath := layerPath cfg n }], order := o }) := by
  have hT := testName_ret d
  have hA := addFiles_ret cfg d
  have hG := fun f => holds_true (getDefaultLayerinfo cfg f)
  rw [addLayer_eq]
  unfold Ret Holds at *
  mvcgen [hT, hA, hG, fail]
  -- the normal returns: `hT` has left the verdict of the name test in the context, `hA` what
  -- the end block returned
  all_goals
    intro ⟨o, ho, hr⟩
    have ht := ‹(List.all _ _) = true›
    simp only [List.all_cons, List.all_nil, Bool.and_true, Bool.and_eq_true] at ht
    exact ⟨ht.1, ht.2, _, _, o, ho, hr⟩

theorem rebaseLayer_missing (cfg : Config) (d : Defs) (n nb : Bytes) (w : World)
    (h : n = [] ∨ isLegalLayerName n = false ∨ findLayer d n = none) :
    (rebaseLayer cfg d n nb).run.run w = (.error (.err "name"), w) := by
  unfold rebaseLayer
  exact testName_refuses d _ _ w (by simp only [List.all_cons, not_need d n h, Bool.false_and])

theorem removeLayer_missing (cfg : Config) (d : Defs) (n : Bytes) (files : Bool) (w : World)
    (h : n = [] ∨ isLegalLayerName n = false ∨ findLayer d n = none) :
    (removeLayer cfg d n files).run.run w = (.error (.err "name"), w) := by
  unfold removeLayer
  exact testName_refuses d _ _ w (by simp only [List.all_cons, not_need d n h, Bool.false_and])

theorem removeFiles_ret (d : Defs) (n : Bytes) (l : Layer) (o : Bool) :
    Ret (removeFiles d n l o) (fun d' => ∃ o, normalizeOrder (d.layers.filter (·.name != n)) = .ok o ∧
      d' = { d with layers := d.layers.filter (·.name != n), order := o }) := by
  have hR := reorder_ret
  have h4 := fun p => holds_true (fsRemove p)
  have h5 := fun a b => holds_true (fsRename a b)
  have h6 := fun p => holds_true (fExists p)
  unfold Ret Holds at *
  mvcgen [removeFiles, hR, h4, h5, h6, fail]

theorem removeLayer_ret (cfg : Config) (d : Defs) (n : Bytes) (files : Bool) :
    Ret (removeLayer cfg d n files) (fun d' =>
      testName1 d n NAME_NEED = true ∧ hasChild d n = false ∧
      ∃ o, normalizeOrder (d.layers.filter (·.name != n)) = .ok o ∧
        d' = { d with layers := d.layers.filter (·.name != n), order := o }) := by
  have hT := testName_ret d
  have hG := fun n => holds_true (getL d n)
  have h1 := fun l => holds_true (errorIfError l)
  have h2 := fun l a => holds_true (errorIfBusy l a)
  have h3 := fun l => holds_true (removeLayerExportLinks cfg l)
  have h7 := fun l => holds_true (holdsOnlyOwnFiles cfg l)
  have hA := removeFiles_ret d n
  rw [removeLayer_eq]
  unfold Ret Holds at *
  mvcgen [hT, hG, h1, h2, h3, h7, hA, fail]
  all_goals
    intro ⟨o, ho, hr⟩
    have ht := ‹(List.all _ _) = true›
    simp only [List.all_cons, List.all_nil, Bool.and_true] at ht
    exact ⟨ht, by simpa using ‹¬ hasChild d n = true›, o, ho, hr⟩

/-- the children of `old`, in the order rename visits them -/
def kidsOf (d : Defs) (old : Bytes) (childOrder : List Bytes) : List Layer :=
  (childOrder.filterMap fun n => (d.layers.filter (·.base == old)).find? (·.name == n))
    ++ (d.layers.filter (·.base == old)).filter (fun k => !childOrder.contains k.name)

theorem renameLayer_ret (cfg : Config) (d : Defs) (old new : Bytes) (co : List Bytes) :
    Ret (renameLayer cfg d old new co) (fun d' =>
      testName1 d old NAME_NEED = true ∧ testName1 d new NAME_FREE = true ∧
      ∃ l o d1, findLayer d old = some l ∧
        d1 = (kidsOf d old co).foldl (fun d k => setLayer d { k with base := new }) d ∧
        normalizeOrder (d1.layers.filter (·.name != old)
          ++ [{ l with name := new, layerPath := layerPath cfg new }]) = .ok o ∧
        d' = { d1 with layers := d1.layers.filter (·.name != old)
          ++ [{ l with name := new, layerPath := layerPath cfg new }], order := o }) := by
  have hT := testName_ret d
  have hR := reorder_ret
  have hG := getL_ret d
  have h1 := fun l => holds_true (errorIfError l)
  have h2 := fun l a => holds_true (errorIfBusy l a)
  have h3 := fun l => holds_true (removeLayerExportLinks cfg l)
  have h5 := fun a b => holds_true (fsRename a b)
  have hW := fun l => holds_true (writeLayerFile l)
  unfold Ret Holds at *
  mvcgen [renameLayer, hT, hR, hG, h1, h2, h3, h5, hW, fail]
  case inv1 => exact post⟨fun (cur, acc) _ => ⌜acc = cur.prefix.foldl (fun d k => setLayer d { k with base := new }) d⌝, fun _ _ => ⌜True⌝⟩
  case vc1 =>
    rename_i hinv _ _
    replace hinv : _ = List.foldl _ d _ := hinv
    show _ = List.foldl _ d (_ ++ [_])
    rw [List.foldl_append, ← hinv]
    rfl
  case vc2 => intro _; trivial
  case vc3 => rfl
  case vc4 =>
    rename_i hinv r1 s1 hre r0 s0
    obtain ⟨o, ho, hr⟩ := hre
    have ht := ‹(List.all _ _) = true›
    simp only [List.all_cons, List.all_nil, Bool.and_true, Bool.and_eq_true] at ht
    replace hinv : _ = List.foldl _ d _ := hinv
    exact ⟨ht.1, ht.2, _, o, _, ‹findLayer d old = some _›, hinv, ho, hr⟩

theorem rebaseLayer_ret (cfg : Config) (d : Defs) (n nb : Bytes) :
    Ret (rebaseLayer cfg d n nb) (fun d' =>
      testName1 d n NAME_NEED = true ∧ testName1 d nb (NAME_NEED + NAME_OPTIONAL) = true ∧
      ∃ l o, findLayer d n = some l ∧
        checkInheritance (setLayer d { l with base := nb }).layers = true ∧
        normalizeOrder (setLayer d { l with base := nb }).layers = .ok o ∧
        d' = { setLayer d { l with base := nb } with order := o }) := by
  have hT := testName_ret d
  have hR := reorder_ret
  have hG := getL_ret d
  have h1 := fun l => holds_true (errorIfError l)
  have h2 := fun l a => holds_true (errorIfBusy l a)
  have hW := fun l => holds_true (writeLayerFile l)
  unfold Ret Holds at *
  mvcgen [rebaseLayer, hT, hR, hG, h1, h2, hW, fail]
  all_goals
    obtain ⟨o, ho, hr⟩ := ‹∃ o, _›
    have ht := ‹(List.all _ _) = true›
    simp only [List.all_cons, List.all_nil, Bool.and_true, Bool.and_eq_true] at ht
    have hc := ‹¬(!checkInheritance _) = true›
    exact ⟨ht.1, ht.2, _, o, ‹findLayer d n = some _›, by simpa using hc, ho, hr⟩

/-! ### rename: the children loop computes `rebaseKid` on every record -/

/-- records whose name is in `S` get the base `new` -/
def upd (new : Bytes) (S : List Bytes) (x : Layer) : Layer :=
  if S.contains x.name then { x with base := new } else x

theorem foldl_setLayer_layers (L : List Layer) (hnd : (L.map (·.name)).Nodup) (new : Bytes) :
    ∀ (ks : List Layer) (S : List Bytes) (acc : Defs), (∀ k ∈ ks, k ∈ L) →
      acc.layers = L.map (upd new S) →
      (ks.foldl (fun d k => setLayer d { k with base := new }) acc).layers
        = L.map (upd new (S ++ ks.map (·.name))) := by
  intro ks
  induction ks with
  | nil => intro S acc _ h; simpa using h
  | cons k ks ih =>
    intro S acc hk h
    rw [List.foldl_cons]
    have hkL : k ∈ L := hk k (by simp)
    have := ih (S ++ [k.name]) (setLayer acc { k with base := new })
      (fun k' hk' => hk k' (List.mem_cons_of_mem _ hk')) ?_
    · rw [this]; simp
    · unfold setLayer
      simp only [h, List.map_map]
      apply List.map_congr_left
      intro x hx
      simp only [Function.comp]
      have hun : (upd new S x).name = x.name := by unfold upd; split <;> rfl
      rw [hun]
      by_cases e : x.name = k.name
      · have hxk : x = k := nodup_name_inj hnd hx hkL e
        subst hxk
        simp [upd]
      · have e' : ¬ (x.name == k.name) = true := by simpa using e
        rw [if_neg e']
        unfold upd
        have : (S ++ [k.name]).contains x.name = S.contains x.name := by
          simp [e]
        rw [this]

theorem kidsOf_mem (d : Defs) (old : Bytes) (co : List Bytes) (k : Layer) (hk : k ∈ kidsOf d old co) :
    k ∈ d.layers ∧ k.base = old := by
  unfold kidsOf at hk
  have hsub : ∀ k, k ∈ d.layers.filter (·.base == old) → k ∈ d.layers ∧ k.base = old := by
    intro k hk
    obtain ⟨h1, h2⟩ := List.mem_filter.mp hk
    exact ⟨h1, by simpa using h2⟩
  rcases List.mem_append.mp hk with hk | hk
  · obtain ⟨n, _, hf⟩ := List.mem_filterMap.mp hk
    exact hsub k (List.mem_of_find?_eq_some hf)
  · exact hsub k (List.mem_filter.mp hk).1

theorem kidsOf_complete (d : Defs) (old : Bytes) (co : List Bytes) (x : Layer) (hx : x ∈ d.layers)
    (hb : x.base = old) : x.name ∈ (kidsOf d old co).map (·.name) := by
  have hx0 : x ∈ d.layers.filter (·.base == old) := List.mem_filter.mpr ⟨hx, by simp [hb]⟩
  unfold kidsOf
  rw [List.map_append, List.mem_append]
  by_cases hc : co.contains x.name = true
  · left
    have hcm : x.name ∈ co := by simpa using hc
    cases hf : (d.layers.filter (·.base == old)).find? (·.name == x.name) with
    | none =>
      rw [List.find?_eq_none] at hf
      exact absurd (by simp) (hf x hx0)
    | some k =>
      exact List.mem_map.mpr ⟨k, List.mem_filterMap.mpr ⟨x.name, hcm, hf⟩, find_name hf⟩
  · right
    exact List.mem_map.mpr ⟨x, List.mem_filter.mpr ⟨hx0, by simpa using hc⟩, rfl⟩

/-- **the children loop of rename**, whatever order Go's map iteration took: every record
    with base `old` gets base `new`, no other record is touched -/
theorem kids_foldl_layers (d : Defs) (hnd : (d.layers.map (·.name)).Nodup) (old new : Bytes)
    (co : List Bytes) :
    ((kidsOf d old co).foldl (fun d k => setLayer d { k with base := new }) d).layers
      = d.layers.map (rebaseKid old new) := by
  have h0 : d.layers = d.layers.map (upd new []) := by
    have : upd new [] = id := by funext x; simp [upd]
    rw [this, List.map_id]
  rw [foldl_setLayer_layers d.layers hnd new (kidsOf d old co) [] d
    (fun k hk => (kidsOf_mem d old co k hk).1) h0]
  apply List.map_congr_left
  intro x hx
  unfold upd rebaseKid
  simp only [List.nil_append]
  by_cases hb : x.base = old
  · have := kidsOf_complete d old co x hx hb
    have h1 : ((kidsOf d old co).map (·.name)).contains x.name = true := by simpa using this
    have h2 : (x.base == old) = true := by simp [hb]
    rw [if_pos h1, if_pos h2]
  · have h2 : ¬ (x.base == old) = true := by simpa using hb
    have h1 : ¬ ((kidsOf d old co).map (·.name)).contains x.name = true := by
      intro hc
      have hm : x.name ∈ (kidsOf d old co).map (·.name) := by simpa using hc
      obtain ⟨k, hk, e⟩ := List.mem_map.mp hm
      obtain ⟨hkL, hkb⟩ := kidsOf_mem d old co k hk
      have := nodup_name_inj hnd hkL hx e
      subst this
      exact hb hkb
    rw [if_neg h1, if_neg h2]

theorem kids_foldl_renamed (d : Defs) (hnd : (d.layers.map (·.name)).Nodup) (old new : Bytes)
    (co : List Bytes) (l' : Layer) :
    ((kidsOf d old co).foldl (fun d k => setLayer d { k with base := new }) d).layers.filter (·.name != old)
      ++ [l'] = renamed d.layers old new l' := by
  rw [kids_foldl_layers d hnd old new co]; rfl

/-! ### what probing never touches -/

/-- the fields of a layer record that come from the disk (name, base, imports, exports) and
    from the configuration (its directory) -/
def sig (l : Layer) : Bytes × Bytes × List Layerfile.NeededMount × List Layerfile.NeededMount × Bytes :=
  (l.name, l.base, l.cmounts, l.cexports, l.layerPath)

theorem sig_name {a b : Layer} (h : sig a = sig b) : a.name = b.name := congrArg (·.1) h
theorem sig_base {a b : Layer} (h : sig a = sig b) : a.base = b.base := congrArg (·.2.1) h
theorem sig_path {a b : Layer} (h : sig a = sig b) : a.layerPath = b.layerPath := congrArg (·.2.2.2.2) h

theorem sig_nb {L L' : List Layer} (h : L'.map sig = L.map sig) : L'.map nb = L.map nb := by
  have e : ∀ M : List Layer, M.map nb = (M.map sig).map (fun s => (s.1, s.2.1)) := by
    intro M; rw [List.map_map]; rfl
  rw [e L', e L, h]

theorem sig_names {L L' : List Layer} (h : L'.map sig = L.map sig) : L'.map (·.name) = L.map (·.name) := by
  have e : ∀ M : List Layer, M.map (·.name) = (M.map sig).map (·.1) := by
    intro M; rw [List.map_map]; rfl
  rw [e L', e L, h]

theorem sig_setLayer (d : Defs) (l l' : Layer) (hnd : (d.layers.map (·.name)).Nodup)
    (hl : findLayer d l'.name = some l) (hs : sig l' = sig l) :
    (setLayer d l').layers.map sig = d.layers.map sig :=
  map_setLayer sig d l' fun _ hx hxn =>
    nodup_name_inj hnd hx (findLayer_mem hl).1 (hxn.trans (findLayer_mem hl).2.symm) ▸ hs

theorem refreshMountInfo_sig (cfg : Config) (d : Defs) :
    Ret (refreshMountInfo cfg d) (fun d' => d'.layers.map sig = d.layers.map sig ∧ d'.order = d.order) := by
  unfold Ret
  mvcgen [refreshMountInfo, getW, liftRes]
  all_goals first
    | rfl
    | (rw [List.map_map]; rfl)

open Lc.StateProbe in
theorem probeAll_sig (cfg : Config) (inuse : List (Bytes × List User)) (d : Defs)
    (hnd : (d.layers.map (·.name)).Nodup) :
    Ret (probeAll cfg inuse d) (fun d' => d'.layers.map sig = d.layers.map sig ∧ d'.order = d.order) := by
  apply ret_intro
  intro w a w' hr
  rw [probeAll_eq] at hr
  obtain ⟨d1, w1, h1, h2⟩ := bind_ok_inv _ _ _ _ _ hr
  have hd1 := ret_elim _ _ (refreshMountInfo_sig cfg d) w d1 w1 h1
  obtain ⟨w2, w3, h3, h4⟩ := bind_ok_inv _ _ _ _ _ h2
  refine (probeLoop_ind cfg inuse w2.fs (fun _ d' => d'.layers.map sig = d.layers.map sig ∧ d'.order = d.order)
    d1.order ?_ d1.order [] d1 a w3 w' rfl hd1 h4).2
  -- a round stores a record that differs from the one found at most in what the probe fills in
  intro _ x _ d2 l l' _ hP hf hr
  obtain ⟨s, rfl⟩ := probeRound_eq hr
  have hs : sig { probeErr cfg inuse d2 x l with state := s } = sig l := by rw [probeErr_eq]; rfl
  refine ⟨?_, hP.2⟩
  rw [sig_setLayer d2 l _ (sig_names hP.1 ▸ hnd) (by rw [sig_name hs, (findLayer_mem hf).2]; exact hf) hs]
  exact hP.1

/-- **probing** (`ProbeAllLayerstate`) keeps a well-formed table well-formed: it only fills
    in states, mounts and user flags -/
theorem probeAll_ret (cfg : Config) (inuse : List (Bytes × List User)) (d : Defs) (h : WF d) :
    Ret (probeAll cfg inuse d) WF :=
  ret_intro _ _ (fun w a w' hr =>
    have hs := ret_elim _ _ (probeAll_sig cfg inuse d h.nodup) w a w' hr
    wf_of_view h (sig_nb hs.1) hs.2)

/-! ### FindLayers -/

theorem children_ne_nil (fs : Fs.Tree) (dir : Bytes) : ∀ n ∈ Fs.children fs dir, n ≠ [] := by
  intro n hn
  unfold Fs.children at hn
  obtain ⟨e, _, rfl⟩ := List.mem_map.mp hn
  exact Lemmas.Path.pathBase_ne_nil _

/-- the records read are named by a sub-list of the directory listing … -/
theorem readLayerFiles_names (cfg : Config) (fs : Fs.Tree) (names : List Bytes) :
    ((readLayerFiles cfg fs names).map (·.name)).Sublist names := by
  induction names with
  | nil => exact List.Sublist.slnil
  | cons n ns ih =>
    unfold readLayerFiles at ih ⊢
    rw [List.filterMap_cons]
    split
    · exact List.Sublist.cons _ ih
    · rename_i l hl
      have : l.name = n := by
        split at hl
        · cases hl
        · dsimp only at hl
          split at hl
          · injection hl with hl; rw [← hl]; rfl
          · cases hl
      rw [List.map_cons, this]
      exact List.Sublist.cons_cons _ ih

/-- … and only entries with a legal name become records -/
theorem readLayerFiles_legal (cfg : Config) (fs : Fs.Tree) (names : List Bytes) (l : Layer)
    (hl : l ∈ readLayerFiles cfg fs names) : l.name ∈ names ∧ isLegalLayerName l.name = true := by
  unfold readLayerFiles at hl
  obtain ⟨n, hn, hf⟩ := List.mem_filterMap.mp hl
  split at hf
  · cases hf
  · rename_i hleg
    dsimp only at hf
    split at hf
    · injection hf with hf
      have : l.name = n := by rw [← hf]; rfl
      rw [this]
      exact ⟨hn, by simpa using hleg⟩
    · cases hf

theorem findLayers_run (cfg : Config) (w : World) :
    (findLayers cfg).run.run w =
      (if Fs.isDir w.fs cfg.layerdirs = true then
          if checkInheritance (readLayerFiles cfg w.fs (Fs.children w.fs cfg.layerdirs)) = true then
            (normalizeOrder (readLayerFiles cfg w.fs (Fs.children w.fs cfg.layerdirs))).map
              fun o => { layers := readLayerFiles cfg w.fs (Fs.children w.fs cfg.layerdirs), order := o }
          else .error (.err "inheritance")
        else .error (.err "readdir"), w) := by
  unfold findLayers fail reorder
  simp only [run_bind, run_getW, run_ite, run_throw]
  by_cases h1 : Fs.isDir w.fs cfg.layerdirs = true
  · by_cases h2 : checkInheritance (readLayerFiles cfg w.fs (Fs.children w.fs cfg.layerdirs)) = true
    · simp only [h1, h2, Bool.not_true, Bool.false_eq_true, if_false, if_true]
      cases normalizeOrder (readLayerFiles cfg w.fs (Fs.children w.fs cfg.layerdirs)) <;> rfl
    · simp only [h1, h2, Bool.not_true, Bool.not_false, Bool.false_eq_true, if_false, if_true]
  · simp only [h1, Bool.not_false, Bool.false_eq_true, if_true, if_false]

theorem findLayers_ok (cfg : Config) (w w' : World) (d : Defs)
    (h : (findLayers cfg).run.run w = (.ok d, w')) :
    w' = w ∧ Fs.isDir w.fs cfg.layerdirs = true ∧
      d.layers = readLayerFiles cfg w.fs (Fs.children w.fs cfg.layerdirs) ∧
      checkInheritance d.layers = true ∧ normalizeOrder d.layers = .ok d.order := by
  rw [findLayers_run] at h
  obtain ⟨h1, rfl⟩ := Prod.mk.inj h
  split at h1
  · split at h1
    · cases ho : normalizeOrder (readLayerFiles cfg w.fs (Fs.children w.fs cfg.layerdirs)) with
      | error e => rw [ho] at h1; cases h1
      | ok o =>
        rw [ho] at h1
        obtain rfl := Except.ok.inj h1
        exact ⟨rfl, ‹_›, rfl, ‹_›, ho⟩
    · cases h1
  · cases h1

/-- … so the table is well-formed when the listing has no name twice: names are legal because
    `readLayerFiles` skips the others, non-empty because `path.Base` never returns "" -/
theorem findLayers_wf (cfg : Config) (w w' : World) (d : Defs)
    (hls : (Fs.children w.fs cfg.layerdirs).Nodup)
    (hr : (findLayers cfg).run.run w = (.ok d, w')) : WF d := by
  obtain ⟨_, _, hL, hc, ho⟩ := findLayers_ok cfg w w' d hr
  refine ⟨?_, ?_, parent_of_check _ hc, hc, ho⟩
  · rw [hL]; exact List.Nodup.sublist (readLayerFiles_names cfg w.fs _) hls
  · intro l hl
    rw [hL] at hl
    obtain ⟨hm, hleg⟩ := readLayerFiles_legal cfg w.fs _ l hl
    exact ⟨children_ne_nil _ _ _ hm, hleg⟩

end Lc.ForestCmd
