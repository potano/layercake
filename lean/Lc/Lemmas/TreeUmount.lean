/-
  Unmounting along the mount tree is never refused (kernel-model side of Props/C03's
  `umount_tree_order_no_call_refused`).  No `NoHidden` here: the table may have covered mounts.
  * `TreeS`: the tree discipline plus what the kernel model's `addMount` also guarantees — no
    two entries below one mount on the same mountpoint, roots not nested (`addMount_treeS`); defined in
    Lemmas/KernelResolve beside `noHidden_iff`;
  * `Chain U c x`: `x` is `c` or hangs (over entries of `U`) below `c`;
  * `Blocks k a`: `k` and `a` hang below the same mount and `k`'s mountpoint is `a`'s or a
    path-prefix of it — a lookup coming from their parent enters `k`, not `a`;
  * `mountedAt_unblocked`: in a `TreeS` table the lookup of `x.mp` ends on `x` when `x` has no
    child and no entry blocks `x` or one of the entries `x` hangs below;
  * `ClosedRegion t bp`: whatever blocks an entry on the way to or inside the region at/below
    `bp` lies in that region itself (nothing from outside covers the region);
  * `kumountSeq_tree`: unmounting the entries of a closed region in an order in which (O1) no
    entry comes after the entry it hangs below, (O2) no entry comes after an entry that blocks
    it or one of the entries it hangs below, is never refused.
-/
import Lc.Lemmas.KernelUmount

namespace Lc.TreeUmount
open Lc Lc.Kernel Lc.KernelResolve Lc.KernelUmount

/-- `x` is `c`, or hangs below `c` over entries of `U` (`TreeOrder.ChainV` is the same for the
    parsed entries of the view; `KernelResolve.Linked` keeps the list of entries between the ends) -/
inductive Chain (U : List KMnt) : KMnt → KMnt → Prop
  | refl {x : KMnt} : x ∈ U → Chain U x x
  | step {c a x : KMnt} : c ∈ U → a ∈ U → a.parent = c.id → Chain U a x → Chain U c x

theorem Chain.mem_left {U : List KMnt} {c x : KMnt} (h : Chain U c x) : c ∈ U := by
  cases h with
  | refl hx => exact hx
  | step hc _ _ _ => exact hc

theorem Chain.mem_right {U : List KMnt} {c x : KMnt} (h : Chain U c x) : x ∈ U := by
  induction h with
  | refl hx => exact hx
  | step _ _ _ _ ih => exact ih

theorem Chain.snoc {U : List KMnt} {c q x : KMnt} (h : Chain U c q) (hx : x ∈ U) (hp : x.parent = q.id) :
    Chain U c x := by
  induction h with
  | refl hq => exact .step hq hx hp (.refl hx)
  | step hc ha hpar _ ih => exact .step hc ha hpar (ih hp)

theorem Chain.mono {U U' : List KMnt} (hs : ∀ m ∈ U, m ∈ U') {c x : KMnt} (h : Chain U c x) : Chain U' c x := by
  induction h with
  | refl hx => exact .refl (hs _ hx)
  | step hc ha hpar _ ih => exact .step (hs _ hc) (hs _ ha) hpar ih

/-- along a chain the mountpoints nest -/
theorem Chain.under {U : List KMnt} (ht : Tree U) {c x : KMnt} (h : Chain U c x) : pathUnder c.mp x.mp = true := by
  induction h with
  | refl _ => exact pathUnder_refl _
  | step hc ha hpar _ ih => exact pathUnder_trans (ht.under _ ha _ hc hpar) ih

/-- every entry hangs below a root -/
theorem exists_root {U : List KMnt} (ht : Tree U) : ∀ x ∈ U, ∃ r ∈ U, isRootIn U r = true ∧ Chain U r x := by
  have key : ∀ (rev suf : List KMnt), U = rev.reverse ++ suf →
      ∀ x ∈ rev, ∃ r ∈ U, isRootIn U r = true ∧ Chain U r x := by
    intro rev
    induction rev with
    | nil => intro _ _ x hx; cases hx
    | cons y rev' ih =>
      intro suf he x hx
      have he' : U = rev'.reverse ++ (y :: suf) := by rw [he]; simp
      rcases List.mem_cons.mp hx with hxy | hx'
      · subst hxy
        have hxU : x ∈ U := by rw [he']; simp
        cases hr : isRootIn U x with
        | true => exact ⟨x, hxU, hr, .refl hxU⟩
        | false =>
          obtain ⟨q, hq, hqid, hqne⟩ := isRootIn_false hr
          -- the parent is listed before x
          have hqrev : q ∈ rev' := List.mem_reverse.mp (ht.parent_before he' hq hqid.symm)
          obtain ⟨r, hr1, hr2, hr3⟩ := ih (x :: suf) he' q hqrev
          exact ⟨r, hr1, hr2, hr3.snoc hxU hqid.symm⟩
      · exact ih (y :: suf) he' x hx'
  intro x hx
  exact key U.reverse [] (by simp) x (List.mem_reverse.mpr hx)

/-! ### what blocks a mount, and the step of the lookup -/

theorem getLast?_of_all_eq {α} {l : List α} {a : α} (hne : l ≠ []) (h : ∀ x ∈ l, x = a) : l.getLast? = some a := by
  cases hl : l.getLast? with
  | none => exact absurd (List.getLast?_eq_none_iff.mp hl) hne
  | some b => rw [h b (List.mem_of_getLast? hl)]

/-- **the step goes to the child on the chain** when no entry blocks that child -/
theorem stepFrom_chain {mnts : List KMnt} (ht : Tree mnts) {c a : KMnt} {p : Bytes} (hc : c ∈ mnts)
    (ha : a ∈ mnts) (hpar : a.parent = c.id) (hap : pathUnder a.mp p = true)
    (hnb : ∀ k ∈ mnts, ¬ Blocks k a) : stepFrom mnts c p = some a := by
  have hne : a.id ≠ c.id := by rw [← hpar]; exact fun e => ht.noSelf a ha e.symm
  have hua : pathUnder c.mp a.mp = true := ht.under a ha c hc hpar
  have hakid : a ∈ kids mnts c := mem_kids.mpr ⟨ha, hpar, hne⟩
  -- any other child of c with a mountpoint at or above a's blocks a
  have hother : ∀ k ∈ kids mnts c, pathUnder k.mp a.mp = true → k = a := by
    intro k hk hu
    apply Classical.byContradiction
    intro hka
    exact hnb k (mem_kids.mp hk).1 ⟨hka, by rw [(mem_kids.mp hk).2.1, hpar], hu⟩
  rw [stepFrom_eq]
  by_cases hmp : a.mp = c.mp
  · -- stacked on c's root: the only stacked child
    have hlast : ((kids mnts c).filter (·.mp == c.mp)).getLast? = some a := by
      apply getLast?_of_all_eq
      · exact List.ne_nil_of_mem (List.mem_filter.mpr ⟨hakid, by simp [hmp]⟩)
      · intro k hk
        have hk' := List.mem_filter.mp hk
        have hkmp : k.mp = c.mp := by simpa using hk'.2
        exact hother k hk'.1 (by rw [hkmp, ← hmp]; exact pathUnder_refl _)
    rw [hlast]
    rfl
  · have hnone : ((kids mnts c).filter (·.mp == c.mp)).getLast? = none := by
      apply List.getLast?_eq_none_iff.mpr
      apply List.filter_eq_nil_iff.mpr
      intro k hk hkmp
      have hkmp' : k.mp = c.mp := by simpa using hkmp
      have := hother k hk (by rw [hkmp']; exact hua)
      rw [this] at hkmp'
      exact hmp hkmp'
    rw [hnone, Option.none_or]
    -- every other candidate lies strictly below `a`, so has a longer mountpoint
    apply pickBy_dominant a
    · intro k hk
      have hk' := List.mem_filter.mp hk
      simp only [Bool.and_eq_true] at hk'
      by_cases hka : k = a
      · exact .inl hka
      · right
        rcases pathUnder_comparable hk'.2.2 hap with h | h
        · exact absurd (hother k hk'.1 h) hka
        · have hle := pathUnder_length h
          refine ⟨hle, fun hge => hka (hother k hk'.1 ?_)⟩
          rw [pathUnder_eq_of_length h hge]
          exact pathUnder_refl _
    · intro b hb; cases hb
    · exact .inl (List.mem_filter.mpr ⟨hakid, by simp [hua, hap]⟩)

/-- a childless mount: the lookup stops -/
theorem stepFrom_leaf {mnts : List KMnt} {x : KMnt} {p : Bytes}
    (hleaf : ∀ c ∈ mnts, c.parent ≠ x.id) : stepFrom mnts x p = none := by
  cases hs : stepFrom mnts x p with
  | none => rfl
  | some k =>
    obtain ⟨hk, hpar, _, _⟩ := stepFrom_spec hs
    exact absurd hpar (hleaf k hk)

/-- the walk follows the chain down to `x` -/
theorem walk_chain {mnts : List KMnt} (ht : Tree mnts) {x : KMnt}
    (hleaf : ∀ c ∈ mnts, c.parent ≠ x.id)
    (hnb : ∀ a, Chain mnts a x → ∀ k ∈ mnts, ¬ Blocks k a) :
    ∀ (fuel : Nat) (c : KMnt) (pre suf : List KMnt), mnts = pre ++ c :: suf → suf.length ≤ fuel →
      Chain mnts c x → walk mnts x.mp fuel c = x := by
  intro fuel
  induction fuel with
  | zero =>
    intro c pre suf he hlen hch
    cases hch with
    | refl _ => rfl
    | step hc ha hpar hrest =>
      -- a child is listed after its parent: impossible with nothing after c
      have := ht.child_after he ha hpar
      rw [List.eq_nil_of_length_eq_zero (Nat.le_zero.mp hlen)] at this
      cases this
  | succ f ih =>
    intro c pre suf he hlen hch
    unfold walk
    cases hch with
    | refl _ => rw [stepFrom_leaf hleaf]
    | step hc ha hpar hrest =>
      rename_i a
      have hstep := stepFrom_chain ht hc ha hpar (hrest.under ht) (hnb a hrest)
      rw [hstep]
      simp only
      obtain ⟨s1, s2, hs⟩ := List.append_of_mem (ht.child_after he ha hpar)
      apply ih a (pre ++ c :: s1) s2 (by rw [he, hs]; simp) ?_ hrest
      rw [hs] at hlen
      simp at hlen
      omega

/-- **the lookup of an unblocked leaf ends on it**: strict tree, `x` has no child, and no entry
    blocks `x` or an entry `x` hangs below -/
theorem mountedAt_unblocked {mnts : List KMnt} (ht : TreeS mnts) {x : KMnt} (hx : x ∈ mnts)
    (hleaf : ∀ c ∈ mnts, c.parent ≠ x.id)
    (hnb : ∀ a, Chain mnts a x → ∀ k ∈ mnts, ¬ Blocks k a) : mountedAt mnts x.mp = some x := by
  obtain ⟨r, hr, hroot, hch⟩ := exists_root ht.toTree x hx
  have hrp : pathUnder r.mp x.mp = true := hch.under ht.toTree
  have hstart : startOf mnts x.mp = some r := by
    -- `r` is the only root that contains the path
    unfold startOf
    rw [findContaining_eq]
    apply pickBy_dominant r
    · intro y hy
      obtain ⟨hy, hyp⟩ := List.mem_filter.mp hy
      obtain ⟨hym, hyroot⟩ := List.mem_filter.mp hy
      left
      apply Classical.byContradiction
      intro hne
      rcases pathUnder_comparable hyp hrp with h | h
      · rw [ht.rootsApart y hym r hr hne hyroot hroot] at h; cases h
      · rw [ht.rootsApart r hr y hym (fun e => hne e.symm) hroot hyroot] at h; cases h
    · intro b hb; cases hb
    · exact .inl (List.mem_filter.mpr ⟨List.mem_filter.mpr ⟨hr, hroot⟩, hrp⟩)
  obtain ⟨pre, suf, he⟩ := List.append_of_mem hr
  have hwalk := walk_chain ht.toTree hleaf hnb mnts.length r pre suf he (by rw [he]; simp; omega) hch
  unfold mountedAt resolve
  rw [hstart]
  simp only [hwalk, beq_self_eq_true, if_true]

/-- **the region at/below `bp` is closed**: an entry that blocks an entry of the region, or an
    entry on the way to it (mountpoint above `bp`), lies in the region itself — nothing mounted
    outside the region covers it -/
def ClosedRegion (mnts : List KMnt) (bp : Bytes) : Prop :=
  ∀ k ∈ mnts, ∀ a ∈ mnts, k ≠ a → k.parent = a.parent → pathUnder k.mp a.mp = true →
    (atOrBelow bp a.mp = true ∨ pathUnder a.mp bp = true) → atOrBelow bp k.mp = true

instance (mnts : List KMnt) (bp : Bytes) : Decidable (ClosedRegion mnts bp) := by
  unfold ClosedRegion; exact inferInstance

theorem ClosedRegion.sublist {l l' : List KMnt} {bp : Bytes} (hs : l'.Sublist l) (h : ClosedRegion l bp) :
    ClosedRegion l' bp :=
  fun k hk a ha => h k (hs.subset hk) a (hs.subset ha)

/-- the call on the mountpoint of a childless mount the lookup finds takes that mount out -/
theorem kumount_childless {t : KTable} {x : KMnt} {p : Bytes} (hm : mountedAt t.mnts p = some x)
    (hleaf : ∀ c ∈ t.mnts, c.parent ≠ x.id) :
    kumount t p = .ok { t with mnts := t.mnts.filter (·.id != x.id) } := by
  have hany : t.mnts.any (fun c => c.parent == x.id) = false :=
    List.any_eq_false.mpr fun c hc hpar => hleaf c hc (by simpa using hpar)
  unfold kumount
  rw [hm]
  simp only [hany, Bool.false_eq_true, if_false]

/-- a successful `kumount` keeps the strict tree discipline -/
theorem kumount_treeS {t t' : KTable} {p : Bytes} (hs : TreeS t.mnts) (hk : kumount t p = .ok t') :
    TreeS t'.mnts := by
  obtain ⟨a, m, b, he, _, _, hleaf, rfl⟩ := kumount_ok_nodup hk hs.ids
  rw [he] at hs hleaf
  exact hs.remove_leaf hleaf

/-- `v` blocks `u` or an entry `u` hangs below -/
def UB (U : List KMnt) (v u : KMnt) : Prop := ∃ a, Blocks v a ∧ Chain U a u

/-- **unmounting a closed region along the mount tree is never refused**: the entries `F` of
    the region at/below `bp`, in an order in which (O1) no entry is unmounted before an entry
    hanging below it, (O2) no entry is unmounted before an entry that blocks it or an entry it
    hangs below; every `kumount` succeeds under path resolution -/
theorem kumountSeq_tree (U : List KMnt) (bp : Bytes) (hbp : bp ≠ [47]) : ∀ (F : List KMnt) (t : KTable),
    TreeS t.mnts → (∀ m ∈ t.mnts, m ∈ U) → ClosedRegion t.mnts bp →
    F.Perm (t.mnts.filter (fun m => atOrBelow bp m.mp)) →
    F.Pairwise (fun u v => u.id ≠ v.parent) →
    F.Pairwise (fun u v => ¬ UB U v u) →
    (kumountSeq t (F.map (·.mp))).2.2 = none := by
  intro F
  induction F with
  | nil => intro t _ _ _ _ _ _; rfl
  | cons x F' ih =>
    intro t ht hU hcl hperm ho1 ho2
    have hxreg : x ∈ t.mnts.filter (fun m => atOrBelow bp m.mp) := hperm.mem_iff.mp (by simp)
    obtain ⟨hx, hxr⟩ := List.mem_filter.mp hxreg
    have hxr' : pathUnder bp x.mp = true := by rw [← atOrBelow_eq_pathUnder hbp]; exact hxr
    have hinF : ∀ k ∈ t.mnts, atOrBelow bp k.mp = true → k = x ∨ k ∈ F' := by
      intro k hk hkr
      have : k ∈ x :: F' := hperm.mem_iff.mpr (List.mem_filter.mpr ⟨hk, hkr⟩)
      exact List.mem_cons.mp this
    -- x has no child left
    have hleaf : ∀ c ∈ t.mnts, c.parent ≠ x.id := by
      intro c hc hpar
      have hcu : pathUnder x.mp c.mp = true := ht.under c hc x hx hpar
      have hcr : atOrBelow bp c.mp = true := by
        rw [atOrBelow_eq_pathUnder hbp]; exact pathUnder_trans hxr' hcu
      rcases hinF c hc hcr with h | h
      · subst h; exact ht.noSelf c hc hpar
      · exact (List.pairwise_cons.mp ho1).1 c h hpar.symm
    -- nothing left blocks x or an entry it hangs below
    have hnb : ∀ a, Chain t.mnts a x → ∀ k ∈ t.mnts, ¬ Blocks k a := by
      intro a hch k hk hbl
      obtain ⟨hne, hpar, hu⟩ := hbl
      have ha := hch.mem_left
      have hax : pathUnder a.mp x.mp = true := hch.under ht.toTree
      by_cases hkr : atOrBelow bp k.mp = true
      · rcases hinF k hk hkr with h | h
        · -- x itself at/above an entry it hangs below: same mountpoint, a twin
          subst h
          have : k.mp = a.mp := pathUnder_antisymm hu hax
          exact ht.noTwins k hk a ha hne hpar this
        · exact (List.pairwise_cons.mp ho2).1 k h ⟨a, ⟨hne, hpar, hu⟩, hch.mono hU⟩
      · apply hkr
        apply hcl k hk a ha hne hpar hu
        rcases pathUnder_comparable hax hxr' with h | h
        · exact .inr h
        · exact .inl (by rw [atOrBelow_eq_pathUnder hbp]; exact h)
    -- the call succeeds and takes x out
    obtain ⟨a, b, he⟩ := List.append_of_mem hx
    have hk : kumount t x.mp = .ok { t with mnts := a ++ b } := by
      rw [kumount_childless (mountedAt_unblocked ht hx hleaf hnb) hleaf, he,
        filter_id_ne (by rw [← he]; exact ht.ids)]
    show (kumountSeq t (x.mp :: F'.map (·.mp))).2.2 = none
    unfold kumountSeq
    rw [hk]
    have hs : (a ++ b).Sublist t.mnts := kumount_sublist hk
    apply ih { t with mnts := a ++ b } (kumount_treeS ht hk)
    · intro m hm'; exact hU m (hs.subset hm')
    · exact hcl.sublist hs
    · show F'.Perm ((a ++ b).filter (fun m => atOrBelow bp m.mp))
      have h0 : (x :: F').Perm (x :: (a ++ b).filter (fun m => atOrBelow bp m.mp)) := by
        refine hperm.trans ?_
        rw [he]
        simp only [List.filter_append, List.filter_cons, hxr, if_true]
        exact List.perm_middle
      exact List.Perm.cons_inv h0
    · exact (List.pairwise_cons.mp ho1).2
    · exact (List.pairwise_cons.mp ho2).2

/-! ### `TreeS` is what the kernel model keeps: `addMount` on a path inside some root mount (every
    absolute path, when the table has a mount on "/"), as does every successful `kumount`
    (`kumount_treeS`) -/

/-- `addMount` keeps the strict tree discipline: the new entry hangs below the mount the lookup of
    its path ends in, and `Terminal` says nothing below that mount is on the way to the path —
    in particular nothing below it sits on the very same mountpoint (no twins) -/
theorem addMount_treeS (t : KTable) (m : KMnt) (h : KTWF t) (hs : TreeS t.mnts)
    (hroot : ∃ r ∈ t.mnts, isRootIn t.mnts r = true ∧ pathUnder r.mp m.mp = true) :
    TreeS (addMount t m).mnts := by
  have hk := addMount_KTWF t m h
  rw [addMount_eq] at hk ⊢
  generalize hedef : ({ m with id := t.nextId, parent := parentId t m.mp } : KMnt) = e at hk ⊢
  have heid : e.id = t.nextId := by rw [← hedef]
  have hemp : e.mp = m.mp := by rw [← hedef]
  have hepar : e.parent = parentId t m.mp := by rw [← hedef]
  obtain ⟨p, hres⟩ : ∃ p, resolve t.mnts m.mp = some p := by
    cases hr : resolve t.mnts m.mp with
    | some p => exact ⟨p, rfl⟩
    | none =>
      obtain ⟨r, hr1, hr2, hr3⟩ := hroot
      have := resolve_none hr r hr1 hr2
      rw [hr3] at this; cases this
  have hpm : p ∈ t.mnts := resolve_mem hres
  have hepar' : e.parent = p.id := by rw [hepar]; unfold parentId; rw [hres]
  have holdpar : ∀ x ∈ t.mnts, x.parent ≠ e.id := by
    intro x hx hxe
    have := h.parLt x hx
    rw [hxe, heid] at this; exact Nat.lt_irrefl _ this
  have henotroot : isRootIn (t.mnts ++ [e]) e = false := by
    cases hr : isRootIn (t.mnts ++ [e]) e with
    | false => rfl
    | true =>
      have := isRootIn_true hr p (List.mem_append_left _ hpm) hepar'.symm
      rw [heid] at this
      exact absurd this (Nat.ne_of_lt (h.idLt p hpm).2)
  have hterm := resolve_terminal hs.toTree hres
  have htw : ∀ a ∈ t.mnts, a.parent = e.parent → a.mp ≠ e.mp := by
    intro a ha hpar hmp
    rw [hepar'] at hpar
    have hid : a.id ≠ p.id := fun hh => hs.noSelf a ha (hpar.trans hh.symm)
    have := hterm a ha hpar hid
    rw [hmp, hemp, pathUnder_refl] at this; cases this
  refine { toTree := hk.wf, noTwins := ?_, rootsApart := ?_ }
  · intro a ha b hb hab hpar
    show a.mp ≠ b.mp
    rcases List.mem_append.mp ha with ha1 | ha1 <;> rcases List.mem_append.mp hb with hb1 | hb1
    · exact hs.noTwins a ha1 b hb1 hab hpar
    · rw [List.mem_singleton.mp hb1] at hpar ⊢
      exact htw a ha1 hpar
    · rw [List.mem_singleton.mp ha1] at hpar ⊢
      exact fun hh => htw b hb1 hpar.symm hh.symm
    · rw [List.mem_singleton.mp ha1, List.mem_singleton.mp hb1] at hab
      exact absurd rfl hab
  · intro a ha b hb hab hra hrb
    show pathUnder a.mp b.mp = false
    rcases List.mem_append.mp ha with ha1 | ha1
    · rcases List.mem_append.mp hb with hb1 | hb1
      · rw [isRootIn_snoc (holdpar a ha1)] at hra
        rw [isRootIn_snoc (holdpar b hb1)] at hrb
        exact hs.rootsApart a ha1 b hb1 hab hra hrb
      · rw [List.mem_singleton.mp hb1, henotroot] at hrb; cases hrb
    · rw [List.mem_singleton.mp ha1, henotroot] at hra; cases hra

end Lc.TreeUmount
