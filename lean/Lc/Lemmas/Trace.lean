/-
  Trace reasoning for the command monad: what a function of the command model appends
  to `World.trace` (the operations it attempts on the environment).
  * the writing primitives keep whatever `World.tick`, `World.log` and the update of `fs` or `kt`
    keep (`gate_inv`, `sysMount_inv`, `fsStep_inv`, `fsUnmount_inv`, `fsMount_inv`),
  * `Emits m N E`: from every world `m` appends a list of operations that satisfies `N` on a
    normal return and `E` on an error; `Emits.bind` concatenates, `Emits.after` passes a step
    that only reads; what the primitives append,
  * `NoSys`: "no mount/umount operation" for the functions that only touch the file system,
  * `FoldOk`/`FoldErr`: the trace of a `foldlM` is the concatenation of the per-element
    segments, each produced from the accumulator the previous element returned.
-/
import Lc.Lemmas.Hoare

namespace Lc.Trace
open Std.Do Lc Lc.Layers Lc.Hoare Lc.Mountinfo

set_option mvcgen.warning false

/-! ### triples and the run function -/

theorem run_of_triple {α} (m : M α) (P : World → Prop) (N : α → World → Prop) (E : Fault → World → Prop)
    (h : ⦃fun w => ⌜P w⌝⦄ m ⦃post⟨fun a w => ⌜N a w⌝, fun e w => ⌜E e w⌝⟩⦄) (w : World) (hw : P w) :
    match m.run.run w with
      | (.ok a, w') => N a w'
      | (.error e, w') => E e w' := by
  have h2 := extractBoth P N E m h w hw
  generalize m.run.run w = r at h2 ⊢
  obtain ⟨x, s⟩ := r
  cases x <;> exact h2

/-! ### the operations that write the world

What each does to the world, read off its run equation: `I` before, `J` after a normal return,
`E` after an error.  An invariant is the case `I = J = E`; for a statement about the trace `J`
speaks of one operation more than `I`. -/

section prims
variable {I J E : World → Prop}

theorem gate_inv (hw : ∀ w, I w → E w) (htick : ∀ w, I w → I w.tick) : Respects I E gate :=
  triple_of_run _ _ _ _ fun w h => by
    rw [RunM.run_gate]
    cases w.pretend
    · cases w.crashAt == some (w.nops + 1)
      · cases w.faultAt == some (w.nops + 1)
        · exact htick w h
        · exact hw _ (htick w h)
      · exact hw _ (htick w h)
    · exact h

theorem sysMount_inv (s t f : Bytes) (fl : Nat) (o : Bytes)
    (herr : ∀ w, I w → E (w.log (.mount s t f fl o)))
    (hok : ∀ w kt', I w → Kernel.kmount w.kt s t f fl o = .ok kt' →
      J { w.log (.mount s t f fl o) with kt := kt' }) :
    ⦃fun w => ⌜I w⌝⦄ sysMount s t f fl o ⦃post⟨fun _ w => ⌜J w⌝, fun _ w => ⌜E w⌝⟩⦄ :=
  triple_of_run _ _ _ _ fun w h => by
    rw [RunM.run_sysMount]
    cases hk : Kernel.kmount w.kt s t f fl o
    · exact herr w h
    · exact hok w _ h hk

/-- `hskip` is for the step the pretender skips -/
theorem fsStep_inv (op : Op) (f : Fs.Tree → Except String Fs.Tree) (hg : Respects I E gate)
    (hskip : ∀ w, I w → J w) (herr : ∀ w, I w → E (w.log op))
    (hok : ∀ w fs', I w → f w.fs = .ok fs' → J { w.log op with fs := fs' }) :
    ⦃fun w => ⌜I w⌝⦄ fsStep op f ⦃post⟨fun _ w => ⌜J w⌝, fun _ w => ⌜E w⌝⟩⦄ :=
  triple_of_run _ _ _ _ fun w h => by
    have hg' := run_of_triple _ _ _ _ hg w h
    rw [RunM.run_fsStep]
    generalize gate.run.run w = r at hg'
    obtain ⟨x, w'⟩ := r
    cases x with
    | error e => exact hg'
    | ok b =>
      cases b with
      | false => exact hskip _ hg'
      | true =>
        dsimp only
        cases hf : f w'.fs
        · exact herr w' hg'
        · exact hok w' _ hg' hf

/-- `hskip` is for the call the pretender skips -/
theorem fsUnmount_inv (t : Bytes) (hg : Respects I E gate) (hskip : ∀ w, I w → J w)
    (herr : ∀ w, I w → E (w.log (.umount t (if w.force then 1 else 0))))
    (hok : ∀ w kt', I w → Kernel.kumount w.kt t = .ok kt' →
      J { w.log (.umount t (if w.force then 1 else 0)) with kt := kt' }) :
    ⦃fun w => ⌜I w⌝⦄ fsUnmount t ⦃post⟨fun _ w => ⌜J w⌝, fun _ w => ⌜E w⌝⟩⦄ :=
  triple_of_run _ _ _ _ fun w h => by
    have hg' := run_of_triple _ _ _ _ hg w h
    rw [RunM.run_fsUnmount]
    generalize gate.run.run w = r at hg'
    obtain ⟨x, w'⟩ := r
    cases x with
    | error e => exact hg'
    | ok b =>
      cases b with
      | false => exact hskip _ hg'
      | true =>
        dsimp only
        cases hk : Kernel.kumount w'.kt t
        · exact herr w' hg'
        · exact hok w' _ hg' hk

end prims

/-- the flag word `fs.Mount` derives from the file-system type -/
def mountFlags (fstype : Bytes) : Nat :=
  if fstype == b!"bind" then Kernel.MS_BIND
  else if fstype == b!"rbind" then Kernel.MS_BIND + Kernel.MS_REC
  else if fstype == b!"remount" then Kernel.MS_REMOUNT
  else 0

def needsSlave (src : Bytes) : Bool := src == b!"/dev" || src == b!"/sys" || src == b!"/run"

theorem fsMount_eq (src tgt fstype opts : Bytes) : fsMount src tgt fstype opts = (do
    if !(← gate) then return
    sysMount src tgt fstype (mountFlags fstype) opts
    if needsSlave src then
      let _ ← gate
      sysMount [] tgt [] (Kernel.MS_SLAVE + Kernel.MS_REC) opts) := rfl

theorem fsMount_inv {I E : World → Prop} (s t f o : Bytes) (hg : Respects I E gate)
    (h1 : Respects I E (sysMount s t f (mountFlags f) o))
    (h2 : Respects I E (sysMount [] t [] (Kernel.MS_SLAVE + Kernel.MS_REC) o)) :
    Respects I E (fsMount s t f o) := by
  rw [fsMount_eq]
  unfold Respects at *
  mvcgen [hg, h1, h2]

/-- the operations a run of `m` from `w` appended to the trace are `s` -/
def Emitted {α} (m : M α) (w : World) (s : List Op) : Prop := (m.run.run w).2.trace = w.trace ++ s

theorem Emitted.unique {α} {m : M α} {w : World} {s s' : List Op} (h : Emitted m w s) (h' : Emitted m w s') :
    s = s' := by
  unfold Emitted at h h'
  rw [h] at h'
  exact List.append_cancel_left h'

/-- from every world, `m` appends operations `s` with `N a s` when it returns `a` and `E s` when
    it fails -/
def Emits {α} (m : M α) (N : α → List Op → Prop) (E : List Op → Prop) : Prop :=
  ∀ w, ∃ s, Emitted m w s ∧ match (m.run.run w).1 with
    | .ok a => N a s
    | .error _ => E s

theorem Emits.of_triple {α} {m : M α} {N : α → List Op → Prop} {E : List Op → Prop}
    (h : ∀ t, ⦃fun w => ⌜w.trace = t⌝⦄ m
      ⦃post⟨fun a w => ⌜∃ s, w.trace = t ++ s ∧ N a s⌝, fun _ w => ⌜∃ s, w.trace = t ++ s ∧ E s⌝⟩⦄) :
    Emits m N E := fun w => by
  have h := run_of_triple _ _ _ _ (h w.trace) w rfl
  unfold Emitted
  generalize m.run.run w = r at h ⊢
  obtain ⟨x, w'⟩ := r
  cases x <;> exact h

theorem Emits.pure {α} {a : α} {N : α → List Op → Prop} {E : List Op → Prop} (h : N a []) :
    Emits (pure a) N E := fun _ => ⟨[], (List.append_nil _).symm, h⟩

theorem Emits.fail {α β} {c : String} {f : α → M β} {N : β → List Op → Prop} {E : List Op → Prop} (h : E []) :
    Emits (fail c >>= f) N E := fun _ => ⟨[], (List.append_nil _).symm, h⟩

theorem Emits.mono {α} {m : M α} {N N' : α → List Op → Prop} {E E' : List Op → Prop} (h : Emits m N E)
    (hN : ∀ a s, N a s → N' a s) (hE : ∀ s, E s → E' s) : Emits m N' E' := fun w => by
  obtain ⟨s, e, hs⟩ := h w
  refine ⟨s, e, ?_⟩
  generalize (m.run.run w).1 = x at hs ⊢
  cases x
  · exact hE s hs
  · exact hN _ s hs

/-- sequencing: the two segments are concatenated; `hE1` covers a failure of the first step -/
theorem Emits.bind {α β} {m : M α} {f : α → M β} {N1 : α → List Op → Prop} {E1 : List Op → Prop}
    {N2 : α → β → List Op → Prop} {E2 : α → List Op → Prop} {N : β → List Op → Prop} {E : List Op → Prop}
    (hm : Emits m N1 E1) (hf : ∀ a, Emits (f a) (N2 a) (E2 a)) (hE1 : ∀ s, E1 s → E s)
    (hN : ∀ a s1 b s2, N1 a s1 → N2 a b s2 → N b (s1 ++ s2))
    (hE : ∀ a s1 s2, N1 a s1 → E2 a s2 → E (s1 ++ s2)) : Emits (m >>= f) N E := fun w => by
  obtain ⟨s1, e1, h1⟩ := hm w
  unfold Emitted at e1 ⊢
  rw [RunM.run_bind]
  generalize m.run.run w = r at e1 h1
  obtain ⟨x, w1⟩ := r
  cases x with
  | error e => exact ⟨s1, e1, hE1 s1 h1⟩
  | ok a =>
    obtain ⟨s2, e2, h2⟩ := hf a w1
    refine ⟨s1 ++ s2, by rw [← List.append_assoc, ← e1]; exact e2, ?_⟩
    show match ((f a).run.run w1).1 with | .ok a => N a (s1 ++ s2) | .error _ => E (s1 ++ s2)
    generalize ((f a).run.run w1).1 = y at h2
    cases y
    · exact hE a s1 s2 h1 h2
    · exact hN a s1 _ s2 h1 h2

theorem Emits.after_val {α β} {m : M α} {f : α → M β} {Q : α → Prop} {N : β → List Op → Prop}
    {E : List Op → Prop} (hs : ∀ t, Holds (fun w => w.trace = t) m)
    (hv : ∀ w a w', m.run.run w = (.ok a, w') → Q a) (hE : E []) (hf : ∀ a, Q a → Emits (f a) N E) :
    Emits (m >>= f) N E := fun w => by
  have h1 := run_of_triple _ _ _ _ (hs w.trace) w rfl
  have hv := hv w
  unfold Emitted
  rw [RunM.run_bind]
  generalize m.run.run w = r at h1 hv
  obtain ⟨x, w1⟩ := r
  cases x with
  | error e => exact ⟨[], by rw [List.append_nil]; exact h1, hE⟩
  | ok a =>
    simp only at h1
    rw [← h1]
    exact hf a (hv a w1 rfl) w1

theorem Emits.after {α β} {m : M α} {f : α → M β} {N : β → List Op → Prop} {E : List Op → Prop}
    (hs : ∀ t, Holds (fun w => w.trace = t) m) (hE : E []) (hf : ∀ a, Emits (f a) N E) :
    Emits (m >>= f) N E :=
  .after_val (Q := fun _ => True) hs (fun _ _ _ _ => trivial) hE fun a _ => hf a

theorem Emits.and_val {α} {m : M α} {N : α → List Op → Prop} {E : List Op → Prop} {Q : α → Prop}
    (h : Emits m N E) (hv : ∀ w a w', m.run.run w = (.ok a, w') → Q a) :
    Emits m (fun a s => N a s ∧ Q a) E := fun w => by
  obtain ⟨s, e, hs⟩ := h w
  refine ⟨s, e, ?_⟩
  have hv := hv w
  generalize m.run.run w = r at hs hv ⊢
  obtain ⟨x, w'⟩ := r
  cases x
  · exact hs
  · exact ⟨hs, hv _ _ rfl⟩

/-- run-level reading when a normal trace is also an error trace -/
theorem Emits.run {α} {m : M α} {N : α → List Op → Prop} {E : List Op → Prop} (h : Emits m N E)
    (hNE : ∀ a s, N a s → E s) (w : World) :
    ∃ s, Emitted m w s ∧ E s ∧ ∀ a, (m.run.run w).1 = .ok a → N a s := by
  obtain ⟨s, e, hs⟩ := h w
  refine ⟨s, e, ?_⟩
  generalize (m.run.run w).1 = x at hs ⊢
  cases x with
  | error e => exact ⟨hs, fun _ h => by cases h⟩
  | ok a => exact ⟨hNE a s hs, fun _ h => by cases h; exact hs⟩

/-- … and of the operations a given run is known to have appended -/
theorem Emits.emitted {α} {m : M α} {N : α → List Op → Prop} {E : List Op → Prop} (h : Emits m N E)
    (hNE : ∀ a s, N a s → E s) {w : World} {s : List Op} (he : Emitted m w s) :
    E s ∧ ∀ a, (m.run.run w).1 = .ok a → N a s := by
  obtain ⟨s', he', h⟩ := h.run hNE w
  rw [he.unique he']
  exact h

/-! ### kinds of operation -/

def isMountOp : Op → Bool
  | .mount .. => true
  | _ => false

def isUmountOp : Op → Bool
  | .umount .. => true
  | _ => false

/-- a mount(2) or umount(2) call -/
def isSys (op : Op) : Bool := isMountOp op || isUmountOp op

/-- no system call on the mount table among the operations -/
def NoSys (s : List Op) : Prop := ∀ op ∈ s, isSys op = false

theorem NoSys.nil : NoSys [] := by intro op h; cases h
theorem NoSys.append {a b : List Op} (ha : NoSys a) (hb : NoSys b) : NoSys (a ++ b) := by
  intro op h
  rcases List.mem_append.mp h with h | h
  · exact ha op h
  · exact hb op h

/-! ### what the primitives append to the trace -/

theorem gate_silent (t : List Op) :
    ⦃fun w => ⌜w.trace = t⌝⦄ gate ⦃post⟨fun _ w => ⌜w.trace = t⌝, fun _ w => ⌜w.trace = t⌝⟩⦄ :=
  gate_inv (fun _ h => h) (fun _ h => h)

theorem sysMount_emits (a b c : Bytes) (fl : Nat) (e : Bytes) :
    Emits (sysMount a b c fl e) (fun _ s => s = [.mount a b c fl e]) (fun s => s = [.mount a b c fl e]) :=
  fun w => by
    unfold Emitted
    rw [RunM.run_sysMount]
    cases Kernel.kmount w.kt a b c fl e <;> exact ⟨_, rfl, rfl⟩

/-- the structural mount call of `fs.Mount` -/
def mountOp (src tgt fstype opts : Bytes) : Op := .mount src tgt fstype (mountFlags fstype) opts
/-- the propagation call of `fs.Mount`: `mount("", tgt, "", MS_SLAVE|MS_REC, opts)` -/
def propOp (tgt opts : Bytes) : Op := .mount [] tgt [] (Kernel.MS_SLAVE + Kernel.MS_REC) opts

/-- everything a complete `fs.Mount` issues -/
def fsMountOps (src tgt fstype opts : Bytes) : List Op :=
  mountOp src tgt fstype opts :: (if needsSlave src then [propOp tgt opts] else [])

/-- a propagation call: empty source and flags `MS_SLAVE|MS_REC` -/
def isPropCall : Op → Bool
  | .mount src _ _ fl _ => src == [] && fl == Kernel.MS_SLAVE + Kernel.MS_REC
  | _ => false

theorem mountFlags_ne_slave (fstype : Bytes) : mountFlags fstype ≠ Kernel.MS_SLAVE + Kernel.MS_REC := by
  unfold mountFlags
  split
  · decide
  · split
    · decide
    · split <;> decide

theorem mountOp_not_prop (src tgt fstype opts : Bytes) : isPropCall (mountOp src tgt fstype opts) = false := by
  have := mountFlags_ne_slave fstype
  simp [isPropCall, mountOp, this]

theorem propOp_is_prop (tgt opts : Bytes) : isPropCall (propOp tgt opts) = true := by
  simp [isPropCall, propOp]

theorem fsMount_emits (src tgt fstype opts : Bytes) :
    Emits (fsMount src tgt fstype opts) (fun _ s => s = [] ∨ s = fsMountOps src tgt fstype opts)
      (fun s => ∃ s', s ++ s' = fsMountOps src tgt fstype opts) := by
  rw [fsMount_eq]
  refine .after gate_silent ⟨_, rfl⟩ fun b => ?_
  split
  · exact .pure (.inl rfl)
  · refine .bind (sysMount_emits _ _ _ _ _) (N2 := fun _ _ s => s = if needsSlave src then [propOp tgt opts] else [])
      (E2 := fun _ s => s = [] ∨ needsSlave src = true ∧ s = [propOp tgt opts]) (fun _ => ?_)
      (fun s h => ⟨if needsSlave src then [propOp tgt opts] else [], by rw [h]; rfl⟩) (fun _ _ _ _ h1 h2 => .inr (by rw [h1, h2]; rfl)) ?_
    · split
      · next hn =>
        exact .after gate_silent (.inl rfl) fun _ => (sysMount_emits _ _ _ _ _).mono
          (fun _ _ h => h) (fun _ h => .inr ⟨hn, h⟩)
      · exact .pure rfl
    · rintro _ _ _ rfl (rfl | ⟨hn, rfl⟩)
      · exact ⟨_, rfl⟩
      · exact ⟨[], by simp [fsMountOps, mountOp, hn]⟩

theorem fsStep_emits (op : Op) (f) :
    Emits (fsStep op f) (fun _ s => s = [] ∨ s = [op]) (fun s => s = [] ∨ s = [op]) :=
  .of_triple fun t =>
    have hskip : ∀ w : World, w.trace = t → ∃ s, w.trace = t ++ s ∧ (s = [] ∨ s = [op]) :=
      fun _ h => ⟨[], by rw [h, List.append_nil], .inl rfl⟩
    have hlog : ∀ w : World, w.trace = t → ∃ s, (w.log op).trace = t ++ s ∧ (s = [] ∨ s = [op]) :=
      fun _ h => ⟨[op], congrArg (· ++ [op]) h, .inr rfl⟩
    fsStep_inv op f (gate_inv hskip (fun _ h => h)) hskip hlog (fun w _ h _ => hlog w h)

theorem fsUnmount_emits (tgt : Bytes) (t : List Op) :
    ⦃fun w => ⌜w.trace = t⌝⦄ fsUnmount tgt
    ⦃post⟨fun _ w => ⌜∃ s, w.trace = t ++ s ∧ (s = [] ∨ ∃ fl, s = [Op.umount tgt fl])⌝,
          fun _ w => ⌜∃ s, w.trace = t ++ s ∧ (s = [] ∨ ∃ fl, s = [Op.umount tgt fl])⌝⟩⦄ :=
  have hskip : ∀ w : World, w.trace = t → ∃ s, w.trace = t ++ s ∧ (s = [] ∨ ∃ fl, s = [Op.umount tgt fl]) :=
    fun _ h => ⟨[], by rw [h, List.append_nil], .inl rfl⟩
  have hlog : ∀ w : World, w.trace = t → ∃ s, (w.log (.umount tgt (if w.force then 1 else 0))).trace = t ++ s ∧
      (s = [] ∨ ∃ fl, s = [Op.umount tgt fl]) :=
    fun _ h => ⟨[_], congrArg (· ++ [_]) h, .inr ⟨_, rfl⟩⟩
  fsUnmount_inv tgt (gate_inv hskip (fun _ h => h)) hskip hlog (fun w _ h _ => hlog w h)

theorem fIsDir_silent (p : Bytes) (t : List Op) :
    ⦃fun w => ⌜w.trace = t⌝⦄ fIsDir p ⦃post⟨fun _ w => ⌜w.trace = t⌝, fun _ w => ⌜w.trace = t⌝⟩⦄ :=
  fIsDir_inv _ _ p
theorem fIsSymlink_silent (p : Bytes) (t : List Op) :
    ⦃fun w => ⌜w.trace = t⌝⦄ fIsSymlink p ⦃post⟨fun _ w => ⌜w.trace = t⌝, fun _ w => ⌜w.trace = t⌝⟩⦄ :=
  fIsSymlink_inv _ _ p

/-! ### functions that only touch the file system -/

/-- `m` appends only file-system operations (both exits) -/
abbrev FsOnly {α} (m : M α) (t : List Op) : Prop :=
  ⦃fun w => ⌜w.trace = t⌝⦄ m
  ⦃post⟨fun _ w => ⌜∃ s, w.trace = t ++ s ∧ NoSys s⌝, fun _ w => ⌜∃ s, w.trace = t ++ s ∧ NoSys s⌝⟩⦄

theorem NoSys.single {op : Op} (h : isSys op = false) : NoSys [op] := by
  intro o ho
  simp at ho
  rw [ho]; exact h

theorem nosys_trans {t tr1 tr2 : List Op}
    (h1 : ∃ s, tr1 = t ++ s ∧ NoSys s) (h2 : ∃ s, tr2 = tr1 ++ s ∧ NoSys s) :
    ∃ s, tr2 = t ++ s ∧ NoSys s := by
  obtain ⟨s1, e1, n1⟩ := h1
  obtain ⟨s2, e2, n2⟩ := h2
  exact ⟨s1 ++ s2, by rw [e2, e1, List.append_assoc], NoSys.append n1 n2⟩

theorem nosys_step {t tr1 tr2 : List Op} {op : Op} (hop : isSys op = false)
    (h1 : ∃ s, tr1 = t ++ s ∧ NoSys s) (h2 : ∃ s, tr2 = tr1 ++ s ∧ (s = [] ∨ s = [op])) :
    ∃ s, tr2 = t ++ s ∧ NoSys s := by
  obtain ⟨s2, e2, n2⟩ := h2
  refine nosys_trans h1 ⟨s2, e2, ?_⟩
  rcases n2 with rfl | rfl
  · exact NoSys.nil
  · exact NoSys.single hop

theorem nosys_refl (t : List Op) : ∃ s, t = t ++ s ∧ NoSys s := ⟨[], by simp, NoSys.nil⟩

theorem fsStep_nosys (t : List Op) (op : Op) (hop : isSys op = false) (f) :
    Holds (fun w => ∃ s, w.trace = t ++ s ∧ NoSys s) (fsStep op f) :=
  have hlog : ∀ w : World, (∃ s, w.trace = t ++ s ∧ NoSys s) → ∃ s, (w.log op).trace = t ++ s ∧ NoSys s :=
    fun _ h => nosys_trans h ⟨[op], rfl, NoSys.single hop⟩
  fsStep_inv op f (gate_inv (fun _ h => h) (fun _ h => h)) (fun _ h => h) hlog (fun w _ h _ => hlog w h)

theorem Emits.of_ns {α} {m : M α} (h : ∀ t, Holds (fun w => ∃ s, w.trace = t ++ s ∧ NoSys s) m) :
    Emits m (fun _ => NoSys) NoSys := fun w => by
  obtain ⟨s, e, n⟩ := extract _ m (h w.trace) w (nosys_refl _)
  refine ⟨s, e, ?_⟩
  cases (m.run.run w).1 <;> exact n

theorem fsStep_fsonly (op : Op) (hop : isSys op = false) (f) (t : List Op) : FsOnly (fsStep op f) t :=
  fun w hw => fsStep_nosys t op hop f w (hw ▸ nosys_refl _)

theorem fsMkdir_fsonly (p : Bytes) (t : List Op) : FsOnly (fsMkdir p) t := fsStep_fsonly _ rfl _ t
theorem fsSymlink_fsonly (a b : Bytes) (t : List Op) : FsOnly (fsSymlink a b) t := fsStep_fsonly _ rfl _ t

/-! ### the trace of a fold -/

section fold
variable {σ ι : Type}

/-- all elements processed: concatenation of the segments, the accumulator threaded;
    `Seg b x seg b'`: element `x` run with accumulator `b` issued `seg` and returned `b'` -/
inductive FoldOk (Seg : σ → ι → List Op → σ → Prop) : σ → List ι → List Op → σ → Prop
  | nil (b : σ) : FoldOk Seg b [] [] b
  | cons {b b' b'' x xs seg s} : Seg b x seg b' → FoldOk Seg b' xs s b'' →
      FoldOk Seg b (x :: xs) (seg ++ s) b''

/-- the fold stopped with an error at some element: complete segments, then one cut short -/
inductive FoldErr (Seg : σ → ι → List Op → σ → Prop) (SegE : σ → ι → List Op → Prop) :
    σ → List ι → List Op → Prop
  | here {b x xs seg} : SegE b x seg → FoldErr Seg SegE b (x :: xs) seg
  | later {b b' x xs seg s} : Seg b x seg b' → FoldErr Seg SegE b' xs s →
      FoldErr Seg SegE b (x :: xs) (seg ++ s)

theorem foldlM_segments (Inv : World → Prop) (Seg : σ → ι → List Op → σ → Prop)
    (SegE : σ → ι → List Op → Prop) (body : σ → ι → M σ)
    (hstep : ∀ b x w, Inv w → ∃ s, ((body b x).run.run w).2.trace = w.trace ++ s ∧
      Inv ((body b x).run.run w).2 ∧
      (∀ b', ((body b x).run.run w).1 = .ok b' → Seg b x s b') ∧
      (∀ e, ((body b x).run.run w).1 = .error e → SegE b x s))
    (xs : List ι) : ∀ (b : σ) (w : World), Inv w →
      ∃ s, ((xs.foldlM body b).run.run w).2.trace = w.trace ++ s ∧
      Inv ((xs.foldlM body b).run.run w).2 ∧
      (∀ b', ((xs.foldlM body b).run.run w).1 = .ok b' → FoldOk Seg b xs s b') ∧
      (∀ e, ((xs.foldlM body b).run.run w).1 = .error e → FoldErr Seg SegE b xs s) := by
  induction xs with
  | nil =>
    intro b w hw
    have hnil : (([] : List ι).foldlM body b).run.run w = (.ok b, w) := rfl
    rw [hnil]
    refine ⟨[], by simp, hw, ?_, ?_⟩
    · intro b' h; cases h; exact FoldOk.nil b
    · intro e h; cases h
  | cons x xs ih =>
    intro b w hw
    obtain ⟨s1, ht1, hi1, h1, h1e⟩ := hstep b x w hw
    rw [List.foldlM_cons, RunM.run_bind]
    generalize hr : (body b x).run.run w = r at ht1 hi1 h1 h1e
    obtain ⟨res, w1⟩ := r
    cases res with
    | error e =>
      refine ⟨s1, ht1, hi1, ?_, ?_⟩
      · intro b' h; cases h
      · intro e' _; exact FoldErr.here (h1e e rfl)
    | ok b1 =>
      obtain ⟨s2, ht2, hi2, h2, h2e⟩ := ih b1 w1 hi1
      have hb := h1 b1 rfl
      refine ⟨s1 ++ s2, ?_, hi2, ?_, ?_⟩
      · show ((xs.foldlM body b1).run.run w1).2.trace = _
        rw [ht2]
        simp only at ht1
        rw [ht1, List.append_assoc]
      · intro b' h
        exact FoldOk.cons hb (h2 b' h)
      · intro e h
        exact FoldErr.later hb (h2e e h)

end fold

end Lc.Trace
