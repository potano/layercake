/-
  Clean absolute paths as component lists: `absPath cs` is "/" followed by the components
  joined with "/".  Every clean absolute path has this shape with clean components
  (`cleanAbs_shape`), the components are recovered by `pathComps`, `path.Dir` drops the
  last one, and "equal to or below" is the prefix order on component lists (`atOrBelow_iff`).
  `path.Join` of such a path and clean names appends the names (`pathJoin_absPath`).
-/
import Lc.Lemmas.ExportPath

namespace Lc.InLayers
open Lc Lc.Lemmas.Path Lc.ExportPath

def absPath (cs : List Bytes) : Bytes := SLASH :: joinWith SLASH cs

theorem cleanAbs_shape (p : Bytes) (hc : pathClean p = p) (ha : isAbs p = true) :
    ∃ cs, (∀ c ∈ cs, CleanName c) ∧ p = absPath cs := by
  have hinv := foldl_inv (isAbs p) (pathComps p) [] (inv_nil _)
  have hg := foldl_good (isAbs p) (pathComps p) [] (by simp) (pathComps_good p)
  rw [pathClean_eq_assemble, ha] at hc
  rw [ha] at hinv hg
  generalize List.foldl (cleanStep true) [] (pathComps p) = stack at hc hinv hg
  simp only [Lc.Lemmas.Path.Inv, if_true] at hinv
  refine ⟨stack.reverse, ?_, ?_⟩
  · intro c hc'
    have hm : c ∈ stack := by simpa using hc'
    exact ⟨hg c hm, fun e => hinv (e ▸ hm)⟩
  · rw [← hc]
    unfold assemble absPath
    simp

theorem pathComps_absPath (cs : List Bytes) (h : ∀ c ∈ cs, CleanName c) : pathComps (absPath cs) = cs := by
  cases cs with
  | nil => decide
  | cons c rest => exact pathComps_rooted _ (by simp) (fun x hx => (h x hx).1)

theorem absPath_inj (cs ds : List Bytes) (hc : ∀ c ∈ cs, CleanName c) (hd : ∀ c ∈ ds, CleanName c)
    (h : absPath cs = absPath ds) : cs = ds := by
  rw [← pathComps_absPath cs hc, ← pathComps_absPath ds hd, h]

theorem absPath_append (ds t : List Bytes) (hd : ds ≠ []) (ht : t ≠ []) :
    absPath (ds ++ t) = absPath ds ++ SLASH :: joinWith SLASH t := by
  unfold absPath
  rw [joinWith_append SLASH ds t ht]
  simp [hd]

theorem pathClean_absPath (cs : List Bytes) (h : ∀ c ∈ cs, CleanName c) : pathClean (absPath cs) = absPath cs := by
  cases cs with
  | nil => decide
  | cons c rest =>
    rw [pathClean_eq_assemble]
    have ha : isAbs (absPath (c :: rest)) = true := rfl
    rw [ha, pathComps_absPath _ h, foldl_push true _ (clean_no_dotdot _ h)]
    unfold assemble absPath
    simp

theorem lastSlashSplit_snoc (X c : Bytes) (hc : SLASH ∉ c) :
    lastSlashSplit (X ++ SLASH :: c) = (X ++ [SLASH], c) := by
  unfold lastSlashSplit
  have hr : (X ++ SLASH :: c).reverse = c.reverse ++ SLASH :: X.reverse := by simp
  simp only [hr]
  have hne : ∀ y ∈ c.reverse, (y != SLASH) = true := fun y hy =>
    bne_iff_ne.mpr fun e => hc (e ▸ List.mem_reverse.mp hy)
  rw [List.takeWhile_append_of_pos hne, List.dropWhile_append_of_pos hne,
    List.takeWhile_cons_of_neg (by simp), List.dropWhile_cons_of_neg (by simp)]
  simp

theorem pathDir_snoc (cs : List Bytes) (c : Bytes) (h : ∀ x ∈ cs ++ [c], CleanName x) :
    pathDir (absPath (cs ++ [c])) = absPath cs := by
  have hcs : ∀ x ∈ cs, CleanName x := fun x hx => h x (by simp [hx])
  have hc : SLASH ∉ c := (h c (by simp)).1.2.2
  unfold pathDir
  cases hcs' : cs with
  | nil =>
    have : absPath ([] ++ [c]) = [] ++ SLASH :: c := rfl
    rw [this, lastSlashSplit_snoc [] c hc]
    rfl
  | cons d ds =>
    have hne : d :: ds ≠ [] := by simp
    rw [absPath_append (d :: ds) [c] hne (by simp)]
    have hj : joinWith SLASH [c] = c := rfl
    rw [hj, lastSlashSplit_snoc _ c hc]
    simp only []
    rw [pathClean_eq_assemble]
    have ha : isAbs (absPath (d :: ds) ++ [SLASH]) = true := rfl
    have hpc : pathComps (absPath (d :: ds) ++ [SLASH]) = d :: ds := by
      rw [pathComps_append_sep, pathComps_absPath _ (hcs' ▸ hcs)]
      have : pathComps [] = [] := by decide
      rw [this]; simp
    rw [ha, hpc, foldl_push true _ (clean_no_dotdot _ (hcs' ▸ hcs))]
    unfold assemble absPath
    simp

/-! ### "equal to or below" is the prefix order on components -/

theorem absPath_length_ge (cs : List Bytes) (h : ∀ c ∈ cs, CleanName c) : cs.length + 1 ≤ (absPath cs).length := by
  induction cs with
  | nil => exact Nat.le_refl _
  | cons c rest ih =>
    have hc : c ≠ [] := (h c (by simp)).1.1
    have hcl : 1 ≤ c.length := List.length_pos_iff.mpr hc
    cases rest with
    | nil =>
      unfold absPath
      simp only [joinWith, List.length_cons, List.length_nil]
      omega
    | cons d ds =>
      have ih := ih (fun x hx => h x (by simp [hx]))
      unfold absPath at ih ⊢
      rw [joinWith_cons_cons]
      simp only [List.length_cons, List.length_append] at ih ⊢
      omega

/-- the manual's prefix test, on components: `ds` is a prefix of `cs` -/
theorem atOrBelow_iff (ds cs : List Bytes) (hd : ∀ c ∈ ds, CleanName c) (hc : ∀ c ∈ cs, CleanName c)
    (hne : ds ≠ []) :
    (absPath cs == absPath ds || hasPrefix (absPath cs) (absPath ds ++ [SLASH])) = true ↔ ds <+: cs := by
  constructor
  · intro h
    simp only [Bool.or_eq_true, beq_iff_eq] at h
    rcases h with h | h
    · rw [absPath_inj cs ds hc hd h]
      exact List.prefix_refl _
    · obtain ⟨t, ht⟩ := (hasPrefix_iff _ _).mp h
      have hpc := congrArg pathComps ht
      rw [pathComps_absPath cs hc, List.append_assoc] at hpc
      have : absPath ds ++ ([SLASH] ++ t) = absPath ds ++ SLASH :: t := rfl
      rw [this, pathComps_append_sep, pathComps_absPath ds hd] at hpc
      exact ⟨pathComps t, hpc.symm⟩
  · rintro ⟨t, rfl⟩
    simp only [Bool.or_eq_true, beq_iff_eq]
    cases t with
    | nil => left; simp
    | cons e es =>
      right
      rw [absPath_append ds (e :: es) hne (by simp)]
      apply (hasPrefix_iff _ _).mpr
      exact ⟨joinWith SLASH (e :: es), by simp⟩

theorem absPath_prefix_length (ds cs : List Bytes) (hne : ds ≠ []) (h : ds <+: cs) :
    (absPath ds).length ≤ (absPath cs).length := by
  obtain ⟨t, rfl⟩ := h
  cases t with
  | nil => simp
  | cons e es =>
    rw [absPath_append ds (e :: es) hne (by simp)]
    simp

theorem pathClean_absPath_join (ds cs : List Bytes) (hds : ∀ c ∈ ds, CleanName c)
    (hcs : ∀ c ∈ cs, CleanName c) (hne : cs ≠ []) :
    pathClean (absPath ds ++ SLASH :: joinWith SLASH cs) = absPath (ds ++ cs) := by
  have hall : ∀ c ∈ ds ++ cs, CleanName c := List.forall_mem_append.mpr ⟨hds, hcs⟩
  have habs : isAbs (absPath ds ++ [SLASH]) = true := rfl
  rw [pathClean_eq_assemble, isAbs_append_sep, habs, pathComps_append_sep, pathComps_absPath ds hds,
    pathComps_join cs hne (fun c hc => (hcs c hc).1), foldl_push true _ (clean_no_dotdot _ hall)]
  unfold assemble absPath
  simp

theorem pathJoin_absPath (ds cs : List Bytes) (hds : ∀ c ∈ ds, CleanName c)
    (hcs : ∀ c ∈ cs, CleanName c) (hne : cs ≠ []) :
    pathJoin (absPath ds :: cs) = absPath (ds ++ cs) := by
  cases cs with
  | nil => exact absurd rfl hne
  | cons c rest =>
    have h1 : pathJoin (absPath ds :: c :: rest) = pathClean (absPath ds ++ SLASH :: joinWith SLASH (c :: rest)) := by
      unfold pathJoin absPath
      simp [joinWith]
    rw [h1]
    exact pathClean_absPath_join ds (c :: rest) hds hcs hne

theorem pathJoin_head_shape (a : Bytes) (rest : List Bytes) (ha : isAbs a = true) :
    pathClean (pathJoin (a :: rest)) = pathJoin (a :: rest) ∧ isAbs (pathJoin (a :: rest)) = true := by
  have hne : a ≠ [] := by rintro rfl; cases ha
  refine ⟨pathJoin_clean hne rest, ?_⟩
  rw [pathJoin_cons hne]
  refine isAbs_pathClean_of_isAbs _ ?_
  cases rest with
  | nil => exact ha
  | cons y ys => exact isAbs_append _ _ ha

end Lc.InLayers
