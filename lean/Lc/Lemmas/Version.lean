/-
  Lemmas behind C13.  The model orders versions by comparing byte strings (`strCmp` of the
  CompVer strings); PMS orders them field by field.  Both are brought to `Ordering.then` form:
  for a Dom5 version the comparison string is the padded first component, `encRest` of the
  later ones, then letter, suffix and revision fields (`compVer_shape`), and each piece orders
  bytewise as its PMS field does.  Further: the version regexp on the rendered text of a Dom5
  version, termination of MakeNextVer, one pass of MakeNextVer on the comparison string of a
  range atom, and (for `~v` against a candidate with the fields of `v`) that the PMS
  comparison is reflexive.
-/
import Lc.Model.Atom
import Lc.Spec.PmsDomain
import Lc.Lemmas.Ite

namespace Lc.Lemmas.Version
open Lc Lc.Version Lc.Atom Lc.Spec.Pms

/-! ### Nat comparison -/

theorem compare_def (a b : Nat) :
    compare a b = if a < b then .lt else if b < a then .gt else .eq := by
  simp only [compare, compareOfLessAndEq]
  split
  · rfl
  · split
    · subst_vars; simp
    · rw [if_pos (by omega)]

theorem compare_digit (a b d e : Nat) (hd : d < 10) (he : e < 10) :
    compare (a * 10 + d) (b * 10 + e) = (compare a b).then (compare d e) := by
  rcases Nat.lt_trichotomy a b with h | rfl | h
  · rw [Nat.compare_eq_lt.2 h, Nat.compare_eq_lt.2 (by omega)]; rfl
  · simp only [compare_def, Nat.add_lt_add_iff_left, Nat.lt_irrefl, if_false, Ordering.then]
  · rw [Nat.compare_eq_gt.2 h, Nat.compare_eq_gt.2 (by omega)]; rfl

/-! ### bytewise comparison -/

theorem strCmp_cons (a b : Nat) (x y : Bytes) :
    strCmp (a :: x) (b :: y) = (compare a b).then (strCmp x y) := by
  rw [compare_def]
  simp only [strCmp]
  split
  · rfl
  · split <;> rfl

theorem strCmp_cons_same (a : Nat) (x y : Bytes) : strCmp (a :: x) (a :: y) = strCmp x y := by
  simp [strCmp]

theorem strCmp_cons_lt (a b : Nat) (x y : Bytes) (h : a < b) : strCmp (a :: x) (b :: y) = .lt := by
  simp [strCmp, h]

theorem strCmp_cons_gt (a b : Nat) (x y : Bytes) (h : b < a) : strCmp (a :: x) (b :: y) = .gt := by
  have : ¬ a < b := by omega
  simp [strCmp, h, this]

theorem strCmp_self (x : Bytes) : strCmp x x = .eq := by
  induction x with
  | nil => rfl
  | cons a x ih => simp [strCmp, ih]

/-- equal-length prefixes are compared first -/
theorem strCmp_append (x y s t : Bytes) (h : x.length = y.length) :
    strCmp (x ++ s) (y ++ t) = (strCmp x y).then (strCmp s t) := by
  induction x generalizing y with
  | nil =>
    cases y with
    | nil => simp [strCmp, Ordering.then]
    | cons b y => simp at h
  | cons a x ih =>
    cases y with
    | nil => simp at h
    | cons b y =>
      simp only [List.cons_append, strCmp_cons]
      rw [ih y (by simpa using h), Ordering.then_assoc]

/-- Go's `<` and `==` on strings, as the model has them, in terms of `strCmp` -/
theorem bytesLt_iff (x y : Bytes) : bytesLt x y = (strCmp x y == .lt) := by
  induction x generalizing y with
  | nil => cases y <;> simp [bytesLt, strCmp]
  | cons a x ih =>
    cases y with
    | nil => simp [bytesLt, strCmp]
    | cons b y =>
      simp only [bytesLt, strCmp]
      split
      · rfl
      · split
        · rfl
        · exact ih y

theorem strCmp_swap (x y : Bytes) : strCmp y x = (strCmp x y).swap := by
  induction x generalizing y with
  | nil => cases y <;> rfl
  | cons a x ih =>
    cases y with
    | nil => rfl
    | cons b y => rw [strCmp_cons, strCmp_cons, ih, Ordering.swap_then, Nat.compare_swap]

theorem beq_iff (x y : Bytes) : (x == y) = (strCmp x y == .eq) := by
  induction x generalizing y with
  | nil => cases y <;> rfl
  | cons a x ih =>
    cases y with
    | nil => rfl
    | cons b y =>
      rw [strCmp_cons, List.cons_beq_cons, ih]
      rcases Nat.lt_trichotomy a b with h | rfl | h
      · rw [Nat.compare_eq_lt.2 h, beq_false_of_ne (Nat.ne_of_lt h)]; rfl
      · rw [Nat.compare_eq_eq.2 rfl, beq_self_eq_true]; rfl
      · rw [Nat.compare_eq_gt.2 h, beq_false_of_ne (Nat.ne_of_gt h)]; rfl

/-! ### digit strings -/

def Digits (s : Bytes) : Prop := ∀ d ∈ s, 48 ≤ d ∧ d ≤ 57

theorem digits_of_allDigits (s : Bytes) (h : allDigits s = true) : Digits s := by
  intro d hd
  have := (List.all_eq_true.mp h) d hd
  simpa [isDigitB] using this

theorem Digits.tail {d : Nat} {s : Bytes} (h : Digits (d :: s)) : Digits s :=
  fun x hx => h x (by simp [hx])

theorem Digits.head {d : Nat} {s : Bytes} (h : Digits (d :: s)) : 48 ≤ d ∧ d ≤ 57 :=
  h d (by simp)

/-- value with an accumulator (the `foldl` of `natOf`) -/
def natAcc (acc : Nat) (s : Bytes) : Nat := s.foldl (fun acc d => acc * 10 + (d - 48)) acc

theorem natOf_eq (s : Bytes) : natOf s = natAcc 0 s := rfl

/-- **numeric-run lemma**: equal-length digit strings order like the numbers they denote
    (stated with accumulators so that the induction goes through) -/
theorem natAcc_order (x y : Bytes) (ax ay : Nat) (hl : x.length = y.length)
    (hx : Digits x) (hy : Digits y) :
    compare (natAcc ax x) (natAcc ay y) = (compare ax ay).then (strCmp x y) := by
  induction x generalizing y ax ay with
  | nil =>
    cases y with
    | nil => simp only [natAcc, List.foldl_nil, strCmp, Ordering.then_eq]
    | cons b y => cases hl
  | cons a x ih =>
    cases y with
    | nil => cases hl
    | cons b y =>
      have ha := hx.head
      have hb := hy.head
      have hd : compare (a - 48) (b - 48) = compare a b := by
        simp only [compare_def, show a - 48 < b - 48 ↔ a < b by omega,
          show b - 48 < a - 48 ↔ b < a by omega]
      simp only [natAcc, List.foldl_cons]
      rw [← natAcc, ← natAcc, ih y _ _ (Nat.succ.inj hl) hx.tail hy.tail, strCmp_cons,
        ← Ordering.then_assoc, compare_digit _ _ _ _ (by omega) (by omega), hd]

theorem digits_order (x y : Bytes) (hl : x.length = y.length) (hx : Digits x) (hy : Digits y) :
    strCmp x y = compare (natOf x) (natOf y) := by
  have := natAcc_order x y 0 0 hl hx hy
  simp [natOf_eq, this, Ordering.then]

theorem natAcc_zeros (k : Nat) (s : Bytes) : natAcc 0 (List.replicate k 48 ++ s) = natAcc 0 s := by
  induction k with
  | zero => simp
  | succ k ih => simpa [List.replicate_succ, natAcc] using ih

theorem digits_pad (s : Bytes) (h : Digits s) : Digits (padNumericSegment s) := by
  intro d hd
  simp only [padNumericSegment, List.mem_append, List.mem_replicate] at hd
  rcases hd with ⟨_, rfl⟩ | hd
  · omega
  · exact h d hd

theorem length_pad (s : Bytes) (h : s.length ≤ 5) : (padNumericSegment s).length = 5 := by
  simp [padNumericSegment, segWidth]; omega

theorem natOf_pad (s : Bytes) : natOf (padNumericSegment s) = natOf s := by
  simp [natOf_eq, padNumericSegment, natAcc_zeros]

/-- **padded strings order like numbers** for digit strings of at most 5 digits -/
theorem pad5_order (a b : Bytes) (ha : Digits a) (hb : Digits b) (la : a.length ≤ 5) (lb : b.length ≤ 5) :
    strCmp (padNumericSegment a) (padNumericSegment b) = compare (natOf a) (natOf b) := by
  rw [digits_order _ _ (by rw [length_pad a la, length_pad b lb]) (digits_pad a ha) (digits_pad b hb),
    natOf_pad, natOf_pad]

/-! ### makeComparable on digit runs -/

theorem isDigit_iff (c : Nat) : Lc.Version.isDigit c = true ↔ 48 ≤ c ∧ c ≤ 57 := by
  simp [Lc.Version.isDigit]

theorem mcGo_digits (ds run rest : Bytes) (h : Digits ds) :
    mcGo run (ds ++ rest) = mcGo (run ++ ds) rest := by
  induction ds generalizing run with
  | nil => simp
  | cons d ds ih =>
    have hd : Lc.Version.isDigit d = true := (isDigit_iff d).mpr h.head
    simp only [List.cons_append, mcGo, hd, if_true]
    rw [ih _ h.tail]
    simp

theorem mcGo_nondigit (c : Nat) (run rest : Bytes) (h : Lc.Version.isDigit c = false) :
    mcGo run (c :: rest) = flushRun run ++ c :: mcGo [] rest := by
  simp [mcGo, h]

theorem flushRun_ne (run : Bytes) (h : run ≠ []) : flushRun run = padNumericSegment run := by
  cases run with
  | nil => exact absurd rfl h
  | cons a r => rfl

theorem mc_digits_end (ds : Bytes) (h : Digits ds) (hne : ds ≠ []) :
    mcGo [] ds = padNumericSegment ds := by
  have := mcGo_digits ds [] [] h
  simp only [List.append_nil, List.nil_append] at this
  rw [this]
  simp [mcGo, flushRun_ne ds hne]

/-- the padded later components, each preceded by its dot, followed by `t` -/
def encRest : List Bytes → Bytes → Bytes
  | [], t => t
  | m :: ms, t => 46 :: (padNumericSegment m ++ encRest ms t)

theorem encRest_append (ms : List Bytes) (t u : Bytes) : encRest ms (t ++ u) = encRest ms t ++ u := by
  induction ms with
  | nil => rfl
  | cons m ms ih => simp [encRest, ih]

/-- `makeComparable` of dot-joined digit strings followed by something that does not
    start with a digit -/
theorem mc_nums (n : Bytes) (rest : List Bytes) (t : Bytes)
    (hr : ∀ m ∈ n :: rest, Digits m ∧ m ≠ [])
    (ht : ∀ c t', t = c :: t' → Lc.Version.isDigit c = false) :
    mcGo [] (joinWith 46 (n :: rest) ++ t) = padNumericSegment n ++ encRest rest (mcGo [] t) := by
  obtain ⟨hn, hne⟩ := hr n (by simp)
  induction rest generalizing n with
  | nil =>
    simp only [joinWith, encRest]
    rw [mcGo_digits n [] t hn]
    simp only [List.nil_append]
    cases t with
    | nil =>
      have h0 : flushRun ([] : Bytes) = [] := rfl
      simp [mcGo, flushRun_ne n hne, h0]
    | cons c t' =>
      rw [mcGo_nondigit c n t' (ht c t' rfl), mcGo_nondigit c [] t' (ht c t' rfl), flushRun_ne n hne]
      simp [flushRun]
  | cons m ms ih =>
    have hm := hr m (by simp)
    simp only [joinWith, encRest, List.append_assoc, List.cons_append]
    rw [mcGo_digits n [] _ hn]
    simp only [List.nil_append]
    rw [mcGo_nondigit 46 n _ (by decide), flushRun_ne n hne]
    rw [ih m (fun x hx => hr x (List.mem_cons_of_mem _ hx)) hm.1 hm.2]

theorem enc_last (n : Bytes) (rest : List Bytes) :
    ∃ X g, (n :: rest).getLast? = some g ∧ Lc.Version.isDigit (Atom.hd X.reverse) = false ∧
      padNumericSegment n ++ encRest rest [] = X ++ padNumericSegment g := by
  induction rest generalizing n with
  | nil => exact ⟨[], n, rfl, rfl, by simp [encRest]⟩
  | cons m ms ih =>
    obtain ⟨X, g, hg, hX, e⟩ := ih m
    refine ⟨padNumericSegment n ++ 46 :: X, g, by simpa using hg, ?_, by simp [encRest, e]⟩
    cases hx : X.reverse with
    | nil => simp [hx, Atom.hd]; decide
    | cons c t => simpa [hx, Atom.hd] using hX

theorem normBase_digit (b : Bytes) (c : Nat) (h : (makeComparable b).getLast? = some c)
    (hc : Lc.Version.isDigit c = true) : normBase b = makeComparable b := by
  obtain ⟨ini, e⟩ := List.getLast?_eq_some_iff.mp h
  simp [normBase, e, hc]

theorem normBase_letter (basever pre : Bytes) (l : Nat) (hl : Lc.Version.isDigit l = false)
    (h : makeComparable basever = pre ++ [l]) : normBase basever = pre ++ [32, l] := by
  simp only [normBase, h, List.reverse_append, List.reverse_cons, List.reverse_nil,
    List.nil_append, List.cons_append, hl]
  simp

/-! ### the suffix names -/

def sufCode : SufKind → Nat
  | .alpha => 97 | .beta => 98 | .pre => 99 | .rc => 100 | .p => 112

theorem replaceAllGo_digits (pat' rep ds : Bytes) (h : Digits ds) :
    replaceAllGo (95 :: pat') rep 0 ds = ds := by
  induction ds with
  | nil => rfl
  | cons d ds ih =>
    have hd := h.head
    have hne : (d == 95) = false := by simp; omega
    simp [replaceAllGo, hasPrefix, hne, ih h.tail]

theorem mapSuffixNames_render (k : SufKind) (ds : Bytes) (h : Digits ds) :
    mapSuffixNames (95 :: (k.text ++ ds)) = 95 :: sufCode k :: ds := by
  cases k
  case p =>
    cases ds with
    | nil => decide
    | cons d ds' =>
      have hd := h.head
      have hne : (d == 114) = false := by simp; omega
      have hne2 : (d == 95) = false := by simp; omega
      simp [mapSuffixNames, replaceAll, replaceAllGo, hasPrefix, SufKind.text, sufCode, hne, hne2,
        replaceAllGo_digits _ _ _ h.tail]
  all_goals
    simp [mapSuffixNames, replaceAll, replaceAllGo, hasPrefix, SufKind.text, sufCode,
      replaceAllGo_digits _ _ _ h]

/-! ### the comparison string of a Dom5 version -/

/-- kind letter and number of an at-most-one-suffix list (`n` = no suffix) -/
def sufKey : List Suffix → Nat × Option Bytes
  | [] => (110, none)
  | s :: _ => (sufCode s.kind, s.num)

def numEnc : Option Bytes → Bytes
  | none => []
  | some ds => padNumericSegment ds

def sufPart (sufs : List Suffix) : Bytes := 95 :: (sufKey sufs).1 :: numEnc (sufKey sufs).2

def revPart : Option Bytes → Bytes
  | none => 114 :: padNumericSegment [48]
  | some r => 114 :: padNumericSegment r

def letterPart : Option Nat → Bytes
  | none => []
  | some l => [32, l]

/-- everything after the numeric components -/
def tailOf (v : Version) : Bytes :=
  letterPart v.letter ++ 32 :: (sufPart v.sufs ++ 32 :: revPart v.rev)

theorem natOf_pos (c : Nat) (r : Bytes) (hc : 49 ≤ c) : 0 < natOf (c :: r) := by
  have mono : ∀ (r : Bytes) (a : Nat), 0 < a → 0 < natAcc a r := by
    intro r
    induction r with
    | nil => intro a ha; simpa [natAcc] using ha
    | cons d r ih => intro a ha; simp only [natAcc, List.foldl_cons]; exact ih _ (by omega)
  simp only [natOf_eq, natAcc, List.foldl_cons]
  exact mono r _ (by omega)

theorem shortNum_facts (s : Bytes) (h : shortNum s = true) : Digits s ∧ s ≠ [] ∧ s.length ≤ 5 := by
  simp only [shortNum, Bool.and_eq_true, decide_eq_true_eq] at h
  refine ⟨digits_of_allDigits s h.1.1, ?_, h.2⟩
  intro e; rw [e] at h; simp at h

theorem cleanNum_facts (s : Bytes) (h : cleanNum s = true) : Digits s ∧ s ≠ [] ∧ s.length ≤ 5 :=
  shortNum_facts s (Bool.and_eq_true_iff.mp h).1

theorem posNum_facts (s : Bytes) (h : posNum s = true) :
    Digits s ∧ s ≠ [] ∧ s.length ≤ 5 ∧ 0 < natOf s := by
  simp only [posNum, Bool.and_eq_true, decide_eq_true_eq] at h
  have hd := digits_of_allDigits s h.1.1
  refine ⟨hd, ?_, h.1.2, ?_⟩
  · intro e; rw [e] at h; simp at h
  · cases s with
    | nil => simp at h
    | cons c r => exact natOf_pos c r (by simpa using h.2)

theorem dom5Suffix_num {s : Suffix} (h : dom5Suffix s = true) {d : Bytes} (e : s.num = some d) :
    posNum d = true := by
  simpa [dom5Suffix, e] using h

theorem eq_nil_of_cons_length_le_one {α} {s : α} {r : List α} (h : (s :: r).length ≤ 1) : r = [] :=
  List.eq_nil_of_length_eq_zero (by simpa using h)

/-- `dom5 v`, read as propositions -/
structure Dom5 (v : Version) : Prop where
  nums : v.nums ≠ []
  clean : ∀ x ∈ v.nums, cleanNum x = true
  letter : ∀ l, v.letter = some l → 97 ≤ l ∧ l ≤ 122
  sufsLen : v.sufs.length ≤ 1
  sufsOk : ∀ s ∈ v.sufs, dom5Suffix s = true
  rev : ∀ r, v.rev = some r → shortNum r = true

theorem dom5_facts (v : Version) (h : dom5 v = true) : Dom5 v := by
  simp only [dom5, Bool.and_eq_true, Bool.not_eq_true', decide_eq_true_eq, List.all_eq_true,
    List.isEmpty_eq_false_iff] at h
  obtain ⟨⟨⟨⟨⟨hne, hnums⟩, hlet⟩, hlen⟩, hsufs⟩, hrev⟩ := h
  refine ⟨hne, hnums, ?_, hlen, hsufs, ?_⟩
  · intro l e; rw [e] at hlet; simpa using hlet
  · intro r e; rw [e] at hrev; simpa using hrev

theorem Dom5.digits {v : Version} (h : Dom5 v) : ∀ m ∈ v.nums, Digits m ∧ m ≠ [] := fun m hm =>
  have f := cleanNum_facts m (h.clean m hm)
  ⟨f.1, f.2.1⟩

theorem normSuffix_shape (sufs : List Suffix) (h1 : sufs.length ≤ 1)
    (h2 : ∀ s ∈ sufs, dom5Suffix s = true) :
    normSuffix (sufs.flatMap Suffix.render) = sufPart sufs := by
  cases sufs with
  | nil => rfl
  | cons s rest =>
    cases eq_nil_of_cons_length_le_one h1
    have hs := h2 s (by simp)
    have h95 : Lc.Version.isDigit 95 = false := by decide
    have hcode : Lc.Version.isDigit (sufCode s.kind) = false := by cases s.kind <;> decide
    have h0 : flushRun ([] : Bytes) = [] := rfl
    cases hnum : s.num with
    | none =>
      simp only [List.flatMap_cons, List.flatMap_nil, List.append_nil, Suffix.render, hnum,
        Option.getD_none, normSuffix, sufPart, sufKey, numEnc]
      have := mapSuffixNames_render s.kind [] (by intro d hd; simp at hd)
      simp only [List.append_nil] at this ⊢
      rw [this]
      simp [makeComparable, h95, hcode, h0, mcGo]
    | some ds =>
      obtain ⟨hd, hne, _, _⟩ := posNum_facts ds (dom5Suffix_num hs hnum)
      simp only [List.flatMap_cons, List.flatMap_nil, List.append_nil, Suffix.render, hnum,
        Option.getD_some, normSuffix, sufPart, sufKey, numEnc, List.cons_append]
      rw [mapSuffixNames_render s.kind ds hd]
      simp [makeComparable, mcGo_nondigit, h95, hcode, h0, mc_digits_end ds hd hne]

def letterBytes : Option Nat → Bytes
  | none => []
  | some l => [l]

/-- regexp group 4 (`r\d+`) of a rendered version -/
def revGroup : Option Bytes → Bytes
  | none => []
  | some r => 114 :: r

theorem renderBase_eq (v : Version) : v.renderBase = joinWith 46 v.nums ++ letterBytes v.letter := by
  cases h : v.letter <;> simp [Version.renderBase, letterBytes, h]

theorem renderRev_eq (v : Version) : v.renderRev = revGroup v.rev := by
  cases h : v.rev <;> simp [Version.renderRev, revGroup, h]

theorem normRevision_shape (rev : Option Bytes)
    (h : ∀ r, rev = some r → shortNum r = true) :
    normRevision (revGroup rev) = revPart rev := by
  cases rev with
  | none => decide
  | some r =>
    obtain ⟨hd, hne, _⟩ := shortNum_facts r (h r rfl)
    have h114 : Lc.Version.isDigit 114 = false := by decide
    have h0 : flushRun ([] : Bytes) = [] := rfl
    simp [normRevision, revGroup, revPart, makeComparable, mcGo_nondigit, h114, h0,
      mc_digits_end r hd hne]

theorem normBase_shape (n : Bytes) (rest : List Bytes) (letter : Option Nat)
    (hr : ∀ m ∈ n :: rest, Digits m ∧ m ≠ [])
    (hl : ∀ l, letter = some l → 97 ≤ l ∧ l ≤ 122) :
    normBase (joinWith 46 (n :: rest) ++ letterBytes letter) =
      padNumericSegment n ++ encRest rest (letterPart letter) := by
  cases letter with
  | none =>
    have hmc : makeComparable (joinWith 46 (n :: rest) ++ []) = padNumericSegment n ++ encRest rest [] :=
      mc_nums n rest [] hr nofun
    obtain ⟨X, g, hg, _, e⟩ := enc_last n rest
    obtain ⟨hgd, hgne⟩ := hr g (List.mem_of_getLast? hg)
    rw [letterBytes, letterPart, normBase_digit _ (g.getLast hgne) ?_
      ((isDigit_iff _).mpr (hgd _ (List.getLast_mem hgne))), hmc]
    rw [hmc, e, padNumericSegment, ← List.append_assoc, List.getLast?_append,
      List.getLast?_eq_some_getLast hgne, Option.some_or]
  | some l =>
    have hld : Lc.Version.isDigit l = false := by have := hl l rfl; simp [Lc.Version.isDigit]; omega
    have hmc : makeComparable (joinWith 46 (n :: rest) ++ [l]) =
        (padNumericSegment n ++ encRest rest []) ++ [l] := by
      rw [makeComparable, mc_nums n rest [l] hr (by rintro _ _ ⟨⟩; exact hld), List.append_assoc,
        ← encRest_append]
      simp [mcGo, hld, flushRun]
    rw [letterBytes, letterPart, normBase_letter _ _ l hld hmc, List.append_assoc, ← encRest_append]
    rfl

theorem norm_shapes (v : Version) (h : dom5 v = true) :
    ∃ n rest, v.nums = n :: rest ∧
      normBase v.renderBase = padNumericSegment n ++ encRest rest (letterPart v.letter) ∧
      normSuffix v.renderSufs = sufPart v.sufs ∧ normRevision v.renderRev = revPart v.rev := by
  have d := dom5_facts v h
  cases hn : v.nums with
  | nil => exact absurd hn d.nums
  | cons n rest =>
    refine ⟨n, rest, rfl, ?_, normSuffix_shape v.sufs d.sufsLen d.sufsOk, ?_⟩
    · rw [renderBase_eq, hn]; exact normBase_shape n rest v.letter (hn ▸ d.digits) d.letter
    · rw [renderRev_eq]; exact normRevision_shape v.rev d.rev

/-- **shape of the comparison string**: for a Dom5 version the model's CompVer is the padded
    first component, the padded later components with their dots, then letter, suffix
    and revision fields separated by blanks -/
theorem compVer_shape (v : Version) (h : dom5 v = true) :
    ∃ n rest, v.nums = n :: rest ∧
      compVerOf v.renderBase v.renderSufs v.renderRev false =
        padNumericSegment n ++ encRest rest (tailOf v) := by
  obtain ⟨n, rest, hn, hb, hs, hr⟩ := norm_shapes v h
  refine ⟨n, rest, hn, ?_⟩
  simp only [compVerOf, hb, hs, hr, tailOf]
  simp [encRest_append]

/-! ### the PMS algorithms on Dom5, in `Ordering.then` form -/

theorem strip_nonzero_head (c : Nat) (r : Bytes) (hc : c ≠ 48) :
    ∃ t, stripTrailingZeros (c :: r) = c :: t := by
  simp only [stripTrailingZeros, List.reverse_cons, List.dropWhile_append]
  split
  · exact ⟨[], by simp [hc]⟩
  · exact ⟨_, by rw [List.reverse_append]; rfl⟩

theorem cleanNum_cases (s : Bytes) (hs : cleanNum s = true) :
    s = [48] ∨ (hasLeadingZero s = false ∧ 0 < natOf s ∧ ∃ c t, stripTrailingZeros s = c :: t) := by
  have f := cleanNum_facts s hs
  cases s with
  | nil => exact absurd rfl f.2.1
  | cons c r =>
    by_cases hc : c = 48
    · subst hc
      cases r with
      | nil => exact Or.inl rfl
      | cons _ _ => simp [cleanNum] at hs
    · have hd := f.1.head
      obtain ⟨t, ht⟩ := strip_nonzero_head c r hc
      refine Or.inr ⟨?_, natOf_pos c r (by omega), c, t, ht⟩
      unfold hasLeadingZero
      split
      · next heq => cases heq; exact absurd rfl hc
      · rfl

/-- on components without leading zero (lone `0` allowed) Algorithm 3.3 is the numeric
    comparison -/
theorem cmpLaterComponent_clean (a b : Bytes) (ha : cleanNum a = true) (hb : cleanNum b = true) :
    cmpLaterComponent a b = compare (natOf a) (natOf b) := by
  have h0 : natOf [48] = 0 := rfl
  have hs0 : stripTrailingZeros [48] = [] := by decide
  unfold cmpLaterComponent
  rcases cleanNum_cases a ha with rfl | ⟨za, pa, ca, ta, sa⟩ <;>
    rcases cleanNum_cases b hb with rfl | ⟨zb, pb, cb, tb, sb⟩
  · decide
  · rw [if_pos (by simp [hasLeadingZero]), hs0, sb, h0, Nat.compare_eq_lt.2 pb]; rfl
  · rw [if_pos (by simp [hasLeadingZero]), hs0, sa, h0, Nat.compare_eq_gt.2 pa]; rfl
  · rw [if_neg (by simp [za, zb])]

theorem then_match (o x : Ordering) :
    (match o with
     | .eq => x
     | o => o) = o.then x := by
  cases o <;> rfl

/-- numeric lexicographic comparison of the later components, shorter list first -/
def lexNum : List Bytes → List Bytes → Ordering
  | [], [] => .eq
  | [], _ :: _ => .lt
  | _ :: _, [] => .gt
  | a :: as, b :: bs => (compare (natOf a) (natOf b)).then (lexNum as bs)

theorem cmpLaterComponents_clean (as bs : List Bytes)
    (ha : ∀ x ∈ as, cleanNum x = true) (hb : ∀ x ∈ bs, cleanNum x = true) :
    cmpLaterComponents as bs = lexNum as bs := by
  induction as generalizing bs with
  | nil => cases bs <;> rfl
  | cons a as ih =>
    cases bs with
    | nil => rfl
    | cons b bs =>
      simp only [cmpLaterComponents, lexNum]
      rw [cmpLaterComponent_clean a b (ha a (by simp)) (hb b (by simp)),
        ih bs (fun x hx => ha x (by simp [hx])) (fun x hx => hb x (by simp [hx]))]
      cases compare (natOf a) (natOf b) <;> rfl

theorem vercmp_then (a b : Spec.Pms.Version) :
    vercmp a b = (cmpNums a.nums b.nums).then ((cmpLetter a.letter b.letter).then
      ((cmpSufs a.sufs b.sufs).then (cmpRev a.rev b.rev))) := by
  -- the specification's `match … with | .eq => x | o => o` is `Ordering.then`
  have : vercmp a b = ((cmpNums a.nums b.nums).then ((cmpLetter a.letter b.letter).then
      (cmpSufs a.sufs b.sufs))).then (cmpRev a.rev b.rev) := rfl
  rw [this, Ordering.then_assoc, Ordering.then_assoc]

/-! ### comparing the encoded pieces -/

theorem pad_head (ds : Bytes) (hd : Digits ds) (hl : ds.length ≤ 5) :
    ∃ d0 t, padNumericSegment ds = d0 :: t ∧ 48 ≤ d0 := by
  have hlen := length_pad ds hl
  have hdig := digits_pad ds hd
  cases h : padNumericSegment ds with
  | nil => rw [h] at hlen; simp at hlen
  | cons d0 t => exact ⟨d0, t, rfl, (by rw [h] at hdig; exact hdig.head.1)⟩

/-- the later components: dot + padded number each; a shorter list is followed by a blank,
    which is below the dot -/
theorem encRest_order (as bs : List Bytes) (ta tb : Bytes)
    (ha : ∀ x ∈ as, cleanNum x = true) (hb : ∀ x ∈ bs, cleanNum x = true) :
    strCmp (encRest as (32 :: ta)) (encRest bs (32 :: tb)) =
      (lexNum as bs).then (strCmp ta tb) := by
  induction as generalizing bs with
  | nil =>
    cases bs with
    | nil => simp [encRest, lexNum, strCmp_cons_same, Ordering.then]
    | cons b bs => simp [encRest, lexNum, strCmp, Ordering.then]
  | cons a as ih =>
    cases bs with
    | nil => simp [encRest, lexNum, strCmp, Ordering.then]
    | cons b bs =>
      have fa := cleanNum_facts a (ha a (by simp))
      have fb := cleanNum_facts b (hb b (by simp))
      simp only [encRest, lexNum, strCmp_cons_same]
      rw [strCmp_append _ _ _ _ (by rw [length_pad a fa.2.2, length_pad b fb.2.2]),
        pad5_order a b fa.1 fb.1 fa.2.2 fb.2.2,
        ih bs (fun x hx => ha x (by simp [hx])) (fun x hx => hb x (by simp [hx])),
        Ordering.then_assoc]

def numVal : Option Bytes → Nat
  | none => 0
  | some ds => natOf ds

/-- a suffix number field followed by a blank: absent < any positive number -/
theorem numEnc_order (na nb : Option Bytes) (x y : Bytes)
    (ha : ∀ d, na = some d → posNum d = true) (hb : ∀ d, nb = some d → posNum d = true) :
    strCmp (numEnc na ++ 32 :: x) (numEnc nb ++ 32 :: y) =
      (compare (numVal na) (numVal nb)).then (strCmp x y) := by
  cases na with
  | none =>
    cases nb with
    | none => simp [numEnc, numVal, strCmp_cons_same, Ordering.then]
    | some db =>
      obtain ⟨hd, _, hl, hpos⟩ := posNum_facts db (hb db rfl)
      obtain ⟨d0, t, e, h0⟩ := pad_head db hd hl
      simp only [numEnc, numVal, List.nil_append, e, List.cons_append]
      rw [strCmp_cons_lt 32 d0 _ _ (by omega), compare_def]
      simp [hpos, Ordering.then]
  | some da =>
    obtain ⟨hda, _, hla, hposa⟩ := posNum_facts da (ha da rfl)
    cases nb with
    | none =>
      obtain ⟨d0, t, e, h0⟩ := pad_head da hda hla
      simp only [numEnc, numVal, List.nil_append, e, List.cons_append]
      rw [strCmp_cons_gt d0 32 _ _ (by omega), compare_def]
      have : ¬ natOf da < 0 := by omega
      simp [hposa, this, Ordering.then]
    | some db =>
      obtain ⟨hdb, _, hlb, _⟩ := posNum_facts db (hb db rfl)
      simp only [numEnc, numVal]
      rw [strCmp_append _ _ _ _ (by rw [length_pad da hla, length_pad db hlb]),
        pad5_order da db hda hdb hla hlb, strCmp_cons_same]

theorem sufNum_eq (s : Suffix) : sufNum s = numVal s.num := by
  cases h : s.num <;> simp [sufNum, numVal, h]

/-- the kind letters a<b<c<d<p are in the order of the ranks -/
theorem rank_sufCode (k k' : SufKind) :
    compare k.rank k'.rank = compare (sufCode k) (sufCode k') ∧ (k.rank = k'.rank → k = k') := by
  cases k <;> cases k' <;> decide

theorem cmpSuffix_key (x y : Suffix) :
    cmpSuffix x y =
      (compare (sufCode x.kind) (sufCode y.kind)).then (compare (numVal x.num) (numVal y.num)) := by
  obtain ⟨ho, hi⟩ := rank_sufCode x.kind y.kind
  rw [cmpSuffix, sufNum_eq, sufNum_eq, ← ho]
  split
  · next h => rw [h, Nat.compare_eq_eq.2 rfl]; rfl
  · next h =>
    have : compare x.kind.rank y.kind.rank ≠ .eq := fun e => h (hi (Nat.compare_eq_eq.1 e))
    cases hc : compare x.kind.rank y.kind.rank
    · rfl
    · exact absurd hc this
    · rfl

/-- Algorithm 3.5/3.6 on at most one suffix each is the comparison of (letter, number);
    the letter `n` of "no suffix" sits between `d` (rc) and `p` -/
theorem cmpSufs_key (sa sb : List Suffix) (ha : sa.length ≤ 1) (hb : sb.length ≤ 1) :
    cmpSufs sa sb = (compare (sufKey sa).1 (sufKey sb).1).then
      (compare (numVal (sufKey sa).2) (numVal (sufKey sb).2)) := by
  cases sa with
  | nil =>
    cases sb with
    | nil => rfl
    | cons b rb =>
      cases hk : b.kind <;> simp [cmpSufs, sufKey, sufCode, hk, compare_def, Ordering.then]
  | cons a ra =>
    cases eq_nil_of_cons_length_le_one ha
    cases sb with
    | nil => cases hk : a.kind <;> simp [cmpSufs, sufKey, sufCode, hk, compare_def, Ordering.then]
    | cons b rb =>
      cases eq_nil_of_cons_length_le_one hb
      simp only [sufKey, ← cmpSuffix_key, cmpSufs]
      cases cmpSuffix a b <;> rfl

theorem revPart_order (ra rb : Option Bytes)
    (ha : ∀ r, ra = some r → shortNum r = true) (hb : ∀ r, rb = some r → shortNum r = true) :
    strCmp (revPart ra) (revPart rb) = cmpRev ra rb := by
  have key : ∀ r : Option Bytes, (∀ x, r = some x → shortNum x = true) →
      ∃ d, revPart r = 114 :: padNumericSegment d ∧ revNum r = natOf d ∧ Digits d ∧ d.length ≤ 5 := by
    intro r h
    cases r with
    | none => exact ⟨[48], rfl, by decide, by intro d hd; simp at hd; omega, by simp⟩
    | some x =>
      obtain ⟨hd, _, hl⟩ := shortNum_facts x (h x rfl)
      exact ⟨x, rfl, rfl, hd, hl⟩
  obtain ⟨da, ea, va, hda, hla⟩ := key ra ha
  obtain ⟨db, eb, vb, hdb, hlb⟩ := key rb hb
  rw [ea, eb, strCmp_cons_same, pad5_order da db hda hdb hla hlb, cmpRev, va, vb]

theorem sufKey_posNum (sufs : List Suffix) (h : ∀ s ∈ sufs, dom5Suffix s = true) (d : Bytes)
    (hd : (sufKey sufs).2 = some d) : posNum d = true := by
  cases sufs with
  | nil => cases hd
  | cons s r => exact dom5Suffix_num (h s (by simp)) hd

/-- the letter, when present, followed by the blank that precedes the suffix field -/
def letterField : Option Nat → Bytes
  | none => []
  | some l => [l, 32]

theorem tailOf_eq (v : Version) :
    tailOf v = 32 :: (letterField v.letter ++ (sufPart v.sufs ++ 32 :: revPart v.rev)) := by
  unfold tailOf
  cases v.letter <;> rfl

theorem tailOf_order (a b : Version) (ha : dom5 a = true) (hb : dom5 b = true) :
    ∃ ta tb, tailOf a = 32 :: ta ∧ tailOf b = 32 :: tb ∧
      strCmp ta tb = (cmpLetter a.letter b.letter).then
        ((cmpSufs a.sufs b.sufs).then (cmpRev a.rev b.rev)) := by
  have da := dom5_facts a ha
  have db := dom5_facts b hb
  refine ⟨_, _, tailOf_eq a, tailOf_eq b, ?_⟩
  have hsr : strCmp (sufPart a.sufs ++ 32 :: revPart a.rev) (sufPart b.sufs ++ 32 :: revPart b.rev) =
      (cmpSufs a.sufs b.sufs).then (cmpRev a.rev b.rev) := by
    simp only [sufPart, List.cons_append, strCmp_cons_same, strCmp_cons]
    rw [numEnc_order _ _ _ _ (sufKey_posNum _ da.sufsOk) (sufKey_posNum _ db.sufsOk),
      revPart_order a.rev b.rev da.rev db.rev,
      cmpSufs_key a.sufs b.sufs da.sufsLen db.sufsLen, Ordering.then_assoc]
  cases hla : a.letter with
  | none =>
    cases hlb : b.letter with
    | none => simpa [letterField, cmpLetter] using hsr
    | some lb =>
      -- a letter is above the `_` that opens the suffix field
      have := (db.letter lb hlb).1
      simp [sufPart, letterField, cmpLetter, strCmp_cons_lt 95 lb _ _ (by omega)]
  | some la =>
    have := (da.letter la hla).1
    cases hlb : b.letter with
    | none =>
      simp [sufPart, letterField, cmpLetter, strCmp_cons_gt la 95 _ _ (by omega)]
    | some lb =>
      simp only [letterField, cmpLetter, List.cons_append, List.nil_append]
      rw [strCmp_cons, strCmp_cons_same, hsr]

/-! ### MakeNextVer terminates: every `again` step hands on a strictly shorter string -/

theorem stripZs_again (l : Bytes) (k : Nat) (v' : Bytes) (h : stripZs l k = .again v') :
    v'.length < l.length := by
  induction l generalizing k with
  | nil => cases h
  | cons c rest ih =>
    revert h
    unfold stripZs
    have i := @ite_ind _ fun r => r = Step.again v' → v'.length < (c :: rest).length
    refine i ?_ (i nofun ?_)
    · intro h; cases h; simp
    · cases rest with
      | nil => nofun
      | cons d r => exact i nofun fun h => Nat.lt_succ_of_lt (ih _ h)

theorem nextStep_again (v v' : Bytes) (h : nextStep v = .again v') : v'.length < v.length := by
  have hle : (v.reverse.dropWhile isDotDash).length ≤ v.length := by
    simpa using (List.dropWhile_suffix isDotDash (l := v.reverse)).length_le
  revert h
  unfold nextStep
  generalize v.reverse.dropWhile isDotDash = r at hle
  cases r with
  | nil => nofun
  | cons c rest =>
    dsimp only
    split
    · rename_i hc
      have hd : ((c :: rest).dropWhile Lc.Version.isDigit).length ≤ rest.length := by
        rw [List.dropWhile_cons_of_pos hc]
        exact (List.dropWhile_suffix _).length_le
      split
      · intro h
        cases h
        simp only [List.length_reverse, List.length_cons] at hle ⊢
        omega
      · nofun
    · intro h
      have := stripZs_again _ _ _ h
      simp only [List.length_cons] at this hle
      omega

theorem makeNextVerFuel_some (n : Nat) (v : Bytes) (h : v.length < n) :
    (makeNextVerFuel n v).isSome = true := by
  induction n generalizing v with
  | zero => omega
  | succ n ih =>
    simp only [makeNextVerFuel]
    cases hs : nextStep v with
    | done r => rfl
    | again v' =>
      have := nextStep_again v v' hs
      exact ih v' (by omega)

/-! ### general list facts: a run of bytes satisfying `p`, then a byte (or the end) that does not -/

theorem takeWhile_append_stop (p : Nat → Bool) (xs r : Bytes) (hx : ∀ x ∈ xs, p x = true)
    (hr : p (Atom.hd r) = false) : (xs ++ r).takeWhile p = xs := by
  rw [List.takeWhile_append_of_pos hx]
  cases r with
  | nil => simp
  | cons c r' => simp [show p c = false from hr]

theorem dropWhile_append_stop (p : Nat → Bool) (xs r : Bytes) (hx : ∀ x ∈ xs, p x = true)
    (hr : p (Atom.hd r) = false) : (xs ++ r).dropWhile p = r := by
  rw [List.dropWhile_append_of_pos hx]
  cases r with
  | nil => rfl
  | cons c r' => simp [show p c = false from hr]

theorem span_loop_eq (p : Nat → Bool) (l acc : Bytes) :
    List.span.loop p l acc = (acc.reverse ++ l.takeWhile p, l.dropWhile p) := by
  induction l generalizing acc with
  | nil => simp [List.span.loop]
  | cons a l ih => cases h : p a <;> simp [List.span.loop, h, ih]

theorem span_all (p : Nat → Bool) (xs r : Bytes) (hx : ∀ x ∈ xs, p x = true)
    (hr : p (Atom.hd r) = false) : (xs ++ r).span p = (xs, r) := by
  rw [List.span, span_loop_eq, takeWhile_append_stop p xs r hx hr, dropWhile_append_stop p xs r hx hr]
  rfl

/-! ### the version regexp on the rendered text of a Dom5 version -/

def revText : Option Bytes → Bytes
  | none => []
  | some r => 45 :: 114 :: r

theorem render_eq (v : Version) :
    v.render = joinWith 46 v.nums ++ (letterBytes v.letter ++
      (v.sufs.flatMap Suffix.render ++ revText v.rev)) := by
  cases h : v.rev <;>
    simp [Version.render, renderBase_eq, Version.renderSufs, revText, h, List.append_assoc]

/-- `t` does not continue a `\d+(?:\.\d+)*` match: its first byte (0 when empty) is
    neither a digit nor the dot -/
def StopsNums (t : Bytes) : Prop := Lc.Version.isDigit (Atom.hd t) = false ∧ Atom.hd t ≠ 46

theorem scanNums_stop (fuel : Nat) (t : Bytes) (h : StopsNums t) : scanNums fuel t = ([], t) := by
  cases fuel with
  | zero => rfl
  | succ f =>
    cases t with
    | nil => rfl
    | cons c t' =>
      obtain ⟨hc, hdot⟩ := h
      simp only [Atom.hd, List.head?_cons, Option.getD_some] at hc hdot
      have : (c == 46) = false := by simp [hdot]
      simp [scanNums, hc, this]

theorem scanNums_digits (ds r : Bytes) (fuel : Nat) (hd : Digits ds) (hf : (ds ++ r).length < fuel) :
    scanNums fuel (ds ++ r) =
      (ds ++ (scanNums (fuel - ds.length) r).1, (scanNums (fuel - ds.length) r).2) := by
  induction ds generalizing fuel with
  | nil => simp
  | cons d ds ih =>
    cases fuel with
    | zero => simp at hf
    | succ f =>
      have hdd : Lc.Version.isDigit d = true := (isDigit_iff d).mpr hd.head
      have := ih f hd.tail (by simp at hf ⊢; omega)
      simp only [List.cons_append, scanNums, hdd, if_true, this, List.length_cons]
      have e : f + 1 - (ds.length + 1) = f - ds.length := by omega
      rw [e]

theorem scanNums_dot (f : Nat) (rest : Bytes) (h : Lc.Version.isDigit (Atom.hd rest) = true) :
    scanNums (f + 1) (46 :: rest) = (46 :: (scanNums f rest).1, (scanNums f rest).2) := by
  simp [scanNums, h, show Lc.Version.isDigit 46 = false by decide]

theorem hd_join_digit (m : Bytes) (ms : List Bytes) (t : Bytes) (hm : Digits m) (hne : m ≠ []) :
    Lc.Version.isDigit (Atom.hd (joinWith 46 (m :: ms) ++ t)) = true := by
  cases m with
  | nil => exact absurd rfl hne
  | cons d m' =>
    have := (isDigit_iff d).mpr hm.head
    cases ms <;> simpa [joinWith, Atom.hd] using this

theorem scanNums_join (n : Bytes) (rest : List Bytes) (t : Bytes) (fuel : Nat)
    (hr : ∀ m ∈ n :: rest, Digits m ∧ m ≠ []) (ht : StopsNums t)
    (hf : (joinWith 46 (n :: rest) ++ t).length < fuel) :
    scanNums fuel (joinWith 46 (n :: rest) ++ t) = (joinWith 46 (n :: rest), t) := by
  have hn := (hr n (by simp)).1
  induction rest generalizing n fuel with
  | nil =>
    simp only [joinWith] at hf ⊢
    rw [scanNums_digits n t fuel hn hf, scanNums_stop _ t ht]
    simp
  | cons m ms ih =>
    have hr' := fun x hx => hr x (List.mem_cons_of_mem _ hx)
    obtain ⟨hm, hmne⟩ := hr' m (by simp)
    simp only [joinWith, List.append_assoc, List.cons_append] at hf ⊢
    rw [scanNums_digits n _ fuel hn hf]
    have hlen : n.length + 1 + (joinWith 46 (m :: ms) ++ t).length < fuel := by
      simp only [List.length_append, List.length_cons] at hf ⊢
      omega
    obtain ⟨f, hfu⟩ : ∃ f, fuel - n.length = f + 1 := ⟨fuel - n.length - 1, by omega⟩
    rw [hfu, scanNums_dot f _ (hd_join_digit m ms t hm hmne), ih m f hr' (by omega) hm]

theorem kindText_word (k : SufKind) : ∀ x ∈ k.text, isWord x = true := by
  cases k <;> decide

theorem digits_word (ds : Bytes) (h : Digits ds) : ∀ x ∈ ds, isWord x = true := by
  intro x hx
  have := h x hx
  simp [isWord, isAlnum, Lc.Version.isDigit]
  omega

theorem digits_isDigit (ds : Bytes) (h : Digits ds) : ∀ x ∈ ds, Lc.Version.isDigit x = true :=
  fun x hx => (isDigit_iff x).mpr (h x hx)

/-- what may follow a suffix or a revision: nothing, or a byte that is not `\w` -/
def StopsWord (t : Bytes) : Prop := isWord (Atom.hd t) = false

theorem takeLetter_some (l : Nat) (t : Bytes) (h : isLower l = true) :
    takeLetter (l :: t) = ([l], t) := by
  simp [takeLetter, Atom.hd, h]

theorem takeLetter_none (t : Bytes) (h : isLower (Atom.hd t) = false) : takeLetter t = ([], t) := by
  simp [takeLetter, h]

theorem takeSuffix_none (t : Bytes) (h : (Atom.hd t == 95) = false) : takeSuffix t = ([], t) := by
  simp [takeSuffix, h]

theorem takeSuffix_word (w tl : Bytes) (hw : ∀ x ∈ w, isWord x = true) (hne : w ≠ [])
    (htl : StopsWord tl) : takeSuffix (95 :: (w ++ tl)) = (95 :: w, tl) := by
  have hsp := span_all isWord w tl hw htl
  cases w with
  | nil => exact absurd rfl hne
  | cons c w' =>
    rw [List.cons_append] at hsp
    simp [takeSuffix, Atom.hd, hw c (by simp), hsp]

theorem takeSuffix_one (s : Suffix) (tl : Bytes) (hs : dom5Suffix s = true) (htl : StopsWord tl) :
    takeSuffix (s.render ++ tl) = (s.render, tl) := by
  have hw : ∀ x ∈ s.kind.text ++ s.num.getD [], isWord x = true := by
    intro x hx
    rcases List.mem_append.mp hx with hx | hx
    · exact kindText_word s.kind x hx
    · cases hnum : s.num with
      | none => rw [hnum] at hx; simp at hx
      | some ds =>
        rw [hnum] at hx
        exact digits_word ds (posNum_facts ds (dom5Suffix_num hs hnum)).1 x (by simpa using hx)
  have hne : s.kind.text ++ s.num.getD [] ≠ [] := by
    cases s.kind <;> simp [SufKind.text]
  simpa [Suffix.render] using takeSuffix_word _ tl hw hne htl

theorem takeRevision_nil : takeRevision [] = ([], []) := by decide

theorem takeRevision_some (r : Bytes) (hd : Digits r) (hne : r ≠ []) :
    takeRevision (45 :: 114 :: r) = (114 :: r, []) := by
  have hsp := span_all Lc.Version.isDigit r [] (digits_isDigit r hd) rfl
  simp only [List.append_nil] at hsp
  cases r with
  | nil => exact absurd rfl hne
  | cons d r' =>
    have hdd := (isDigit_iff d).mpr hd.head
    simp [takeRevision, Atom.hd, hdd, hsp]

/-- **the version regexp splits the rendered text of a Dom5 version into the groups the
    order theorem is about** (no wildcard) -/
theorem matchVerTail_render (v : Version) (h : dom5 v = true) :
    matchVerTail v.render = some ⟨v.renderBase, v.renderSufs, v.renderRev, false⟩ := by
  have d := dom5_facts v h
  cases hn : v.nums with
  | nil => exact absurd hn d.nums
  | cons n rest =>
  have hnums : ∀ m ∈ n :: rest, Digits m ∧ m ≠ [] := hn ▸ d.digits
  have hn1 := hnums n (by simp)
  -- revision stage
  have hRev : takeRevision (revText v.rev) = (revGroup v.rev, []) := by
    cases hr : v.rev with
    | none => exact takeRevision_nil
    | some r =>
      have := shortNum_facts r (d.rev r hr)
      exact takeRevision_some r this.1 this.2.1
  -- the revision text is empty or starts with `-`
  have revHd : StopsWord (revText v.rev) ∧ (Atom.hd (revText v.rev) == 95) = false ∧
      isLower (Atom.hd (revText v.rev)) = false ∧ StopsNums (revText v.rev) := by
    cases v.rev <;> simp [StopsWord, StopsNums, revText, Atom.hd] <;> decide
  -- suffix stage; what it leaves for the letter and number stages to stop at
  have hSuf : takeSuffix (v.sufs.flatMap Suffix.render ++ revText v.rev) =
        (v.sufs.flatMap Suffix.render, revText v.rev)
      ∧ isLower (Atom.hd (v.sufs.flatMap Suffix.render ++ revText v.rev)) = false
      ∧ StopsNums (v.sufs.flatMap Suffix.render ++ revText v.rev) := by
    cases hs : v.sufs with
    | nil => exact ⟨by simpa using takeSuffix_none _ revHd.2.1, by simpa using revHd.2.2⟩
    | cons s r =>
      constructor
      · cases eq_nil_of_cons_length_le_one (hs ▸ d.sufsLen)
        simpa using takeSuffix_one s _ (d.sufsOk s (by simp [hs])) revHd.1
      · simp [StopsNums, Suffix.render, Atom.hd]; decide
  -- letter stage
  have hLet : takeLetter (letterBytes v.letter ++ (v.sufs.flatMap Suffix.render ++ revText v.rev)) =
        (letterBytes v.letter, v.sufs.flatMap Suffix.render ++ revText v.rev)
      ∧ StopsNums (letterBytes v.letter ++ (v.sufs.flatMap Suffix.render ++ revText v.rev)) := by
    cases hl : v.letter with
    | none => exact ⟨by simpa [letterBytes] using takeLetter_none _ hSuf.2.1,
        by simpa [letterBytes] using hSuf.2.2⟩
    | some l =>
      have hl2 := d.letter l hl
      have hlow : isLower l = true := by simp [isLower]; omega
      have hdl : Lc.Version.isDigit l = false := by simp [Lc.Version.isDigit]; omega
      exact ⟨by simpa [letterBytes] using takeLetter_some l _ hlow,
        by simpa [letterBytes, Atom.hd] using hdl,
        by simp only [letterBytes, List.cons_append, Atom.hd, List.head?_cons, Option.getD_some]; omega⟩
  -- numbers stage
  have hscan := scanNums_join n rest _ (v.render.length + 1) hnums hLet.2
    (by rw [render_eq, hn]; omega)
  have hhead : Lc.Version.isDigit (Atom.hd v.render) = true := by
    rw [render_eq, hn]
    exact hd_join_digit n rest _ hn1.1 hn1.2
  rw [← hn, ← render_eq] at hscan
  unfold matchVerTail
  simp only [hhead, Bool.not_true, Bool.false_eq_true, if_false, hscan, hLet.1, hSuf.1, hRev]
  simp [takeStar, renderBase_eq, Version.renderSufs, renderRev_eq]

/-! ### range atoms (`~`, `=…*`): one pass of MakeNextVer on a comparison string -/

/-- `incRev` (little-endian increment) of digits: same length, and the big-endian strings
    compare `lt` -/
theorem incRev_facts (ds r : Bytes) (hd : Digits ds) (h : incRev ds = some r) :
    r.length = ds.length ∧ strCmp ds.reverse r.reverse = .lt := by
  induction ds generalizing r with
  | nil => cases h
  | cons d ds ih =>
    have hdd := hd.head
    simp only [incRev, show (d + 1) % 256 = d + 1 by omega] at h
    split at h
    · cases h
      refine ⟨rfl, ?_⟩
      rw [List.reverse_cons, List.reverse_cons, strCmp_append _ _ _ _ rfl, strCmp_self]
      simp [Ordering.then, strCmp]
    · obtain ⟨r', hrec, rfl⟩ := Option.map_eq_some_iff.mp h
      obtain ⟨hl, hc⟩ := ih r' hd.tail hrec
      refine ⟨by simp [hl], ?_⟩
      rw [List.reverse_cons, List.reverse_cons, strCmp_append _ _ _ _ (by simp [hl]), hc]
      rfl

theorem incPlain_facts (g : Bytes) (hd : Digits g) (h : (incPlain g).2 = false) :
    (incPlain g).1.length = g.length ∧ strCmp g (incPlain g).1 = .lt := by
  unfold incPlain at h ⊢
  cases hr : incRev g.reverse with
  | none => rw [hr] at h; cases h
  | some r =>
    have hd' : Digits g.reverse := fun x hx => hd x (by simpa using hx)
    obtain ⟨hl, hc⟩ := incRev_facts g.reverse r hd' hr
    rw [List.reverse_reverse] at hc
    exact ⟨by simpa using hl, hc⟩

/-- the string ends in a digit group `g` that is preceded by a non-digit (or by nothing) and
    does not overflow: one pass of MakeNextVer increments the group (eight digits are excluded:
    `incrementDecimal` may read them as a date) -/
theorem nextStep_digits (X g : Bytes) (hX : Lc.Version.isDigit (Atom.hd X.reverse) = false)
    (hg : Digits g) (hne : g ≠ []) (hlen : g.length ≠ 8) (hinc : (incPlain g).2 = false) :
    nextStep (X ++ g) = .done (X ++ (incPlain g).1) := by
  have hgd := digits_isDigit g.reverse (fun x hx => hg x (by simpa using hx))
  have htw := takeWhile_append_stop Lc.Version.isDigit g.reverse X.reverse hgd hX
  have hdw := dropWhile_append_stop Lc.Version.isDigit g.reverse X.reverse hgd hX
  have hincd : incrementDecimal g = ((incPlain g).1, false) := by
    simp [incrementDecimal, hlen, ← hinc]
  obtain ⟨c, gr, hgr⟩ := List.exists_cons_of_ne_nil (l := g.reverse) (by simpa using hne)
  have hc : Lc.Version.isDigit c = true := hgd c (by simp [hgr])
  have hcdd : isDotDash c = false := by
    have := (isDigit_iff c).mp hc
    simp [isDotDash]; omega
  have hrr : (c :: gr).reverse = g := by rw [← hgr, List.reverse_reverse]
  rw [hgr, List.cons_append] at htw hdw
  have hdd : (X ++ g).reverse.dropWhile isDotDash = c :: (gr ++ X.reverse) := by
    simp [hgr, hcdd]
  simp only [nextStep, hdd, hc, if_true, htw, hdw, hrr, hincd, List.reverse_reverse]

/-- the string ends in a byte that MakeNextVer simply increments -/
theorem nextStep_letter (X : Bytes) (c : Nat) (h1 : Lc.Version.isDigit c = false)
    (h2 : c ≠ 45 ∧ c ≠ 95 ∧ c ≠ 46 ∧ c ≠ 90) (h3 : c < 122) :
    nextStep (X ++ [c]) = .done (X ++ [c + 1]) := by
  have hdd : isDotDash c = false := by simp [isDotDash]; omega
  have e1 : (c == 45) = false := by simp; omega
  have e2 : (c == 95) = false := by simp; omega
  have e3 : (c == 46) = false := by simp; omega
  have e4 : (c == 90) = false := by simp; omega
  unfold nextStep
  simp [hdd, h1, stripZs, e1, e2, e3, e4, h3]

theorem makeNextVer_of_done (s r : Bytes) (h : nextStep s = .done r) : makeNextVer s = some r := by
  simp [makeNextVer, makeNextVerFuel, h]

/-- a string is never above its own extensions -/
theorem bytesLt_ext_self (s x : Bytes) : bytesLt (s ++ x) s = false := by
  induction s with
  | nil => cases x <;> rfl
  | cons a s ih => simp [bytesLt, ih]

/-! ### the comparison string of a range atom (`~v`, `=v*`) -/

def sufTail : List Suffix → Bytes
  | [] => []
  | s :: r => 32 :: sufPart (s :: r)

/-- shape of the comparison string of `~v` / `=v*` when the revision is absent or there is
    no suffix (the cases in which the code drops the revision) -/
theorem compVerRange_shape (v : Version) (h : dom5 v = true) (hr : v.sufs = [] ∨ v.rev = none) :
    ∃ n rest, v.nums = n :: rest ∧
      compVerOf v.renderBase v.renderSufs v.renderRev true =
        padNumericSegment n ++ encRest rest (letterPart v.letter ++ sufTail v.sufs) := by
  obtain ⟨n, rest, hn, hb, hs, _⟩ := norm_shapes v h
  refine ⟨n, rest, hn, ?_⟩
  cases hsf : v.sufs with
  | nil => simp [compVerOf, hb, Version.renderSufs, hsf, sufTail]
  | cons s r =>
    have hrn : v.rev = none := hr.resolve_left (by simp [hsf])
    have hne : v.renderSufs.isEmpty = false := by simp [Version.renderSufs, hsf, Suffix.render]
    rw [hsf] at hs
    simp [compVerOf, hb, hs, hne, renderRev_eq, hrn, revGroup, sufTail, encRest_append]

/-- the range comparer accepts an extension of `S` that is below the string one pass of
    MakeNextVer makes of `S` (an extension is never below `S` itself) -/
theorem range_ext (S N x : Bytes) (hstep : nextStep S = .done N) (hlt : strCmp (S ++ x) N = .lt) :
    versionComparer relopRange S (S ++ x) = some true := by
  simp [versionComparer, relopRange, relopLt, relopLe, relopEq, relopGe, relopGt,
    makeNextVer_of_done _ _ hstep, bytesLe, bytesLt_ext_self S x, bytesLt_iff, hlt]

theorem range_ext_group (X g x : Bytes) (hX : Lc.Version.isDigit (Atom.hd X.reverse) = false)
    (hg : Digits g) (hl5 : g.length ≤ 5) (hinc : (incPlain (padNumericSegment g)).2 = false) :
    versionComparer relopRange (X ++ padNumericSegment g) (X ++ padNumericSegment g ++ x) = some true := by
  have hpd := digits_pad g hg
  have hpl := length_pad g hl5
  obtain ⟨hvl, hvc⟩ := incPlain_facts _ hpd hinc
  refine range_ext _ _ x (nextStep_digits X _ hX hpd (by intro e; rw [e] at hpl; simp at hpl) (by omega) hinc) ?_
  rw [List.append_assoc, strCmp_append X X _ _ rfl, strCmp_self,
    ← List.append_nil (incPlain _).1, strCmp_append _ _ x [] hvl.symm, hvc]
  rfl

/-- range comparer on an extension, letter ending -/
theorem range_ext_letter (X x : Bytes) (c : Nat) (hstep : nextStep (X ++ [c]) = .done (X ++ [c + 1])) :
    versionComparer relopRange (X ++ [c]) (X ++ [c] ++ x) = some true := by
  refine range_ext _ _ x hstep ?_
  rw [List.append_assoc, strCmp_append X X _ _ rfl, strCmp_self]
  simp [Ordering.then, strCmp]

/-- the digit group MakeNextVer increments in the comparison string of a range atom
    (`none`: the string ends in a letter) -/
def lastGroup (v : Version) : Option Bytes :=
  match v.sufs with
  | s :: _ => s.num
  | [] =>
    match v.letter with
    | some _ => none
    | none => v.nums.getLast?

/-- no carry out of the last digit group (the last component / suffix number is not 99999) -/
def noCarry (v : Version) : Bool :=
  match lastGroup v with
  | some g => !(incPlain (padNumericSegment g)).2
  | none => true

theorem sufCode_facts (k : SufKind) :
    Lc.Version.isDigit (sufCode k) = false ∧ (sufCode k ≠ 45 ∧ sufCode k ≠ 95 ∧ sufCode k ≠ 46 ∧
      sufCode k ≠ 90) ∧ sufCode k < 122 := by
  cases k <;> decide

/-- **the range comparer accepts every extension of its comparison string** (Dom5 version,
    revision absent or no suffix, letter not `z`, no carry) -/
theorem range_accepts_ext (v : Version) (h : dom5 v = true) (hr : v.sufs = [] ∨ v.rev = none)
    (hz : v.letter ≠ some 122) (hnc : noCarry v = true) (x : Bytes) :
    versionComparer relopRange (compVerOf v.renderBase v.renderSufs v.renderRev true)
      (compVerOf v.renderBase v.renderSufs v.renderRev true ++ x) = some true := by
  obtain ⟨n, rest, hn, hshape⟩ := compVerRange_shape v h hr
  rw [hshape, show ∀ t, encRest rest t = encRest rest [] ++ t from encRest_append rest []]
  have d := dom5_facts v h
  cases hsf : v.sufs with
  | cons s r =>
    cases eq_nil_of_cons_length_le_one (hsf ▸ d.sufsLen)
    have hk := sufCode_facts s.kind
    cases hnum : s.num with
    | none =>
      have := range_ext_letter (padNumericSegment n ++ (encRest rest [] ++ (letterPart v.letter ++ [32, 95]))) x _
        (nextStep_letter _ _ hk.1 hk.2.1 hk.2.2)
      simpa [sufTail, sufPart, sufKey, numEnc, hnum] using this
    | some g =>
      obtain ⟨hd, _, hl5, _⟩ := posNum_facts g (dom5Suffix_num (d.sufsOk s (by simp [hsf])) hnum)
      have := range_ext_group (padNumericSegment n ++ (encRest rest [] ++ (letterPart v.letter ++ [32, 95])) ++
        [sufCode s.kind]) g x (by simpa [Atom.hd] using hk.1) hd hl5
        (by simpa [noCarry, lastGroup, hsf, hnum] using hnc)
      simpa [sufTail, sufPart, sufKey, numEnc, hnum] using this
  | nil =>
    cases hlt : v.letter with
    | some l =>
      have := d.letter l hlt
      have : l ≠ 122 := fun e => hz (by rw [hlt, e])
      have := range_ext_letter (padNumericSegment n ++ (encRest rest [] ++ [32])) x l
        (nextStep_letter _ l (by simp [Lc.Version.isDigit]; omega) (by omega) (by omega))
      simpa [letterPart, sufTail] using this
    | none =>
      obtain ⟨X, g, hg, hX, e⟩ := enc_last n rest
      obtain ⟨hgd, _, hl5⟩ := cleanNum_facts g (d.clean g (hn ▸ List.mem_of_getLast? hg))
      simp only [letterPart, sufTail, List.append_nil, e]
      exact range_ext_group X g x hX hgd hl5 (by simpa [noCarry, lastGroup, hsf, hlt, hn, hg] using hnc)

/-! ### reflexivity of the PMS comparison (spec side) -/

theorem cmpLaterComponent_self (a : Bytes) : cmpLaterComponent a a = .eq := by
  simp only [cmpLaterComponent]
  split
  · exact strCmp_self _
  · exact Nat.compare_eq_eq.mpr rfl

theorem cmpLaterComponents_self (l : List Bytes) : cmpLaterComponents l l = .eq := by
  induction l with
  | nil => rfl
  | cons a l ih => simp [cmpLaterComponents, cmpLaterComponent_self, ih]

theorem cmpNums_self (l : List Bytes) : cmpNums l l = .eq := by
  cases l with
  | nil => rfl
  | cons a l => simp [cmpNums, cmpLaterComponents_self]

theorem cmpLetter_self (o : Option Nat) : cmpLetter o o = .eq := by
  cases o <;> simp [cmpLetter]

theorem cmpSufs_self (l : List Suffix) : cmpSufs l l = .eq := by
  induction l with
  | nil => rfl
  | cons a l ih => simp [cmpSufs, cmpSuffix, ih]

theorem vercmpNoRev_same (a b : Version) (h1 : a.nums = b.nums) (h2 : a.letter = b.letter)
    (h3 : a.sufs = b.sufs) : vercmpNoRev a b = .eq := by
  simp [vercmpNoRev, h1, h2, h3, cmpNums_self, cmpLetter_self, cmpSufs_self]

/-- the comparison string of an installed package extends the one of a range atom with the
    same components, letter and suffixes -/
theorem compVer_extends_range (pat cand : Version) (hp : dom5 pat = true) (hc : dom5 cand = true)
    (hr : pat.sufs = [] ∨ pat.rev = none)
    (h1 : cand.nums = pat.nums) (h2 : cand.letter = pat.letter) (h3 : cand.sufs = pat.sufs) :
    ∃ x, compVerOf cand.renderBase cand.renderSufs cand.renderRev false =
      compVerOf pat.renderBase pat.renderSufs pat.renderRev true ++ x := by
  obtain ⟨n, rest, hn, hs⟩ := compVer_shape cand hc
  obtain ⟨n', rest', hn', hs'⟩ := compVerRange_shape pat hp hr
  have : n :: rest = n' :: rest' := by rw [← hn, ← hn', h1]
  cases this
  rw [hs, hs', tailOf, h2, h3]
  cases hsf : pat.sufs with
  | nil =>
    refine ⟨32 :: (sufPart [] ++ 32 :: revPart cand.rev), ?_⟩
    simp [sufTail, ← encRest_append]
  | cons s r =>
    refine ⟨32 :: revPart cand.rev, ?_⟩
    simp [sufTail, ← encRest_append]

end Lc.Lemmas.Version
