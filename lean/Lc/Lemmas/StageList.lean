/-
  Helper lemmas about the member-map model (Lc/Model/StageList.lean): the map operations
  on names; `StepInv`, what it takes for a property of the map to be kept by every pipeline
  step; its instance `MapOK` (names pairwise different, no entry is a hard link before
  `Finalize`, only regular files carry an inode identity); `Finalize` sorts a permutation of
  the map and `fixHardlinks` links only backwards.  In front, a fact that is not about the map:
  a successful `Except.map`.
-/
import Lc.Model.StageList
import Lc.Lemmas.Prefix
import Lc.Lemmas.StageEntry

namespace Lc.Stage

theorem except_map_ok {α β : Type} {f : α → β} {r : Res α} {b : β}
    (h : Except.map f r = .ok b) : ∃ a, r = .ok a ∧ f a = b := by
  cases r with
  | error e => cases h
  | ok a => exact ⟨a, rfl, by cases h; rfl⟩

theorem has_iff (m : EMap) (n : Bytes) : m.has n = true ↔ n ∈ m.names := by
  simp [EMap.has, EMap.names]

theorem has_false_iff (m : EMap) (n : Bytes) : m.has n = false ↔ n ∉ m.names := by
  rw [← has_iff]; cases m.has n <;> simp

theorem has_cons (x : Entry) (xs : EMap) (n : Bytes) :
    EMap.has (x :: xs) n = ((x.name == n) || EMap.has xs n) := rfl

theorem names_cons (x : Entry) (xs : EMap) : EMap.names (x :: xs) = x.name :: EMap.names xs := rfl

theorem insert_cons (x : Entry) (xs : EMap) (e : Entry) :
    EMap.insert (x :: xs) e = if x.name == e.name then e :: xs else x :: EMap.insert xs e := rfl

theorem names_insert (m : EMap) (e : Entry) :
    (m.insert e).names = if m.has e.name then m.names else m.names ++ [e.name] := by
  induction m with
  | nil => rfl
  | cons x xs ih =>
    rw [insert_cons, has_cons]
    cases hx : x.name == e.name with
    | true => rw [if_pos rfl, Bool.true_or, if_pos rfl, names_cons, names_cons, eq_of_beq hx]
    | false =>
      rw [if_neg Bool.false_ne_true, Bool.false_or, names_cons, names_cons, ih]
      split <;> rfl

theorem mem_insert {m : EMap} {e x : Entry} (h : x ∈ m.insert e) : x = e ∨ x ∈ m := by
  induction m with
  | nil => exact Or.inl (List.mem_singleton.mp h)
  | cons y ys ih =>
    rw [insert_cons] at h
    split at h
    · exact (List.mem_cons.mp h).imp_right (List.mem_cons_of_mem _)
    · rcases List.mem_cons.mp h with h | h
      · exact Or.inr (h ▸ List.mem_cons_self)
      · exact (ih h).imp_right (List.mem_cons_of_mem _)

theorem mem_names_insert (m : EMap) (e : Entry) (n : Bytes) :
    n ∈ (m.insert e).names ↔ n = e.name ∨ n ∈ m.names := by
  rw [names_insert]
  split
  · rename_i h
    exact ⟨Or.inr, fun hn => hn.elim (fun hn => hn ▸ (has_iff _ _).mp h) id⟩
  · simp [or_comm]

theorem insert_nodup (m : EMap) (e : Entry) (h : m.names.Nodup) : (m.insert e).names.Nodup := by
  rw [names_insert]
  split
  · exact h
  · rename_i hh
    have : e.name ∉ m.names := fun hm => hh ((has_iff _ _).mpr hm)
    simpa [List.nodup_append, h] using fun a ha (e' : a = e.name) => this (e' ▸ ha)

theorem names_filter_sublist (m : EMap) (p : Entry → Bool) :
    List.Sublist (EMap.names (m.filter p)) m.names := by
  unfold EMap.names
  exact List.Sublist.map _ List.filter_sublist

theorem mem_names_filter (m : EMap) (q : Bytes → Bool) (x : Bytes) :
    x ∈ EMap.names (m.filter fun e => q e.name) ↔ x ∈ m.names ∧ q x = true := by
  simp only [EMap.names, List.mem_map, List.mem_filter]
  constructor
  · rintro ⟨e, ⟨he, hq⟩, rfl⟩
    exact ⟨⟨e, he, rfl⟩, hq⟩
  · rintro ⟨⟨e, he, rfl⟩, hq⟩
    exact ⟨e, ⟨he, hq⟩, rfl⟩

theorem mem_names_erase (m : EMap) (n x : Bytes) :
    x ∈ (m.erase n).names ↔ x ∈ m.names ∧ x ≠ n :=
  (mem_names_filter m (· != n) x).trans (by rw [bne_iff_ne])

theorem not_mem_names_erase (m : EMap) (n : Bytes) : n ∉ (m.erase n).names :=
  fun h => ((mem_names_erase m n n).mp h).2 rfl

theorem mem_names_removeGlob (ns : List Bytes) : ∀ (m : EMap) (x : Bytes),
    x ∈ (removeGlob m ns).names ↔ x ∈ m.names ∧ x ∉ ns := by
  induction ns with
  | nil => intro m x; simp [removeGlob]
  | cons n ns ih =>
    intro m x
    -- erasing an absent name changes nothing: both branches of the loop body remove `n`
    have hstep : x ∈ (if m.has n then m.erase n else m).names ↔ x ∈ m.names ∧ x ≠ n := by
      split
      · exact mem_names_erase m n x
      · rename_i hh
        exact ⟨fun a => ⟨a, fun e => hh ((has_iff _ _).mpr (e ▸ a))⟩, fun a => a.1⟩
    rw [removeGlob, List.foldl_cons]
    exact (ih _ x).trans (by rw [hstep, List.mem_cons, not_or, and_assoc])

/-! ### `MapOK` through `addEntry` and `AddMissingStageDirs` -/

def EntryOK (e : Entry) : Prop :=
  e.ltype ≠ ltHardlink ∧ (e.devino.isSome = true → e.ltype = ltFile)

def MapOK (m : EMap) : Prop := m.names.Nodup ∧ ∀ e ∈ m, EntryOK e

theorem MapOK.nil : MapOK [] := ⟨List.nodup_nil, by intro e h; cases h⟩

theorem MapOK.filter {m : EMap} (h : MapOK m) (p : Entry → Bool) : MapOK (m.filter p) :=
  ⟨List.Nodup.sublist (names_filter_sublist m p) h.1,
   fun e he => h.2 e (List.mem_filter.mp he).1⟩

theorem MapOK.insert {m : EMap} (h : MapOK m) {e : Entry} (he : EntryOK e) : MapOK (m.insert e) :=
  ⟨insert_nodup m e h.1, fun x hx => by
    rcases mem_insert hx with hx | hx
    · rw [hx]; exact he
    · exact h.2 x hx⟩

theorem finishKind_ok {st : Option Lstat} {nis : Bool} {info e : Entry}
    (hd : info.devino = none) (h : finishKind st nis info = .ok (some e)) :
    e.name = info.name ∧ EntryOK e := by
  obtain ⟨_, _, _, _, _, _, he, hh, hdi⟩ := finishKind_returns st nis info _ h
  cases he
  refine ⟨rfl, hh, ?_⟩
  rcases hdi with hdi | hdi
  · intro hs; rw [hdi, hd] at hs; cases hs
  · exact fun _ => hdi

theorem addSingleFile_ok {fs : Bytes → Option Lstat} {root : Bytes} {e0 e : Entry}
    (h : addSingleFile fs root e0 = .ok (some e)) : e.name = e0.name ∧ EntryOK e := by
  unfold addSingleFile at h
  simp only at h
  split at h
  · cases h
  · cases h
  · have := finishKind_ok rfl h
    exact ⟨this.1, this.2⟩

theorem addEntry_cases {env : Env} {m m' : EMap} {e0 : Entry} (h : addEntry env m e0 = .ok m') :
    (m' = m ∧ e0.skipIfAbsent = true) ∨ ∃ e, e.name = e0.name ∧ EntryOK e ∧ m' = m.insert e := by
  unfold addEntry at h
  split at h
  · cases h
  · rename_i hs
    cases h
    exact Or.inl ⟨rfl, addSingleFile_none hs⟩
  · rename_i e hs
    cases h
    exact Or.inr ⟨e, (addSingleFile_ok hs).1, (addSingleFile_ok hs).2, rfl⟩

theorem addEntry_names {env : Env} {m m' : EMap} {e0 : Entry} (h : addEntry env m e0 = .ok m') :
    (∀ n, n ∈ m.names → n ∈ m'.names) ∧ (∀ n, n ∈ m'.names → n = e0.name ∨ n ∈ m.names) := by
  rcases addEntry_cases h with ⟨rfl, _⟩ | ⟨e, hn, _, rfl⟩
  · exact ⟨fun _ h => h, fun _ h => Or.inr h⟩
  · exact ⟨fun n hn' => (mem_names_insert _ _ _).mpr (Or.inr hn'),
      fun n hn' => hn ▸ (mem_names_insert _ _ _).mp hn'⟩

theorem addEntry_ok {env : Env} {m m' : EMap} {e0 : Entry} (h : addEntry env m e0 = .ok m')
    (hm : MapOK m) : MapOK m' := by
  rcases addEntry_cases h with ⟨rfl, _⟩ | ⟨e, _, he, rfl⟩
  · exact hm
  · exact hm.insert he

theorem addChain_ok {env : Env} : ∀ (fuel : Nat) {m m' : EMap} {dir : Bytes},
    addChain env fuel m dir = .ok m' → MapOK m → MapOK m' := by
  intro fuel
  induction fuel with
  | zero => intro m m' dir h hm; cases h; exact hm
  | succ f ih =>
    intro m m' dir h hm
    simp only [addChain] at h
    split at h
    · cases h
    · rename_i m1 h1
      have hm1 : MapOK m1 := by
        split at h1
        · cases h1; exact hm
        · exact addEntry_ok h1 hm
      split at h
      · cases h; exact hm1
      · split at h
        · cases h; exact hm1
        · exact ih h hm1

theorem addChains_ok {env : Env} (ds : List Bytes) : ∀ {m m' : EMap},
    addChains env m ds = .ok m' → MapOK m → MapOK m' := by
  induction ds with
  | nil => intro m m' h hm; cases h; exact hm
  | cons d ds ih =>
    intro m m' h hm
    simp only [addChains] at h
    split at h
    · cases h
    · rename_i m1 h1
      exact ih h (addChain_ok _ h1 hm)

/-! ### invariants of the pipeline steps -/

/-- the names a step brings in: the entry of an add, the new name of a cloned device node, the
    candidates of the symlink recovery -/
def Step.newNames : Step → List Bytes
  | .add e => [e.name]
  | .recover cs => cs.map (·.name)
  | .clone _ name _ => [name]
  | _ => []

/-- `I` is kept by what the pipeline steps are made of: dropping members, storing an entry whose
    name has `A`, `AddMissingStageDirs` -/
structure StepInv (env : Env) (I : EMap → Prop) (A : Bytes → Prop) : Prop where
  filter : ∀ {m : EMap} (p : Entry → Bool), I m → I (m.filter p)
  add : ∀ {m m' : EMap} {e : Entry}, addEntry env m e = .ok m' → A e.name → I m → I m'
  closure : ∀ {m m' : EMap}, addMissingStageDirs env m = .ok m' → I m → I m'

namespace StepInv
variable {env : Env} {I : EMap → Prop} {A : Bytes → Prop}

theorem removeGlob (hI : StepInv env I A) (ns : List Bytes) :
    ∀ {m : EMap}, I m → I (removeGlob m ns) := by
  unfold Stage.removeGlob
  induction ns with
  | nil => intro m h; exact h
  | cons n ns ih =>
    intro m h
    rw [List.foldl_cons]
    apply ih
    split
    · exact hI.filter _ h
    · exact h

theorem recoverAll (hI : StepInv env I A) (cs : List Cand) : ∀ {m m' : EMap},
    recoverAll env m cs = .ok m' → (∀ c ∈ cs, A c.name) → I m → I m' := by
  induction cs with
  | nil => intro m m' h _ hm; cases h; exact hm
  | cons c cs ih =>
    intro m m' h hc hm
    simp only [Stage.recoverAll] at h
    split at h
    · cases h
    · rename_i m1 h1
      refine ih h (fun x hx => hc x (List.mem_cons_of_mem _ hx)) ?_
      unfold recoverOne at h1
      split at h1
      · cases h1; exact hm
      · split at h1
        · cases h1
        · split at h1
          · exact hI.add h1 (hc c List.mem_cons_self) hm
          · cases h1; exact hm

theorem runStep (hI : StepInv env I A) {s s' : St} {x : Step} (h : runStep env s x = .ok s')
    (hx : ∀ n ∈ x.newNames, A n) (hm : I s.map) : I s'.map := by
  cases x with
  | add e =>
    obtain ⟨m, h1, rfl⟩ := except_map_ok h
    exact hI.add h1 (hx _ List.mem_cons_self) hm
  | del n =>
    obtain ⟨m, h1, rfl⟩ := except_map_ok h
    unfold removeFile at h1
    split at h1
    · cases h1; exact hI.filter _ hm
    · cases h1
  | delGlob ns => cases h; exact hI.removeGlob ns hm
  | unstaged ns => cases h; exact hm
  | recover cs =>
    obtain ⟨m, h1, rfl⟩ := except_map_ok h
    exact hI.recoverAll cs h1 (fun c hc => hx _ (List.mem_map.mpr ⟨c, hc, rfl⟩)) hm
  | clone src name dminor =>
    simp only [Stage.runStep] at h
    split at h
    · cases h
    · obtain ⟨m, h1, rfl⟩ := except_map_ok h
      exact hI.add h1 (hx _ List.mem_cons_self) hm
  | exclude => cases h; exact hI.filter _ hm
  | closure =>
    obtain ⟨m, h1, rfl⟩ := except_map_ok h
    exact hI.closure h1 hm
  | fail => cases h

theorem runSteps (hI : StepInv env I A) (xs : List Step) : ∀ {s s' : St},
    runSteps env s xs = .ok s' → (∀ x ∈ xs, ∀ n ∈ x.newNames, A n) → I s.map → I s'.map := by
  induction xs with
  | nil => intro s s' h _ hm; cases h; exact hm
  | cons x xs ih =>
    intro s s' h hx hm
    simp only [Stage.runSteps] at h
    split at h
    · cases h
    · rename_i s1 h1
      exact ih h (fun y hy => hx y (List.mem_cons_of_mem _ hy))
        (hI.runStep h1 (hx x List.mem_cons_self) hm)

end StepInv

theorem runSteps_append {env : Env} (xs ys : List Step) : ∀ {s s' : St},
    runSteps env s (xs ++ ys) = .ok s' →
    ∃ s1, runSteps env s xs = .ok s1 ∧ runSteps env s1 ys = .ok s' := by
  induction xs with
  | nil => intro s s' h; exact ⟨s, rfl, h⟩
  | cons x xs ih =>
    intro s s' h
    simp only [List.cons_append, runSteps] at h ⊢
    split at h
    · cases h
    · exact ih h

theorem MapOK.stepInv (env : Env) : StepInv env MapOK (fun _ => True) :=
  ⟨fun p h => h.filter p, fun h _ hm => addEntry_ok h hm, fun h hm => addChains_ok _ h hm⟩

/-! ### `Finalize`: sorting, then `fixHardlinks` -/

theorem insertSorted_perm (e : Entry) (l : List Entry) : (insertSorted e l).Perm (e :: l) := by
  induction l with
  | nil => exact .refl _
  | cons x xs ih =>
    unfold insertSorted
    split
    · exact .refl _
    · exact (ih.cons x).trans (.swap e x xs)

theorem names_insertSorted_mem (e : Entry) (l : List Entry) (n : Bytes) :
    n ∈ EMap.names (insertSorted e l) ↔ n = e.name ∨ n ∈ EMap.names l :=
  ((insertSorted_perm e l).map _).mem_iff.trans List.mem_cons

theorem insertSorted_sorted (e : Entry) (l : List Entry)
    (hs : StrictSorted (EMap.names l)) (hn : e.name ∉ EMap.names l) :
    StrictSorted (EMap.names (insertSorted e l)) := by
  induction l with
  | nil => simp [insertSorted, EMap.names, StrictSorted]
  | cons x xs ih =>
    unfold StrictSorted at hs ih ⊢
    rw [names_cons] at hs hn
    have hp := List.pairwise_cons.mp hs
    unfold insertSorted
    split
    · rename_i hlt
      rw [names_cons, names_cons]
      refine List.pairwise_cons.mpr ⟨?_, hs⟩
      intro y hy
      rcases List.mem_cons.mp hy with hy | hy
      · rw [hy]; exact hlt
      · exact bytesLt_trans hlt (hp.1 y hy)
    · rename_i hlt
      rw [names_cons]
      refine List.pairwise_cons.mpr ⟨?_, ih hp.2 (fun h => hn (List.mem_cons_of_mem _ h))⟩
      intro y hy
      rcases (names_insertSorted_mem e xs y).mp hy with hy | hy
      · rw [hy]
        rcases bytesLt_total e.name x.name with h | h | h
        · exact absurd h hlt
        · exact absurd (by rw [h]; exact List.mem_cons_self) hn
        · exact h
      · exact hp.1 y hy

theorem sortByName_cons (x : Entry) (xs : List Entry) :
    sortByName (x :: xs) = insertSorted x (sortByName xs) := rfl

theorem sortByName_perm (m : List Entry) : (sortByName m).Perm m := by
  induction m with
  | nil => exact .refl _
  | cons x xs ih => exact (insertSorted_perm x _).trans (ih.cons x)

theorem names_sortByName_mem (m : List Entry) (n : Bytes) :
    n ∈ EMap.names (sortByName m) ↔ n ∈ EMap.names m :=
  ((sortByName_perm m).map _).mem_iff

theorem sortByName_sorted (m : List Entry) (h : (EMap.names m).Nodup) :
    StrictSorted (EMap.names (sortByName m)) := by
  induction m with
  | nil => simp [sortByName, EMap.names, StrictSorted]
  | cons x xs ih =>
    rw [names_cons] at h
    have hc := List.nodup_cons.mp h
    rw [sortByName_cons]
    apply insertSorted_sorted _ _ (ih hc.2)
    intro hm
    exact hc.1 ((names_sortByName_mem xs x.name).mp hm)

theorem names_fixHardlinks (l : List Entry) : ∀ seen, EMap.names (fixHardlinks seen l) = EMap.names l := by
  induction l with
  | nil => intro seen; rfl
  | cons e es ih =>
    intro seen
    unfold fixHardlinks
    split
    · rw [names_cons, names_cons, ih]
    · split
      · rw [names_cons, names_cons, ih]
      · rw [names_cons, names_cons, ih]

/-- every hard link in `out` names an entry that precedes it (in `earlier` or in `out`), of the
    same inode, that is a regular file -/
def LinksOK : List Entry → List Entry → Prop
  | _, [] => True
  | earlier, x :: rest =>
    (x.ltype = ltHardlink →
      ∃ y ∈ earlier, y.name = x.target ∧ y.devino = x.devino ∧ y.ltype = ltFile) ∧
    LinksOK (earlier ++ [x]) rest

def SeenOK (seen : List ((Nat × Nat) × Bytes)) (earlier : List Entry) : Prop :=
  ∀ id nm, lookupIno id seen = some nm →
    ∃ y ∈ earlier, y.name = nm ∧ y.devino = some id ∧ y.ltype = ltFile

theorem SeenOK.mono {seen earlier} (h : SeenOK seen earlier) (x : Entry) :
    SeenOK seen (earlier ++ [x]) := by
  intro id nm hl
  obtain ⟨y, hy, h1⟩ := h id nm hl
  exact ⟨y, List.mem_append_left _ hy, h1⟩

theorem fixHardlinks_links (l : List Entry) : ∀ (seen : List ((Nat × Nat) × Bytes)) (earlier : List Entry),
    (∀ e ∈ l, EntryOK e) → SeenOK seen earlier → LinksOK earlier (fixHardlinks seen l) := by
  induction l with
  | nil => intro seen earlier _ _; trivial
  | cons e es ih =>
    intro seen earlier hin hseen
    have he : EntryOK e := hin e List.mem_cons_self
    have hes : ∀ x ∈ es, EntryOK x := fun x hx => hin x (List.mem_cons_of_mem _ hx)
    unfold fixHardlinks
    split
    · -- no inode identity: unchanged
      exact ⟨fun hl => absurd hl he.1, ih seen _ hes (hseen.mono e)⟩
    · rename_i id hid
      split
      · rename_i targ hlk
        refine ⟨fun _ => ?_, ih seen _ hes (hseen.mono _)⟩
        obtain ⟨y, hy, h1, h2, h3⟩ := hseen id targ hlk
        exact ⟨y, hy, h1, by rw [h2]; exact hid.symm, h3⟩
      · rename_i hlk
        refine ⟨fun hl => absurd hl he.1, ih _ _ hes ?_⟩
        intro id' nm hl
        unfold lookupIno at hl
        split at hl
        · rename_i heq
          cases hl
          refine ⟨e, by simp, rfl, by rw [hid, heq], he.2 (by rw [hid]; rfl)⟩
        · obtain ⟨y, hy, h1⟩ := hseen id' nm hl
          exact ⟨y, List.mem_append_left _ hy, h1⟩

end Lc.Stage
