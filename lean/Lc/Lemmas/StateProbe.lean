/-
  Closed form of `findLayerstate` (manage/probe.go): the function of the model, cut into
  named pieces (overlay pre-check, import tally, export tally, final if-chain), each
  proved equal to the corresponding piece of the model; fold invariants of the two
  loops.  Helper lemmas for Props/C08.
-/
import Lc.Model.Layers
import Lc.Lemmas.Ite
import Lc.Lemmas.Faults

namespace Lc.StateProbe
open Lc Lc.Layers Lc.Mountinfo Lc.Layerfile

/-! ### the pieces of `findLayerstate`, named -/

/-- marker value used by the model for "return now with this state" -/
def RET : Nat := 1000000

/-- the overlay check of a derived layer / the FHS check; `none` = return the layer as it is
    (`complete`), `some (l, RET)` = return `l`, `some (l, n)` = go on with `n` mounts counted -/
def preCheck (cfg : Config) (fs : Fs.Tree) (d : Defs) (l : Layer) : Res (Option (Layer × Nat)) :=
  let builddir := buildPath cfg l
  if l.base.length > 0 then
    match findLayer d l.base with
    | none => Res.panic
    | some bl =>
      if bl.state < S_mountable then .ok none else
      match getMount d.mounts builddir with
      | none =>
        if l.mounts.length > 0 then .ok (some ({ l with state := S_error }, RET))
        else .ok (some ({ l with state := S_mountable }, RET))
      | some mnt =>
        if mnt.fstype != b!"overlay" then .ok (some ({ l with state := S_error }, RET))
        else if mnt.source != buildPath cfg bl || mnt.source2 != upperPath cfg l
                || mnt.workdir != workPath cfg l then
          .ok (some ({ l with state := S_error }, RET))
        else if !minimalBuildDirsPresent fs builddir then .ok none
        else .ok (some (l, 1))
  else if !minimalBuildDirsPresent fs builddir then .ok none
  else .ok (some (l, 0))

/-- one round of the import loop: (numMounted, missing, incorrect, panic) -/
def importStep (cfg : Config) (fs : Fs.Tree) (m : Mounts) (acc : Nat × Bool × Bool × Bool)
    (pair : Expanded) : Nat × Bool × Bool × Bool :=
  let (n, missing, incorrect, pn) := acc
  if !Fs.lexists fs pair.mount then (n, true, incorrect, pn)
  else if isAbs pair.source && !Fs.lexists fs pair.source
          && !inAnyLayerDirectory cfg (pair.source.length + 1) pair.source then
    (n, true, incorrect, pn)
  else match getMount m pair.mount with
    | none => (n, missing, incorrect, pn)
    | some mnt =>
      match mountSourceIsExpected m mnt pair.source with
      | .ok true => (n + 1, missing, incorrect, pn)
      | .ok false => (n + 1, missing, true, pn)
      | .error _ => (n + 1, missing, incorrect, true)

/-- one round of the export loop: (missing, incorrect) -/
def exportStep (fs : Fs.Tree) (builddir : Bytes) (acc : Bool × Bool) (pair : Expanded) : Bool × Bool :=
  let (missing, incorrect) := acc
  if !isDescendant builddir pair.source && builddir != pair.source then (missing, true)
  else if !Fs.lexists fs pair.source then (true, incorrect)
  else if Fs.isSymlink fs pair.mount then
    (missing, incorrect || readlink fs pair.mount != some pair.source)
  else (missing, incorrect)

/-- the final if-chain, on numbers: `s` the state so far, `busy` = MountBusy or Overlain -/
def finishState (s : Nat) (busy : Bool) (numExpected numMounted : Nat)
    (missing incorrect fsErr : Bool) : Nat :=
  if incorrect || fsErr then S_error
  else if missing then s
  else if numMounted == 0 then S_mountable
  else if numMounted < numExpected then S_partialmount
  else if busy then S_mounted_busy
  else S_mounted

/-- the final if-chain, literally as in the model -/
def finishR (l : Layer) (numExpected numMounted : Nat) (missing incorrect fsErr : Bool) : Res Layer :=
  if incorrect || fsErr then .ok { l with state := S_error }
  else if missing then .ok l
  else if numMounted == 0 then .ok { l with state := S_mountable }
  else if numMounted < numExpected then .ok { l with state := S_partialmount }
  else if l.mountBusy || l.overlain then .ok { l with state := S_mounted_busy }
  else .ok { l with state := S_mounted }

theorem finishR_eq (l : Layer) (ne nm : Nat) (a b c : Bool) :
    finishR l ne nm a b c =
      .ok { l with state := finishState l.state (l.mountBusy || l.overlain) ne nm a b c } := by
  simp only [finishR, finishState, apply_ite (fun s => (Except.ok { l with state := s } : Res Layer))]

def numExpected (l : Layer) : Nat := l.cmounts.length + (if l.base.length > 0 then 1 else 0)

/-- the expanded exports; `true` = the expansion failed (`fsErr`) -/
def exportsOf (cfg : Config) (l : Layer) : List Expanded × Bool :=
  match expandConfigExports cfg l with
  | .ok e => (e, false)
  | .error _ => ([], true)

/-- everything after the pre-check -/
def classify (cfg : Config) (fs : Fs.Tree) (d : Defs) (builddir : Bytes) (l : Layer)
    (numMounted0 : Nat) : Res Layer :=
  let l := { l with state := S_inhabited }
  match expandConfigMounts cfg d l with
  | .error (.err _) => .ok l
  | .error .panic => Res.panic
  | .ok mounts =>
    let (numMounted, missing1, incorrect1, pn) :=
      mounts.foldl (importStep cfg fs d.mounts) (numMounted0, false, false, false)
    if pn then Res.panic else
    let (exports, fsErr) := exportsOf cfg l
    let (missing, incorrect) := exports.foldl (exportStep fs builddir) (missing1, incorrect1)
    finishR l (numExpected l) numMounted missing incorrect fsErr

/-- what follows the pre-check -/
def afterPre (cfg : Config) (fs : Fs.Tree) (d : Defs) (bd : Bytes) (l : Layer)
    (r : Res (Option (Layer × Nat))) : Res Layer :=
  match r with
  | .error e => .error e
  | .ok none => .ok l
  | .ok (some (l, 1000000)) => .ok l
  | .ok (some (l, numMounted0)) => classify cfg fs d bd l numMounted0

def findLayerstate2 (cfg : Config) (fs : Fs.Tree) (d : Defs) (l0 : Layer) : Res Layer :=
  let l := { l0 with mounts := getMountAndSubmounts d.mounts (buildPath cfg l0) }
  if l.state < S_complete then .ok l else
  let l := { l with state := S_complete }
  afterPre cfg fs d (buildPath cfg l0) l (preCheck cfg fs d l)

theorem findLayerstate_eq (cfg : Config) (fs : Fs.Tree) (d : Defs) (l : Layer) :
    findLayerstate cfg fs d l = findLayerstate2 cfg fs d l := by
  rfl

/-! ### closed form of the import loop -/

/-- the mountpoint directory or the (host) source of an import is missing -/
def impMissing (cfg : Config) (fs : Fs.Tree) (e : Expanded) : Bool :=
  !Fs.lexists fs e.mount ||
    (isAbs e.source && !Fs.lexists fs e.source
      && !inAnyLayerDirectory cfg (e.source.length + 1) e.source)

/-- nothing missing and something is mounted on the import's mountpoint -/
def impMounted (cfg : Config) (fs : Fs.Tree) (m : Mounts) (e : Expanded) : Bool :=
  !impMissing cfg fs e && (getMount m e.mount).isSome

/-- mounted, but `MountSourceIsExpected` says no -/
def impWrong (cfg : Config) (fs : Fs.Tree) (m : Mounts) (e : Expanded) : Bool :=
  !impMissing cfg fs e &&
    match getMount m e.mount with
    | none => false
    | some mnt =>
      match mountSourceIsExpected m mnt e.source with
      | .ok false => true
      | _ => false

/-- mounted, and `GetMountSources` dereferences nil -/
def impPanic (cfg : Config) (fs : Fs.Tree) (m : Mounts) (e : Expanded) : Bool :=
  !impMissing cfg fs e &&
    match getMount m e.mount with
    | none => false
    | some mnt =>
      match mountSourceIsExpected m mnt e.source with
      | .error _ => true
      | _ => false

theorem importStep_eq (cfg : Config) (fs : Fs.Tree) (m : Mounts) (acc : Nat × Bool × Bool × Bool)
    (e : Expanded) :
    importStep cfg fs m acc e =
      (acc.1 + (if impMounted cfg fs m e then 1 else 0), acc.2.1 || impMissing cfg fs e,
       acc.2.2.1 || impWrong cfg fs m e, acc.2.2.2 || impPanic cfg fs m e) := by
  obtain ⟨n, a, b, c⟩ := acc
  unfold importStep impMounted impWrong impPanic impMissing
  dsimp only
  generalize Fs.lexists fs e.mount = x1
  generalize (isAbs e.source && !Fs.lexists fs e.source
    && !inAnyLayerDirectory cfg (e.source.length + 1) e.source) = x2
  cases hg : getMount m e.mount with
  | none => cases x1 <;> cases x2 <;> simp
  | some mnt =>
    cases hm : mountSourceIsExpected m mnt e.source with
    | error f => cases x1 <;> cases x2 <;> simp [hm]
    | ok r => cases r <;> cases x1 <;> cases x2 <;> simp [hm]

/-- the fold invariant of the import loop, in closed form -/
theorem importFold (cfg : Config) (fs : Fs.Tree) (m : Mounts) (es : List Expanded)
    (acc : Nat × Bool × Bool × Bool) :
    es.foldl (importStep cfg fs m) acc =
      (acc.1 + es.countP (impMounted cfg fs m), acc.2.1 || es.any (impMissing cfg fs),
       acc.2.2.1 || es.any (impWrong cfg fs m), acc.2.2.2 || es.any (impPanic cfg fs m)) := by
  induction es generalizing acc with
  | nil => simp
  | cons e es ih =>
    rw [List.foldl_cons, ih, importStep_eq]
    simp only [List.countP_cons, List.any_cons, Bool.or_assoc, Nat.add_assoc]
    congr 2
    omega

/-! ### closed form of the export loop -/

/-- the export source is not the build directory or below it, or the link points elsewhere -/
def expWrong (fs : Fs.Tree) (builddir : Bytes) (e : Expanded) : Bool :=
  (!isDescendant builddir e.source && builddir != e.source) ||
    (Fs.lexists fs e.source && Fs.isSymlink fs e.mount && readlink fs e.mount != some e.source)

/-- the export source does not exist -/
def expMissing (fs : Fs.Tree) (builddir : Bytes) (e : Expanded) : Bool :=
  !(!isDescendant builddir e.source && builddir != e.source) && !Fs.lexists fs e.source

theorem exportStep_eq (fs : Fs.Tree) (bd : Bytes) (acc : Bool × Bool) (e : Expanded) :
    exportStep fs bd acc e = (acc.1 || expMissing fs bd e, acc.2 || expWrong fs bd e) := by
  obtain ⟨a, b⟩ := acc
  unfold exportStep expMissing expWrong
  simp only []
  generalize (!isDescendant bd e.source && bd != e.source) = x1
  generalize Fs.lexists fs e.source = x2
  generalize Fs.isSymlink fs e.mount = x3
  generalize (readlink fs e.mount != some e.source) = x4
  cases x1 <;> cases x2 <;> cases x3 <;> cases x4 <;> simp

theorem exportFold (fs : Fs.Tree) (bd : Bytes) (es : List Expanded) (acc : Bool × Bool) :
    es.foldl (exportStep fs bd) acc =
      (acc.1 || es.any (expMissing fs bd), acc.2 || es.any (expWrong fs bd)) := by
  induction es generalizing acc with
  | nil => simp
  | cons e es ih =>
    rw [List.foldl_cons, ih, exportStep_eq]
    simp only [List.any_cons, Bool.or_assoc]

/-! ### the configuration expansion does not look at state or mounts -/

theorem findLayerBase_path (d : Defs) (n : Nat) (l1 l2 : Layer) (hb : l1.base = l2.base)
    (hp : l1.layerPath = l2.layerPath) :
    (findLayerBase d (n + 1) l1).map (·.layerPath) = (findLayerBase d (n + 1) l2).map (·.layerPath) := by
  unfold findLayerBase
  rw [hb]
  split
  · rfl
  · simp [hp]

theorem expandConfigMounts_congr (cfg : Config) (d : Defs) (l1 l2 : Layer) (hb : l1.base = l2.base)
    (hc : l1.cmounts = l2.cmounts) (hp : l1.layerPath = l2.layerPath) :
    expandConfigMounts cfg d l1 = expandConfigMounts cfg d l2 := by
  unfold expandConfigMounts buildPath
  rw [hc, hp, findLayerBase_path d _ l1 l2 hb hp]

theorem expandConfigMounts_state (cfg : Config) (d : Defs) (l : Layer) (ms : List MountType) (s : Nat) :
    expandConfigMounts cfg d { l with mounts := ms, state := s } = expandConfigMounts cfg d l :=
  expandConfigMounts_congr cfg d _ l rfl rfl rfl

/-! ### closed form of `classify` -/

theorem classify_eq (cfg : Config) (fs : Fs.Tree) (d : Defs) (bd : Bytes) (l : Layer) (n0 : Nat) :
    classify cfg fs d bd l n0 =
      match expandConfigMounts cfg d l with
      | .error (.err _) => .ok { l with state := S_inhabited }
      | .error .panic => Res.panic
      | .ok mounts =>
        if mounts.any (impPanic cfg fs d.mounts) then Res.panic else
        .ok { l with state := (finishState S_inhabited (l.mountBusy || l.overlain) (numExpected l)
          (n0 + mounts.countP (impMounted cfg fs d.mounts))
          (mounts.any (impMissing cfg fs) || (exportsOf cfg l).1.any (expMissing fs bd))
          (mounts.any (impWrong cfg fs d.mounts) || (exportsOf cfg l).1.any (expWrong fs bd))
          (exportsOf cfg l).2) } := by
  unfold classify
  simp only []
  rw [expandConfigMounts_congr cfg d { l with state := S_inhabited } l rfl rfl rfl]
  split
  · rfl
  · rfl
  · rename_i mounts hm
    rw [importFold]
    simp only [Bool.false_or]
    split
    · rfl
    · rw [exportFold, finishR_eq]
      rfl

/-! ### inversion of the pre-check and of `findLayerstate` -/

/-- the overlay of the derived layer `l` is mounted on its build directory exactly as
    configured, and the parent is at least mountable -/
def OverlayOk (cfg : Config) (d : Defs) (l : Layer) : Prop :=
  ∃ bl mnt, findLayer d l.base = some bl ∧ ¬ bl.state < S_mountable ∧
    getMount d.mounts (buildPath cfg l) = some mnt ∧ mnt.fstype = b!"overlay" ∧
    mnt.source = buildPath cfg bl ∧ mnt.source2 = upperPath cfg l ∧ mnt.workdir = workPath cfg l

/-- the normal exits of the pre-check: nothing to classify (parent below `mountable`, or FHS
    directories missing); a derived layer without its overlay, or with a wrong one; go on, the
    overlay of a derived layer mounted as configured and counted -/
theorem preCheck_cases (cfg : Config) (fs : Fs.Tree) (d : Defs) (l : Layer) (r : Option (Layer × Nat))
    (h : preCheck cfg fs d l = .ok r) :
    r = none ∨
    (l.base.length > 0 ∧ (r = some ({ l with state := S_error }, RET) ∨
      r = some ({ l with state := S_mountable }, RET))) ∨
    (minimalBuildDirsPresent fs (buildPath cfg l) = true ∧ (l.base.length > 0 → OverlayOk cfg d l) ∧
      r = some (l, if l.base.length > 0 then 1 else 0)) := by
  have hfhs : ∀ n : Nat, (if (!minimalBuildDirsPresent fs (buildPath cfg l)) = true then Except.ok none
        else .ok (some (l, n)) : Res (Option (Layer × Nat))) = .ok r →
      r = none ∨ minimalBuildDirsPresent fs (buildPath cfg l) = true ∧ r = some (l, n) := by
    intro n h
    cases hf : minimalBuildDirsPresent fs (buildPath cfg l) with
    | false => rw [hf] at h; exact .inl (Except.ok.inj h).symm
    | true => rw [hf] at h; exact .inr ⟨rfl, (Except.ok.inj h).symm⟩
  unfold preCheck at h
  dsimp only at h
  by_cases hb : l.base.length > 0
  · rw [if_pos hb] at h
    cases hbl : findLayer d l.base with
    | none => rw [hbl] at h; cases h
    | some bl =>
      rw [hbl] at h
      dsimp only at h
      by_cases hst : bl.state < S_mountable
      · rw [if_pos hst] at h; exact .inl (Except.ok.inj h).symm
      rw [if_neg hst] at h
      cases hmnt : getMount d.mounts (buildPath cfg l) with
      | none =>
        rw [hmnt] at h
        dsimp only at h
        by_cases hlen : l.mounts.length > 0
        · rw [if_pos hlen] at h; exact .inr (.inl ⟨hb, .inl (Except.ok.inj h).symm⟩)
        · rw [if_neg hlen] at h; exact .inr (.inl ⟨hb, .inr (Except.ok.inj h).symm⟩)
      | some mnt =>
        rw [hmnt] at h
        dsimp only at h
        by_cases hft : (mnt.fstype != b!"overlay") = true
        · rw [if_pos hft] at h; exact .inr (.inl ⟨hb, .inl (Except.ok.inj h).symm⟩)
        rw [if_neg hft] at h
        by_cases hsrc : (mnt.source != buildPath cfg bl || mnt.source2 != upperPath cfg l
            || mnt.workdir != workPath cfg l) = true
        · rw [if_pos hsrc] at h; exact .inr (.inl ⟨hb, .inl (Except.ok.inj h).symm⟩)
        rw [if_neg hsrc] at h
        simp only [bne_iff_ne, ne_eq, Bool.or_eq_true, not_or, Decidable.not_not] at hsrc hft
        rcases hfhs 1 h with rfl | ⟨hf, rfl⟩
        · exact .inl rfl
        · exact .inr (.inr ⟨hf, fun _ => ⟨bl, mnt, hbl, hst, hmnt, hft, hsrc.1.1, hsrc.1.2, hsrc.2⟩,
            by rw [if_pos hb]⟩)
  · rw [if_neg hb] at h
    rcases hfhs 0 h with rfl | ⟨hf, rfl⟩
    · exact .inl rfl
    · exact .inr (.inr ⟨hf, fun h => absurd h hb, by rw [if_neg hb]⟩)

/-- all normal exits of `findLayerstate` -/
theorem findLayerstate_cases (cfg : Config) (fs : Fs.Tree) (d : Defs) (l l' : Layer)
    (h : findLayerstate cfg fs d l = .ok l') :
    (l.state < S_complete ∧
      l' = { l with mounts := getMountAndSubmounts d.mounts (buildPath cfg l) }) ∨
    (¬ l.state < S_complete ∧
      (l' = { l with mounts := getMountAndSubmounts d.mounts (buildPath cfg l), state := S_complete } ∨
       (l.base.length > 0 ∧
         (l' = { l with mounts := getMountAndSubmounts d.mounts (buildPath cfg l), state := S_error } ∨
          l' = { l with mounts := getMountAndSubmounts d.mounts (buildPath cfg l),
                        state := S_mountable })) ∨
       (minimalBuildDirsPresent fs (buildPath cfg l) = true ∧
        (l.base.length > 0 → OverlayOk cfg d l) ∧
        classify cfg fs d (buildPath cfg l)
          { l with mounts := getMountAndSubmounts d.mounts (buildPath cfg l), state := S_complete }
          (if l.base.length > 0 then 1 else 0) = .ok l'))) := by
  rw [findLayerstate_eq] at h
  unfold findLayerstate2 at h
  simp only [] at h
  split at h
  · rename_i hs
    exact Or.inl ⟨hs, (Except.ok.inj h).symm⟩
  rename_i hs
  refine Or.inr ⟨hs, ?_⟩
  cases hp : preCheck cfg fs d { l with mounts := getMountAndSubmounts d.mounts (buildPath cfg l),
                                         state := S_complete } with
  | error e => rw [hp] at h; cases h
  | ok r =>
    rw [hp] at h
    rcases preCheck_cases cfg fs d _ r hp with rfl | ⟨hb, rfl | rfl⟩ | ⟨hfhs, hov, rfl⟩
    · exact Or.inl (Except.ok.inj h).symm
    · exact Or.inr (Or.inl ⟨hb, Or.inl (Except.ok.inj h).symm⟩)
    · exact Or.inr (Or.inl ⟨hb, Or.inr (Except.ok.inj h).symm⟩)
    · refine Or.inr (Or.inr ⟨hfhs, hov, ?_⟩)
      by_cases hb : l.base.length > 0
      · simpa [afterPre, hb] using h
      · simpa [afterPre, hb] using h

/-! ### the final if-chain -/

theorem finishState_inhabited_ne (busy : Bool) (ne nm : Nat) (a b c : Bool) :
    finishState S_inhabited busy ne nm a b c ≠ S_incomplete ∧
    finishState S_inhabited busy ne nm a b c ≠ S_empty := by
  unfold finishState
  have I := @ite_ind Nat (fun x => x ≠ S_incomplete ∧ x ≠ S_empty)
  exact I (by decide) (I (by decide) (I (by decide) (I (by decide) (I (by decide) (by decide)))))

/-- only "incorrect or expansion failed" matters, not which of the two -/
theorem finishState_or (s : Nat) (busy : Bool) (ne nm : Nat) (a b b' c : Bool) :
    finishState s busy ne nm a (b || b') c = finishState s busy ne nm a b (b' || c) := by
  unfold finishState
  rw [Bool.or_assoc]

/-- the tallies are looked at only if nothing is incorrect -/
theorem finishState_congr (s : Nat) (busy : Bool) (ne nm nm' : Nat) (a a' b c : Bool)
    (h : (b || c) = false → a = a' ∧ nm = nm') :
    finishState s busy ne nm a b c = finishState s busy ne nm' a' b c := by
  unfold finishState
  cases hbc : (b || c) with
  | true => rfl
  | false => rw [(h hbc).1, (h hbc).2]

theorem finishState_mounted (s : Nat) (busy : Bool) (ne nm : Nat) (a b c : Bool)
    (hs : s < S_mounted)
    (h : finishState s busy ne nm a b c = S_mounted ∨ finishState s busy ne nm a b c = S_mounted_busy) :
    b = false ∧ c = false ∧ a = false ∧ ne ≤ nm := by
  unfold finishState at h
  by_cases hbc : (b || c) = true
  · rw [if_pos hbc] at h; exact absurd h (by decide)
  rw [if_neg hbc] at h
  by_cases ha : a = true
  · rw [if_pos ha] at h
    have : s < 7 := hs
    rcases h with h | h <;> (rw [h] at this; exact absurd this (by decide))
  rw [if_neg ha] at h
  by_cases h0 : (nm == 0) = true
  · rw [if_pos h0] at h; exact absurd h (by decide)
  rw [if_neg h0] at h
  by_cases hlt : nm < ne
  · rw [if_pos hlt] at h; exact absurd h (by decide)
  simp only [Bool.or_eq_true, not_or, Bool.not_eq_true] at hbc ha
  exact ⟨hbc.1, hbc.2, ha, Nat.le_of_not_lt hlt⟩

theorem exportsOf_ok (cfg : Config) (l : Layer) (h : (exportsOf cfg l).2 = false) :
    expandConfigExports cfg l = .ok (exportsOf cfg l).1 := by
  unfold exportsOf at h ⊢
  split at h
  · rename_i e he
    simp [he]
  · cases h

/-- per import: what `impMounted`, not `impWrong`, not `impPanic` say in plain terms -/
theorem imp_good (cfg : Config) (fs : Fs.Tree) (m : Mounts) (e : Expanded)
    (h1 : impMounted cfg fs m e = true) (h2 : impWrong cfg fs m e = false)
    (h3 : impPanic cfg fs m e = false) :
    Fs.lexists fs e.mount = true ∧
    (isAbs e.source = true → Fs.lexists fs e.source = true ∨
        inAnyLayerDirectory cfg (e.source.length + 1) e.source = true) ∧
    ∃ mnt, getMount m e.mount = some mnt ∧ mountSourceIsExpected m mnt e.source = .ok true := by
  unfold impMounted at h1
  unfold impWrong at h2
  unfold impPanic at h3
  simp only [Bool.and_eq_true, Bool.not_eq_true'] at h1
  obtain ⟨hmiss, hsome⟩ := h1
  rw [hmiss] at h2 h3
  have hm := hmiss
  unfold impMissing at hm
  simp only [Bool.or_eq_false_iff, Bool.not_eq_false', Bool.and_eq_false_iff,
    Bool.not_eq_false'] at hm
  refine ⟨hm.1, ?_, ?_⟩
  · intro ha
    rcases hm.2 with (h | h) | h
    · rw [ha] at h; cases h
    · exact Or.inl h
    · exact Or.inr h
  · cases hg : getMount m e.mount with
    | none => rw [hg] at hsome; cases hsome
    | some mnt =>
      refine ⟨mnt, rfl, ?_⟩
      rw [hg] at h2 h3
      cases hx : mountSourceIsExpected m mnt e.source with
      | error f => simp [hx] at h3
      | ok r =>
        cases r with
        | true => rfl
        | false => simp [hx] at h2

theorem exp_good (fs : Fs.Tree) (bd : Bytes) (e : Expanded) (h1 : expMissing fs bd e = false)
    (h2 : expWrong fs bd e = false) :
    (isDescendant bd e.source = true ∨ bd = e.source) ∧ Fs.lexists fs e.source = true ∧
    (Fs.isSymlink fs e.mount = true → readlink fs e.mount = some e.source) := by
  unfold expMissing at h1
  unfold expWrong at h2
  simp only [Bool.or_eq_false_iff, Bool.and_eq_false_iff, Bool.not_eq_false', bne_eq_false_iff_eq,
    Bool.not_eq_false'] at h1 h2
  obtain ⟨h2a, h2b⟩ := h2
  have hx : Fs.lexists fs e.source = true := by
    rcases h1 with h | h
    · rcases h2a with h' | h'
      · rw [h'] at h; simp at h
      · rw [h'] at h; simp at h
    · exact h
  refine ⟨h2a, hx, ?_⟩
  intro hs
  rcases h2b with (h | h) | h
  · rw [hx] at h; cases h
  · rw [hs] at h; cases h
  · exact h

/-! ### forward direction: the pre-check on the two good paths -/

theorem preCheck_base (cfg : Config) (fs : Fs.Tree) (d : Defs) (l : Layer) (hb : l.base.length = 0) :
    preCheck cfg fs d l =
      if minimalBuildDirsPresent fs (buildPath cfg l) then .ok (some (l, 0)) else .ok none := by
  unfold preCheck
  simp only [hb, Nat.lt_irrefl, ↓reduceIte, gt_iff_lt]
  cases minimalBuildDirsPresent fs (buildPath cfg l) <;> simp

theorem preCheck_overlayOk (cfg : Config) (fs : Fs.Tree) (d : Defs) (l : Layer)
    (hb : l.base.length > 0) (ho : OverlayOk cfg d l) :
    preCheck cfg fs d l =
      if minimalBuildDirsPresent fs (buildPath cfg l) then .ok (some (l, 1)) else .ok none := by
  obtain ⟨bl, mnt, hbl, hst, hmnt, hft, h1, h2, h3⟩ := ho
  unfold preCheck
  simp only [hb, ↓reduceIte, hbl, hst, hmnt, hft, h1, h2, h3, bne_self_eq_false, Bool.or_self,
    Bool.false_eq_true]
  cases minimalBuildDirsPresent fs (buildPath cfg l) <;> simp

/-- with the FHS directories present and (derived layer) the overlay mounted as configured,
    `findLayerstate` is `classify` -/
theorem findLayerstate_reached (cfg : Config) (fs : Fs.Tree) (d : Defs) (l : Layer)
    (hs : ¬ l.state < S_complete)
    (hfhs : minimalBuildDirsPresent fs (buildPath cfg l) = true)
    (hov : l.base.length > 0 → OverlayOk cfg d l) :
    findLayerstate cfg fs d l =
      classify cfg fs d (buildPath cfg l)
        { l with mounts := getMountAndSubmounts d.mounts (buildPath cfg l), state := S_complete }
        (if l.base.length > 0 then 1 else 0) := by
  rw [findLayerstate_eq]
  unfold findLayerstate2
  simp only [hs, ↓reduceIte]
  generalize hlc : ({ l with mounts := getMountAndSubmounts d.mounts (buildPath cfg l),
                             state := S_complete } : Layer) = lc
  have hbase : lc.base = l.base := by subst hlc; rfl
  have hbp : buildPath cfg lc = buildPath cfg l := by subst hlc; rfl
  have hov' : lc.base.length > 0 → OverlayOk cfg d lc := by subst hlc; exact hov
  by_cases hb : l.base.length > 0
  · rw [preCheck_overlayOk cfg fs d lc (hbase ▸ hb) (hov' (hbase ▸ hb)), hbp, hfhs]
    simp [afterPre, hb]
  · rw [preCheck_base cfg fs d lc (by rw [hbase]; omega), hbp, hfhs]
    simp [afterPre, hb]

theorem findLayerstate_base_nofhs (cfg : Config) (fs : Fs.Tree) (d : Defs) (l : Layer)
    (hs : ¬ l.state < S_complete) (hb : l.base.length = 0)
    (hf : minimalBuildDirsPresent fs (buildPath cfg l) = false) :
    ∃ l', findLayerstate cfg fs d l = .ok l' ∧ l'.state = S_complete := by
  rw [findLayerstate_eq]
  unfold findLayerstate2
  simp only [hs, ↓reduceIte]
  generalize hlc : ({ l with mounts := getMountAndSubmounts d.mounts (buildPath cfg l),
                             state := S_complete } : Layer) = lc
  have hbase : lc.base = l.base := by subst hlc; rfl
  have hbp : buildPath cfg lc = buildPath cfg l := by subst hlc; rfl
  rw [preCheck_base cfg fs d lc (by rw [hbase]; exact hb), hbp, hf]
  refine ⟨lc, by simp [afterPre], by subst hlc; rfl⟩

/-- nothing missing or incorrect: the last three arms of the chain, read as none / some / all -/
theorem finishState_chain (s : Nat) (busy : Bool) (nm ne : Nat) (hle : nm ≤ ne) :
    (finishState s busy ne nm false false false = S_mountable ↔ nm = 0) ∧
    (finishState s busy ne nm false false false = S_partialmount ↔ 0 < nm ∧ nm < ne) ∧
    (finishState s busy ne nm false false false = S_mounted ∨
     finishState s busy ne nm false false false = S_mounted_busy ↔ 0 < nm ∧ nm = ne) := by
  simp only [finishState, Bool.or_self, Bool.false_eq_true, ↓reduceIte, beq_iff_eq, S_mountable,
    S_partialmount, S_mounted, S_mounted_busy]
  by_cases h0 : nm = 0
  · subst h0
    simp
  · by_cases h1 : nm < ne
    · simp only [h0, h1, ↓reduceIte]
      simp
      omega
    · cases busy <;> simp only [h0, h1, ↓reduceIte] <;> simp <;> omega

/-- the reported state, for `decide` -/
def st (r : Res Layer) : Option Nat := r.toOption.map (·.state)

theorem st_ok {r : Res Layer} {s : Nat} (h : st r = some s) : ∃ l', r = .ok l' ∧ l'.state = s := by
  unfold st at h
  cases r with
  | error e => simp [Except.toOption] at h
  | ok l => exact ⟨l, rfl, by simpa [Except.toOption] using h⟩

end Lc.StateProbe
