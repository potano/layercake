/-
  The base-chain walks of package manage: `chainOk` (checkInheritance) and `sortKey`
  (normalizeOrder) have the same recursion shape, so an accepted hierarchy never exhausts
  the key builder; keys of a child extend the key of its parent by "/" ++ name; a layer
  rebased onto itself or onto a descendant fails checkInheritance.  Helpers for Props/C02.
-/
import Lc.Model.Layers
import Lc.Lemmas.Sort

namespace Lc.Forest
open Lc Lc.Layers

/-- the test both walks stop on -/
theorem length_beq_zero (b : Bytes) : (b.length == 0) = true ↔ b = [] := by
  cases b <;> simp

/-- **fuel**: wherever the cycle check walks to the root, the key builder does too -/
theorem chainOk_sortKey (layers : List Layer) :
    ∀ (fuel : Nat) (visited : List Bytes) (base acc : Bytes),
      chainOk layers fuel visited base = true → (sortKey layers fuel base acc).isSome = true := by
  intro fuel
  induction fuel with
  | zero => intro v b a h; simp [chainOk] at h
  | succ n ih =>
    intro visited base acc h
    unfold chainOk at h
    unfold sortKey
    by_cases hb : base.length == 0
    · have : base.length < 1 := by simpa using hb
      simp [this]
    · have hb' : ¬ base.length < 1 := by
        intro h'; apply hb; simp at h' ⊢; exact h'
      simp only [hb, hb', if_false, Bool.false_eq_true] at h ⊢
      cases hf : layers.find? (·.name == base) with
      | none => simp [hf] at h
      | some l =>
        simp only [hf] at h ⊢
        cases hv : visited.contains l.name with
        | true => rw [hv] at h; simp at h
        | false =>
          rw [hv] at h
          simp only [Bool.false_eq_true, if_false] at h
          exact ih _ _ _ h

/-- the accumulator is only ever prepended to -/
theorem sortKey_acc (layers : List Layer) :
    ∀ (fuel : Nat) (base acc : Bytes),
      sortKey layers fuel base acc = (sortKey layers fuel base []).map (· ++ acc) := by
  intro fuel
  induction fuel with
  | zero => intro b a; simp [sortKey]
  | succ n ih =>
    intro base acc
    unfold sortKey
    by_cases hb : base.length < 1
    · simp [hb]
    · simp only [hb, if_false]
      cases hf : layers.find? (·.name == base) with
      | none => simp
      | some l =>
        simp only
        rw [ih l.base (base ++ 47 :: acc), ih l.base (base ++ [47])]
        cases sortKey layers n l.base [] <;> simp

/-- more fuel does not change a key -/
theorem sortKey_mono (layers : List Layer) :
    ∀ (fuel : Nat) (base acc k : Bytes),
      sortKey layers fuel base acc = some k → sortKey layers (fuel + 1) base acc = some k := by
  intro fuel
  induction fuel with
  | zero => intro b a k h; simp [sortKey] at h
  | succ n ih =>
    intro base acc k h
    unfold sortKey at h ⊢
    by_cases hb : base.length < 1
    · simpa [hb] using h
    · simp only [hb, if_false] at h ⊢
      cases hf : layers.find? (·.name == base) with
      | none => simp [hf] at h
      | some l =>
        simp only [hf] at h ⊢
        exact ih _ _ _ h

/-- the key of a layer `c` whose base is found as `p`: key(p) ++ "/" ++ c.name -/
theorem key_child (layers : List Layer) (fuel : Nat) (c p : Layer) (kc : Bytes)
    (hb : c.base ≠ []) (hp : layers.find? (·.name == c.base) = some p)
    (hc : sortKey layers (fuel + 1) c.base c.name = some kc) :
    ∃ kp, sortKey layers (fuel + 1) p.base p.name = some kp ∧ kc = kp ++ 47 :: c.name := by
  have hpn : p.name = c.base := by
    have := List.find?_some hp
    simpa using this
  unfold sortKey at hc
  have hb' : ¬ c.base.length < 1 := by
    intro h; apply hb; cases hcb : c.base with
    | nil => rfl
    | cons x xs => rw [hcb] at h; simp at h
  simp only [hb', if_false, hp] at hc
  rw [sortKey_acc] at hc
  cases hr : sortKey layers fuel p.base [] with
  | none => rw [hr] at hc; simp at hc
  | some r =>
    rw [hr] at hc
    simp at hc
    refine ⟨r ++ p.name, ?_, ?_⟩
    · rw [sortKey_acc, sortKey_mono layers fuel p.base [] r hr]; rfl
    · rw [← hc, hpn]; simp

/-! ### cycles -/

/-- `k` is a proper descendant of the layer named `n`: following base links from `k` one
    arrives at `n` -/
inductive Desc (layers : List Layer) (n : Bytes) : Bytes → Prop where
  | child (k : Bytes) (lk : Layer) : k ≠ [] → layers.find? (·.name == k) = some lk → lk.base = n → Desc layers n k
  | step (k : Bytes) (lk : Layer) : k ≠ [] → layers.find? (·.name == k) = some lk → Desc layers n lk.base →
      Desc layers n k

theorem find?_setLayer_self (d : Defs) (l l' : Layer) (n : Bytes)
    (hl : findLayer d n = some l) (hn : l'.name = n) :
    (setLayer d l').layers.find? (·.name == n) = some l' := by
  unfold findLayer at hl
  unfold setLayer
  simp only
  generalize d.layers = ls at hl ⊢
  induction ls with
  | nil => simp at hl
  | cons x xs ih =>
    rw [List.find?_cons] at hl
    simp only [List.map_cons, List.find?_cons]
    by_cases hx : (x.name == n) = true
    · have : (x.name == l'.name) = true := by rw [hn]; exact hx
      have h2 : (l'.name == n) = true := by rw [hn]; simp
      simp only [this, if_true, h2]
    · have hx' : ¬ (x.name == l'.name) = true := by rw [hn]; exact hx
      simp only [hx] at hl
      simp only [hx', Bool.false_eq_true, if_false, hx]
      exact ih hl

theorem find?_setLayer_other (d : Defs) (l' : Layer) (k : Bytes) (hk : k ≠ l'.name) :
    (setLayer d l').layers.find? (·.name == k) = d.layers.find? (·.name == k) := by
  unfold setLayer
  simp only
  induction d.layers with
  | nil => rfl
  | cons x xs ih =>
    simp only [List.map_cons, List.find?_cons]
    by_cases hx : (x.name == l'.name) = true
    · have hxe : x.name = l'.name := by simpa using hx
      have : ¬ (l'.name == k) = true := by
        intro h; apply hk; simp at h; exact h.symm
      have h2 : ¬ (x.name == k) = true := by rw [hxe]; exact this
      simp only [hx, if_true, this, h2]
      exact ih
    · simp only [hx, Bool.false_eq_true, if_false]
      by_cases h2 : (x.name == k) = true
      · simp [h2]
      · simp only [h2]; exact ih

theorem chainOk_self (d : Defs) (l l' : Layer) (n : Bytes) (hn : n ≠ [])
    (hl : findLayer d n = some l) (hn' : l'.name = n) (fuel : Nat) (visited : List Bytes) (hv : n ∈ visited) :
    chainOk (setLayer d l').layers fuel visited n = false := by
  cases fuel with
  | zero => rfl
  | succ f =>
    have hnlen : ¬ (n.length == 0) = true := fun h => hn ((length_beq_zero n).mp h)
    unfold chainOk
    simp only [hnlen, if_false, find?_setLayer_self d l l' n hl hn', Bool.false_eq_true]
    rw [if_pos (by rw [hn']; simpa using hv)]

theorem chainOk_cycle (d : Defs) (l l' : Layer) (n : Bytes) (hn : n ≠ [])
    (hl : findLayer d n = some l) (hn' : l'.name = n) (k : Bytes) (hd : Desc d.layers n k) :
    ∀ (fuel : Nat) (visited : List Bytes), n ∈ visited →
      chainOk (setLayer d l').layers fuel visited k = false := by
  have hat := chainOk_self d l l' n hn hl hn'
  -- one link: if the walk fails from the base of `k`'s record, it fails from `k`
  have hstep : ∀ k lk, k ≠ [] → d.layers.find? (·.name == k) = some lk →
      (∀ fuel visited, n ∈ visited → chainOk (setLayer d l').layers fuel visited lk.base = false) →
      ∀ fuel visited, n ∈ visited → chainOk (setLayer d l').layers fuel visited k = false := by
    intro k lk hk hf hnext fuel visited hv
    by_cases hkn : k = n
    · rw [hkn]; exact hat fuel visited hv
    cases fuel with
    | zero => rfl
    | succ f =>
      have hklen : ¬ (k.length == 0) = true := fun h => hk ((length_beq_zero k).mp h)
      unfold chainOk
      rw [find?_setLayer_other d l' k (by rw [hn']; exact hkn)]
      simp only [hklen, if_false, hf, Bool.false_eq_true]
      by_cases hvis : visited.contains lk.name = true
      · rw [if_pos hvis]
      · rw [if_neg hvis]
        exact hnext f _ (List.mem_cons_of_mem _ hv)
  induction hd with
  | child k lk hk hf hb => exact hstep k lk hk hf (hb ▸ hat)
  | step k lk hk hf _ ih => exact hstep k lk hk hf ih

/-! ### the order computed by normalizeOrder -/

/-- the list normalizeOrder sorts -/
def keyed (layers : List Layer) : List (Bytes × Option Bytes) :=
  layers.map fun l => (l.name, sortKey layers (layers.length + 1) l.base l.name)

def keyLt (a b : Bytes × Option Bytes) : Bool := bytesLt (a.2.getD []) (b.2.getD [])

theorem normalizeOrder_ok (layers : List Layer) (order : List Bytes)
    (h : normalizeOrder layers = .ok order) :
    (∀ l ∈ layers, (sortKey layers (layers.length + 1) l.base l.name).isSome = true) ∧
    order = (sortBy keyLt (keyed layers)).map (·.1) := by
  unfold normalizeOrder at h
  by_cases hany : ((layers.map fun l => (l.name, sortKey layers (layers.length + 1) l.base l.name)).any
      (·.2.isNone)) = true
  · simp only [hany, if_true] at h
    cases h
  · simp only [hany, Bool.false_eq_true, if_false] at h
    constructor
    · intro l hl
      cases hk : sortKey layers (layers.length + 1) l.base l.name with
      | some k => rfl
      | none =>
        exfalso; apply hany
        rw [List.any_eq_true]
        exact ⟨(l.name, none), List.mem_map.mpr ⟨l, hl, by rw [hk]⟩, rfl⟩
    · injection h with h
      exact h.symm

theorem normalizeOrder_of_check (L : List Layer) (h : checkInheritance L = true) :
    ∃ o, normalizeOrder L = .ok o := by
  unfold normalizeOrder
  have hany : (L.map fun l => (l.name, sortKey L (L.length + 1) l.base l.name)).any (·.2.isNone) = false := by
    rw [List.any_eq_false]
    intro x hx
    obtain ⟨l, hl, rfl⟩ := List.mem_map.mp hx
    unfold checkInheritance at h
    have := chainOk_sortKey L _ _ _ l.name (List.all_eq_true.mp h l hl)
    cases hk : sortKey L (L.length + 1) l.base l.name with
    | none => rw [hk] at this; cases this
    | some k => simp
  simp only [hany]
  exact ⟨_, rfl⟩

/-- the order is a permutation of the layer names: nothing lost, nothing invented -/
theorem order_perm (layers : List Layer) (order : List Bytes)
    (h : normalizeOrder layers = .ok order) : order.Perm (layers.map (·.name)) := by
  rw [(normalizeOrder_ok layers order h).2]
  have := (sortBy_perm keyLt (keyed layers)).map (·.1)
  refine this.trans ?_
  unfold keyed
  rw [List.map_map]
  exact List.Perm.refl _

theorem mem_setLayer (d : Defs) (l l' : Layer) (n : Bytes)
    (hl : findLayer d n = some l) (hn : l'.name = n) : l' ∈ (setLayer d l').layers :=
  List.mem_of_find?_eq_some (find?_setLayer_self d l l' n hl hn)

end Lc.Forest
