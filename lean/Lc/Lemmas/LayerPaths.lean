/-
  Where the layer directories and their layerconfig files lie: for clean single-component
  names `n` (not empty, no '/', not "." or ".." — every legal layer name is one),
  `layerPath cfg n = D ++ n` and its layerconfig is `D ++ n ++ "/layerconfig"` with one
  prefix `D` depending on the configuration only.  Hence layer directories of different
  names are never nested, and no layerconfig lies at or below another layer's layerconfig
  or temporary file.  Helper lemmas for Props/C11 (crash_atomic_add, crash_atomic_rename).
-/
import Lc.Lemmas.ExportPath
import Lc.Lemmas.FsRename
import Lc.Lemmas.WriteLayerFile
import Lc.Lemmas.Runes

namespace Lc.LayerPaths
open Lc Lc.Layers Lc.Lemmas.Path Lc.ExportPath Lc.FsRename Lc.Lemmas.WriteLF

theorem lcName_clean : CleanName lcName := by decide

/-- `path.Join(x, c)` for a clean name `c` ends in `c` -/
theorem pathJoin2_suffix (x c : Bytes) (hc : CleanName c) : ∃ B, pathJoin [x, c] = B ++ c := by
  obtain ⟨B, hB⟩ := pathJoin3_prefix [] x
  exact ⟨B, hB c hc⟩

theorem getLast_of_suffix (B c : Bytes) (x : Nat) (h : c.getLast? = some x) : (B ++ c).getLast? = some x := by
  rw [List.getLast?_append, h]; rfl

/-- a layerconfig path ends in 'g' -/
theorem layerconfigPath_last (l : Layer) : (layerconfigPath l).getLast? = some 103 := by
  obtain ⟨B, hB⟩ := pathJoin2_suffix l.layerPath lcName lcName_clean
  unfold layerconfigPath
  have : (b!"layerconfig" : Bytes) = lcName := rfl
  rw [this, hB]
  exact getLast_of_suffix B lcName 103 (by decide)

/-- `path.Join(x, ".bashrc")` is no layerconfig path -/
theorem bashrc_ne_layerconfig (x : Bytes) (l : Layer) : layerconfigPath l ≠ pathJoin [x, b!".bashrc"] := by
  intro h
  have h1 := layerconfigPath_last l
  obtain ⟨B, hB⟩ := pathJoin2_suffix x b!".bashrc" (by decide)
  rw [h, hB, getLast_of_suffix B b!".bashrc" 99 (by decide)] at h1
  cases h1

/-! ### the common prefix -/

theorem joinWith_one (n : Bytes) : joinWith SLASH [n] = n := rfl

theorem clean_ne_nil (n : Bytes) (hn : CleanName n) : n ≠ [] := hn.1.1

theorem layer_paths (cfg : Config) : ∃ D : Bytes, ∀ n, CleanName n →
    layerPath cfg n = D ++ n ∧ pathJoin [layerPath cfg n, lcName] = D ++ (n ++ 47 :: lcName) := by
  cases hld : cfg.layerdirs with
  | nil =>
    refine ⟨[], fun n hn => ?_⟩
    obtain ⟨x, xs, rfl, _⟩ := clean_not_abs n hn
    have h1 : layerPath cfg (x :: xs) = x :: xs := by
      have := pathClean_clean [x :: xs] (by simp) (by simpa using hn)
      simpa [layerPath, hld, pathJoin, joinWith] using this
    refine ⟨by simpa using h1, ?_⟩
    rw [h1]
    have := pathClean_clean [x :: xs, lcName] (by simp) (by
      intro c hc
      rcases List.mem_cons.mp hc with rfl | hc
      · exact hn
      · have : c = lcName := by simpa using hc
        exact this ▸ lcName_clean)
    simpa [pathJoin, joinWith, SLASH] using this
  | cons z zs =>
    obtain ⟨D, hD⟩ := pathClean_prefix (z :: zs)
    refine ⟨D, fun n hn => ?_⟩
    obtain ⟨x, xs, rfl, _⟩ := clean_not_abs n hn
    have h1 : layerPath cfg (x :: xs) = D ++ (x :: xs) := by
      have := hD [x :: xs] (by simp) (by simpa using hn)
      simpa [layerPath, hld, pathJoin, joinWith] using this
    refine ⟨h1, ?_⟩
    have h2 := hD [x :: xs, lcName] (by simp) (by
      intro c hc
      rcases List.mem_cons.mp hc with rfl | hc
      · exact hn
      · have : c = lcName := by simpa using hc
        exact this ▸ lcName_clean)
    simp only [joinWith] at h2
    -- the layerconfig path is the cleaning of an already clean path
    have hne : D ++ (x :: xs) ≠ [] := by simp
    have h3 : pathJoin [layerPath cfg (x :: xs), lcName]
        = pathClean ((D ++ (x :: xs)) ++ SLASH :: lcName) := by
      rw [h1]
      cases hd : D ++ (x :: xs) with
      | nil => exact absurd hd hne
      | cons y ys => simp [pathJoin, joinWith, lcName]
    rw [h3]
    have h4 : (D ++ (x :: xs)) ++ SLASH :: lcName = D ++ ((x :: xs) ++ SLASH :: lcName) := by simp
    rw [h4, ← h2, pathClean_idem]
    exact h2

/-! ### separation -/

theorem under_tmp_cfg (F : Bytes) : Fs.under (F ++ tmpSuffix) F = false := by
  apply under_false_of
  · intro h; have := congrArg List.length h; simp [tmpSuffix] at this
  · exact tmp_ne_root F
  · intro t h; have := congrArg List.length h; simp [tmpSuffix] at this

theorem tail_lc : Tail (47 :: lcName) := tail_slash _

/-! ### legal layer names are clean names -/

/-- an ASCII byte of a legal layer name is a letter, a digit, '_' or '-' -/
theorem legal_ascii (n : Bytes) (h : isLegalLayerName n = true) (c : Nat) (hc : c ∈ n) (h128 : c < 128) :
    isLetterOrDigit c = true ∨ c = 95 ∨ c = 45 := by
  obtain ⟨a, b, rfl⟩ := List.append_of_mem hc
  have hr : (c, [c]) ∈ Lc.Lemmas.Runes.rs (a ++ c :: b) := by
    rw [Lc.Lemmas.Runes.rs_split_ascii a c b h128]; simp
  unfold Lc.Lemmas.Runes.rs at hr
  obtain ⟨x, hx, hxe⟩ := List.mem_map.mp hr
  unfold isLegalLayerName at h
  have := List.all_eq_true.mp h x hx
  obtain ⟨off, r, bs⟩ := x
  simp only at hxe
  cases hxe
  simp only [Bool.or_eq_true, Bool.and_eq_true, beq_iff_eq] at this
  rcases this with (h1 | h1) | h1
  · exact Or.inl h1
  · exact Or.inr (Or.inl h1)
  · exact Or.inr (Or.inr h1.1)

theorem legal_lacks (n : Bytes) (h : isLegalLayerName n = true) (c : Nat) (h128 : c < 128)
    (hl : isLetterOrDigit c = false) (h95 : c ≠ 95) (h45 : c ≠ 45) : c ∉ n := by
  intro hc
  rcases legal_ascii n h c hc h128 with h1 | h1 | h1
  · rw [hl] at h1; cases h1
  · exact h95 h1
  · exact h45 h1

/-- what `testName` checks (`isLegalLayerName`, not empty) makes a name a clean single path
    component -/
theorem legal_clean (n : Bytes) (hne : n ≠ []) (h : isLegalLayerName n = true) : CleanName n := by
  have h47 : (47 : Nat) ∉ n :=
    legal_lacks n h 47 (by omega) (Lc.Lemmas.Runes.not_letter 47 (by omega)) (by omega) (by omega)
  have h46 : (46 : Nat) ∉ n :=
    legal_lacks n h 46 (by omega) (Lc.Lemmas.Runes.not_letter 46 (by omega)) (by omega) (by omega)
  refine ⟨⟨hne, ?_, h47⟩, ?_⟩
  · intro e; rw [e] at h46; exact h46 (by simp [DOT])
  · intro e; rw [e] at h46; exact h46 (by simp [dotdot])

/-! ### layers as `findLayers` produces them -/

/-- what `readLayerFiles` establishes for every layer it returns (for a directory listing
    without an empty name): the layer lives in `<layerdirs>/<name>` and the name is legal -/
def Placed (cfg : Config) (k : Layer) : Prop :=
  k.layerPath = layerPath cfg k.name ∧ k.name ≠ [] ∧ isLegalLayerName k.name = true

theorem readLayerFiles_placed (cfg : Config) (fs : Fs.Tree) (names : List Bytes) (hne : [] ∉ names) :
    ∀ k ∈ readLayerFiles cfg fs names, Placed cfg k := by
  intro k hk
  unfold readLayerFiles at hk
  obtain ⟨n, hn, hs⟩ := List.mem_filterMap.mp hk
  by_cases hleg : isLegalLayerName n = true
  · simp only [hleg, Bool.not_true, Bool.false_eq_true, if_false] at hs
    split at hs
    · cases hs
      refine ⟨rfl, fun e => hne ?_, hleg⟩
      have e' : n = [] := e
      rw [← e']; exact hn
    · cases hs
  · simp [hleg] at hs

theorem placed_clean (cfg : Config) (k : Layer) (h : Placed cfg k) : CleanName k.name :=
  legal_clean k.name h.2.1 h.2.2

theorem placed_cfg (cfg : Config) (D : Bytes)
    (hD : ∀ n, CleanName n → layerPath cfg n = D ++ n ∧ pathJoin [layerPath cfg n, lcName] = D ++ (n ++ 47 :: lcName))
    (k : Layer) (h : Placed cfg k) :
    k.layerPath = D ++ k.name ∧ layerconfigPath k = D ++ (k.name ++ 47 :: lcName) := by
  have hc := placed_clean cfg k h
  refine ⟨h.1.trans (hD _ hc).1, ?_⟩
  unfold layerconfigPath
  rw [h.1]
  exact (hD _ hc).2

theorem findLayer_none (d : Defs) (n : Bytes) (h : findLayer d n = none) : ∀ k ∈ d.layers, k.name ≠ n := by
  unfold findLayer at h
  intro k hk
  have := List.find?_eq_none.mp h k hk
  simpa using this

/-- equal layerconfig paths below the common prefix: equal names -/
theorem cfg_inj (D a b : Bytes) (ha : CleanName a) (hb : CleanName b)
    (h : D ++ (a ++ 47 :: lcName) = D ++ (b ++ 47 :: lcName)) : a = b :=
  append_sep_inj 47 a b lcName lcName ha.1.2.2 hb.1.2.2 (List.append_cancel_left h)

/-- the layerconfig `D/n/layerconfig` against the layerconfig and temporary file of `D/m` -/
theorem cfg_vs (D n m : Bytes) (hn : CleanName n) (hm : CleanName m) :
    Fs.under (D ++ (m ++ 47 :: lcName) ++ tmpSuffix) (D ++ (n ++ 47 :: lcName)) = false ∧
    (Fs.under (D ++ (m ++ 47 :: lcName)) (D ++ (n ++ 47 :: lcName)) = false ∨
      D ++ (n ++ 47 :: lcName) = D ++ (m ++ 47 :: lcName)) := by
  by_cases e : m = n
  · subst e
    exact ⟨under_tmp_cfg _, Or.inr rfl⟩
  · rw [List.append_assoc, List.append_assoc]
    exact ⟨sep_names D m n _ _ hm hn e (tail_slash _) tail_lc, Or.inl (sep_names D m n _ _ hm hn e tail_lc tail_lc)⟩

end Lc.LayerPaths
