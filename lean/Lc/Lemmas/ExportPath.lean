/-
  `path.Join` of a directory prefix and clean single-component names: distinct names give
  distinct paths, neither under the other.  Helper lemmas for Props/C16.
-/
import Lc.Lemmas.Path
import Lc.Lemmas.Prefix
import Lc.Lemmas.FsRename

namespace Lc.ExportPath
open Lc Lc.Lemmas.Path Lc.FsRename

/-- a clean single path component: not empty, not "." or "..", no '/' -/
def CleanName (n : Bytes) : Prop := Good n ∧ n ≠ dotdot

instance (n : Bytes) : Decidable (CleanName n) := by
  unfold CleanName Good; infer_instance

theorem pathComps_append_sep (X J : Bytes) :
    pathComps (X ++ SLASH :: J) = pathComps X ++ pathComps J := by
  unfold pathComps
  rw [splitOn_append_sep_gen, List.filter_append]

theorem isAbs_append_sep (X J : Bytes) : isAbs (X ++ SLASH :: J) = isAbs (X ++ [SLASH]) := by
  cases X with
  | nil => rfl
  | cons x xs => simp only [List.cons_append, isAbs_cons]

theorem joinWith_cons_cons (sep : Nat) (x y : Bytes) (rest : List Bytes) :
    joinWith sep (x :: y :: rest) = x ++ sep :: joinWith sep (y :: rest) := rfl

theorem joinWith_append (sep : Nat) (xs ys : List Bytes) (hy : ys ≠ []) :
    joinWith sep (xs ++ ys) = if xs = [] then joinWith sep ys else joinWith sep xs ++ sep :: joinWith sep ys := by
  induction xs with
  | nil => simp
  | cons x rest ih =>
    cases rest with
    | nil =>
      cases ys with
      | nil => exact absurd rfl hy
      | cons y ys' => simp [joinWith]
    | cons z rest' =>
      have : (x :: z :: rest') ++ ys = x :: z :: (rest' ++ ys) := rfl
      rw [this, joinWith_cons_cons, joinWith_cons_cons]
      have ih' : joinWith sep (z :: (rest' ++ ys)) =
          joinWith sep (z :: rest') ++ sep :: joinWith sep ys := by
        have := ih
        simp only [List.cons_append, reduceCtorEq, if_false] at this
        exact this
      rw [ih']
      simp

theorem clean_no_dotdot (cs : List Bytes) (h : ∀ c ∈ cs, CleanName c) : dotdot ∉ cs :=
  fun hm => (h _ hm).2 rfl

theorem joinWith_clean_ne_nil (cs : List Bytes) (hne : cs ≠ []) (h : ∀ c ∈ cs, CleanName c) :
    joinWith SLASH cs ≠ [] := by
  cases cs with
  | nil => exact absurd rfl hne
  | cons c rest =>
    have hc := (h c (by simp)).1.1
    cases c with
    | nil => exact absurd rfl hc
    | cons x xs =>
      rw [joinWith_cons_head]; simp

theorem assemble_out (r : Bool) (body : Bytes) (hb : body ≠ []) :
    (let out := if r then SLASH :: body else body
     if out.isEmpty then [DOT] else out) = (if r then [SLASH] else []) ++ body := by
  cases r
  · cases body with
    | nil => exact absurd rfl hb
    | cons x xs => simp
  · simp

def Shape (B : Bytes) : Prop := B = [] ∨ ∃ B', B = B' ++ [47]

/-- cleaning `X/c1/…/ck` with clean components keeps `c1/…/ck` as the tail; the head
    depends on `X` only and is empty or ends in '/' -/
theorem pathClean_prefix_shape (X : Bytes) : ∃ B : Bytes, Shape B ∧ ∀ cs : List Bytes, cs ≠ [] →
    (∀ c ∈ cs, CleanName c) → pathClean (X ++ SLASH :: joinWith SLASH cs) = B ++ joinWith SLASH cs := by
  let r := isAbs (X ++ [SLASH])
  let st := (pathComps X).foldl (cleanStep r) []
  refine ⟨(if r then [SLASH] else []) ++ (if st.reverse = [] then [] else joinWith SLASH st.reverse ++ [SLASH]),
    ?_, ?_⟩
  · by_cases hs : st.reverse = []
    · simp only [hs, if_true, List.append_nil]
      cases r
      · left; rfl
      · right; exact ⟨[], rfl⟩
    · right
      simp only [hs, if_false]
      exact ⟨(if r then [SLASH] else []) ++ joinWith SLASH st.reverse, by simp [SLASH]⟩
  · intro cs hne hcs
    have hgood : ∀ c ∈ cs, Good c := fun c hc => (hcs c hc).1
    rw [pathClean_eq_assemble, isAbs_append_sep, pathComps_append_sep, pathComps_join cs hne hgood,
      List.foldl_append, foldl_push r cs (clean_no_dotdot cs hcs)]
    show assemble r (cs.reverse ++ st) = _
    unfold assemble
    have hbody : joinWith SLASH (cs.reverse ++ st).reverse =
        (if st.reverse = [] then [] else joinWith SLASH st.reverse ++ [SLASH]) ++ joinWith SLASH cs := by
      rw [List.reverse_append, List.reverse_reverse, joinWith_append SLASH st.reverse cs hne]
      split <;> simp
    rw [hbody]
    have hne2 : (if st.reverse = [] then [] else joinWith SLASH st.reverse ++ [SLASH]) ++ joinWith SLASH cs ≠ [] := by
      intro h
      exact joinWith_clean_ne_nil cs hne hcs (List.append_eq_nil_iff.mp h).2
    rw [assemble_out r _ hne2, List.append_assoc]

theorem pathClean_prefix (X : Bytes) : ∃ B : Bytes, ∀ cs : List Bytes, cs ≠ [] →
    (∀ c ∈ cs, CleanName c) → pathClean (X ++ SLASH :: joinWith SLASH cs) = B ++ joinWith SLASH cs :=
  let ⟨B, _, h⟩ := pathClean_prefix_shape X
  ⟨B, h⟩

theorem clean_not_abs (c : Bytes) (h : CleanName c) : ∃ x xs, c = x :: xs ∧ x ≠ 47 := by
  obtain ⟨⟨h1, _, h3⟩, _⟩ := h
  cases c with
  | nil => exact absurd rfl h1
  | cons x xs => exact ⟨x, xs, rfl, fun e => h3 (by simp [e, SLASH])⟩

/-- cleaning `c1/…/ck` with clean components changes nothing -/
theorem pathClean_clean (cs : List Bytes) (hne : cs ≠ []) (hcs : ∀ c ∈ cs, CleanName c) :
    pathClean (joinWith SLASH cs) = joinWith SLASH cs := by
  have hgood : ∀ c ∈ cs, Good c := fun c hc => (hcs c hc).1
  have habs : isAbs (joinWith SLASH cs) = false := by
    cases cs with
    | nil => exact absurd rfl hne
    | cons c rest =>
      obtain ⟨x, xs, rfl, hx⟩ := clean_not_abs c (hcs c (by simp))
      rw [joinWith_cons_head, isAbs_cons]; simp [hx]
  rw [pathClean_eq_assemble, habs, pathComps_join cs hne hgood,
    foldl_push false cs (clean_no_dotdot cs hcs)]
  unfold assemble
  simp only [List.append_nil, List.reverse_reverse, Bool.false_eq_true, if_false]
  have := joinWith_clean_ne_nil cs hne hcs
  cases hj : joinWith SLASH cs with
  | nil => exact absurd hj this
  | cons x xs => simp

theorem single_clean (n : Bytes) (hn : CleanName n) : ∀ c ∈ [n], CleanName c := by
  intro c hc
  have : c = n := by simpa using hc
  exact this ▸ hn

theorem pathJoin3_prefix_shape (a b : Bytes) : ∃ B : Bytes, Shape B ∧
    ∀ n, CleanName n → pathJoin [a, b, n] = B ++ n := by
  cases a with
  | nil =>
    cases b with
    | nil =>
      refine ⟨[], Or.inl rfl, fun n hn => ?_⟩
      obtain ⟨x, xs, rfl, _⟩ := clean_not_abs n hn
      have := pathClean_clean [x :: xs] (by simp) (single_clean _ hn)
      simpa [pathJoin, joinWith] using this
    | cons y ys =>
      obtain ⟨B, hs, hB⟩ := pathClean_prefix_shape (y :: ys)
      refine ⟨B, hs, fun n hn => ?_⟩
      obtain ⟨x, xs, rfl, _⟩ := clean_not_abs n hn
      have := hB [x :: xs] (by simp) (single_clean _ hn)
      simpa [pathJoin, joinWith] using this
  | cons z zs =>
    obtain ⟨B, hs, hB⟩ := pathClean_prefix_shape ((z :: zs) ++ SLASH :: b)
    refine ⟨B, hs, fun n hn => ?_⟩
    obtain ⟨x, xs, rfl, _⟩ := clean_not_abs n hn
    have := hB [x :: xs] (by simp) (single_clean _ hn)
    simpa [pathJoin, joinWith] using this

theorem pathJoin3_prefix (a b : Bytes) : ∃ B : Bytes, ∀ n, CleanName n → pathJoin [a, b, n] = B ++ n :=
  let ⟨B, _, h⟩ := pathJoin3_prefix_shape a b
  ⟨B, h⟩

/-- `path.Join(e, b, n)` for clean `b`, `n` ends in `b/n`; what precedes depends on `e` only -/
theorem pathJoin3_prefix2 (e : Bytes) : ∃ B : Bytes, ∀ b n, CleanName b → CleanName n →
    pathJoin [e, b, n] = B ++ (b ++ SLASH :: n) := by
  cases e with
  | nil =>
    refine ⟨[], fun b n hb hn => ?_⟩
    obtain ⟨y, ys, rfl, _⟩ := clean_not_abs b hb
    have := pathClean_clean [y :: ys, n] (by simp) (by
      intro c hc
      rcases List.mem_cons.mp hc with rfl | hc
      · exact hb
      · have : c = n := by simpa using hc
        exact this ▸ hn)
    simpa [pathJoin, joinWith] using this
  | cons z zs =>
    obtain ⟨B, hB⟩ := pathClean_prefix (z :: zs)
    refine ⟨B, fun b n hb hn => ?_⟩
    have := hB [b, n] (by simp) (by
      intro c hc
      rcases List.mem_cons.mp hc with rfl | hc
      · exact hb
      · have : c = n := by simpa using hc
        exact this ▸ hn)
    simpa [pathJoin, joinWith] using this

/-! ### not under each other -/

theorem under_false_of (p q : Bytes) (h1 : q ≠ p) (h2 : p ≠ [47]) (h3 : ∀ t, q ≠ p ++ [47] ++ t) :
    Fs.under p q = false := by
  unfold Fs.under
  have hq : (q == p) = false := by simpa using h1
  have hp : (p == [47]) = false := by simpa using h2
  have hpre : hasPrefix q (p ++ [47]) = false := by
    cases hh : hasPrefix q (p ++ [47]) with
    | false => rfl
    | true =>
      obtain ⟨t, ht⟩ := (hasPrefix_iff _ _).mp hh
      exact absurd ht (h3 t)
  simp [hq, hp, hpre]

theorem append_sep_inj (s : Nat) : ∀ (a b x y : Bytes), s ∉ a → s ∉ b → a ++ s :: x = b ++ s :: y → a = b
  | [], [], _, _, _, _, _ => rfl
  | [], c :: cs, _, _, _, hb, h => by
    simp only [List.nil_append, List.cons_append, List.cons.injEq] at h
    exact absurd (by simp [h.1]) hb
  | c :: cs, [], _, _, ha, _, h => by
    simp only [List.nil_append, List.cons_append, List.cons.injEq] at h
    exact absurd (by simp [h.1]) ha
  | c :: cs, d :: ds, x, y, ha, hb, h => by
    simp only [List.cons_append, List.cons.injEq] at h
    have := append_sep_inj s cs ds x y (fun hm => ha (by simp [hm])) (fun hm => hb (by simp [hm])) h.2
    rw [h.1, this]

theorem no_slash_tail_inj (a b X Y : Bytes) (ha : (47 : Nat) ∉ a) (hb : (47 : Nat) ∉ b)
    (hX : Tail X) (hY : Tail Y) (h : a ++ X = b ++ Y) : a = b := by
  rcases hX with rfl | ⟨r, rfl⟩ <;> rcases hY with rfl | ⟨s, rfl⟩
  · simpa using h
  · rw [List.append_nil] at h
    exact absurd (by rw [h]; simp) ha
  · rw [List.append_nil] at h
    exact absurd (by rw [← h]; simp) hb
  · exact append_sep_inj 47 a b r s ha hb h

theorem sep_names (D n m X Y : Bytes) (hn : CleanName n) (hm : CleanName m) (hne : n ≠ m)
    (hX : Tail X) (hY : Tail Y) : Fs.under (D ++ (n ++ X)) (D ++ (m ++ Y)) = false := by
  have hsn : (47 : Nat) ∉ n := hn.1.2.2
  have hsm : (47 : Nat) ∉ m := hm.1.2.2
  apply under_false_of
  · intro h
    exact hne (no_slash_tail_inj m n Y X hsm hsn hY hX (List.append_cancel_left h)).symm
  · intro h
    obtain ⟨x, xs, rfl, hx⟩ := clean_not_abs n hn
    cases D with
    | nil =>
      simp only [List.nil_append, List.cons_append, List.cons.injEq] at h
      exact hx h.1
    | cons y ys =>
      have := congrArg List.length h
      simp at this
  · intro t h
    rw [List.append_assoc, List.append_assoc] at h
    have h' := List.append_cancel_left h
    have h'' : m ++ Y = n ++ (X ++ 47 :: t) := by simpa using h'
    exact hne (no_slash_tail_inj m n Y _ hsm hsn hY (hX.append (tail_slash t)) h'').symm

theorem not_under_of_ne_name (a b n n' : Bytes) (hn : CleanName n) (hn' : CleanName n') (hne : n' ≠ n) :
    Fs.under (pathJoin [a, b, n]) (pathJoin [a, b, n']) = false := by
  obtain ⟨B, hB⟩ := pathJoin3_prefix a b
  rw [hB n hn, hB n' hn']
  simpa using sep_names B n n' [] [] hn hn' (Ne.symm hne) tail_nil tail_nil

/-- different clean sub-directories of the same directory: not at/under each other -/
theorem not_under_of_ne_dir (e b1 b2 n n' : Bytes) (h1 : CleanName b1) (h2 : CleanName b2)
    (hn : CleanName n) (hn' : CleanName n') (hne : b1 ≠ b2) :
    Fs.under (pathJoin [e, b1, n]) (pathJoin [e, b2, n']) = false := by
  obtain ⟨B, hB⟩ := pathJoin3_prefix2 e
  rw [hB b1 n h1 hn, hB b2 n' h2 hn']
  exact sep_names B b1 b2 _ _ h1 h2 hne (tail_slash n) (tail_slash n')

end Lc.ExportPath
