/-
  The forest ON DISK: what `findLayers` makes of a well-formed tree, described path by path.
  With a clean absolute layers directory `/d1/…/dk` the layer `n` lives at `/d1/…/dk/n` and
  its layerconfig at `/d1/…/dk/n/layerconfig` (`Below`: paths under different entries are not
  nested, none is at or above the layers directory); `n` is listed iff the first path is present;
  the (name, base) pairs of the table `findLayers` returns are exactly the pairs
  "listed legal name, base line of its readable layerconfig".  The cycle check depends only
  on the SET of (name, base) pairs when names are unique (`check_of_same_view`), so it can be
  carried from the table a command returns to the table the next invocation reads.
  Helper lemmas for Props/C02.
-/
import Lc.Lemmas.TreeKeeps

namespace Lc.DiskView
open Lc Lc.Layers Lc.Fs Lc.Lemmas.Path Lc.ExportPath Lc.InLayers Lc.TreeWF Lc.TreeKeeps Lc.ForestInv
  Lc.ForestCmd Lc.Lemmas.WriteLF Lc.Layerfile

/-! ### paths below the layers directory -/

/-- the components of the layers directory -/
structure LD (cfg : Config) (ds : List Bytes) : Prop where
  clean : ∀ c ∈ ds, CleanName c
  eq : cfg.layerdirs = absPath ds

theorem ld_of_clean (cfg : Config) (h : CleanAbs cfg.layerdirs) : ∃ ds, LD cfg ds := by
  obtain ⟨ds, hds, e⟩ := cleanAbs_comps _ h
  exact ⟨ds, hds, e⟩

/-- the layerconfig path of the layer directory named `n`: what the model's `layerconfigPath`
    gives for a record that lives there -/
def cfgOf (cfg : Config) (n : Bytes) : Bytes := pathJoin [layerPath cfg n, b!"layerconfig"]

theorem cfgPath_placed {cfg : Config} {l : Layer} (hl : LayerPaths.Placed cfg l) :
    layerconfigPath l = cfgOf cfg l.name := by
  unfold layerconfigPath cfgOf; rw [hl.1]

theorem layerPath_eq {cfg : Config} {ds : List Bytes} (h : LD cfg ds) (n : Bytes) (hn : CleanName n) :
    layerPath cfg n = absPath (ds ++ [n]) := by
  unfold layerPath
  rw [h.eq]
  exact pathJoin_absPath ds [n] h.clean (by simpa using hn) (by simp)

theorem snoc_clean {ds : List Bytes} (hds : ∀ c ∈ ds, CleanName c) {n : Bytes} (hn : CleanName n) :
    ∀ c ∈ ds ++ [n], CleanName c :=
  List.forall_mem_append.mpr ⟨hds, List.forall_mem_singleton.mpr hn⟩

theorem cfgOf_eq {cfg : Config} {ds : List Bytes} (h : LD cfg ds) (n : Bytes) (hn : CleanName n) :
    cfgOf cfg n = absPath (ds ++ [n, lcName]) := by
  unfold cfgOf
  rw [layerPath_eq h n hn]
  exact (pathJoin_absPath (ds ++ [n]) [lcName] (snoc_clean h.clean hn)
    (List.forall_mem_singleton.mpr LayerPaths.lcName_clean) (by simp)).trans (by rw [List.append_assoc]; rfl)

/-- `p` is the entry `x` of the layers directory `/d1/…/dk`, or a path below it.  Paths below
    different entries are not nested, and none is at or above the layers directory: what
    separates the paths a command writes from the ones the listing reads. -/
def Below (ds : List Bytes) (x p : Bytes) : Prop :=
  ∃ r, (∀ c ∈ x :: r, CleanName c) ∧ p = absPath (ds ++ x :: r)

theorem below_layer {cfg : Config} {ds : List Bytes} (h : LD cfg ds) {n : Bytes} (hn : CleanName n) :
    Below ds n (layerPath cfg n) :=
  ⟨[], List.forall_mem_singleton.mpr hn, layerPath_eq h n hn⟩

theorem below_cfg {cfg : Config} {ds : List Bytes} (h : LD cfg ds) {n : Bytes} (hn : CleanName n) :
    Below ds n (cfgOf cfg n) :=
  ⟨[lcName], List.forall_mem_cons.mpr ⟨hn, List.forall_mem_singleton.mpr LayerPaths.lcName_clean⟩, cfgOf_eq h n hn⟩

theorem below_tmp {cfg : Config} {ds : List Bytes} (h : LD cfg ds) {n : Bytes} (hn : CleanName n) :
    Below ds n (cfgOf cfg n ++ tmpSuffix) := by
  refine ⟨[lcName ++ tmpSuffix], List.forall_mem_cons.mpr ⟨hn, List.forall_mem_singleton.mpr
    (cleanName_suffix _ _ LayerPaths.lcName_clean (by decide) (by decide))⟩, ?_⟩
  have e : ∀ c, ds ++ [n, c] = ds ++ [n] ++ [c] := fun c => (List.append_assoc ds [n] [c]).symm
  rw [cfgOf_eq h n hn, e, e, absPath_snoc_eq, absPath_snoc_eq, List.append_assoc]
  rfl

theorem below_removed {cfg : Config} {ds : List Bytes} (h : LD cfg ds) {n : Bytes} (hn : CleanName n) :
    Below ds (n ++ removedSuffix) (layerPath cfg n ++ removedSuffix) := by
  refine ⟨[], List.forall_mem_singleton.mpr (cleanName_suffix _ _ hn (by decide) (by decide)), ?_⟩
  rw [layerPath_eq h n hn, absPath_snoc_eq, absPath_snoc_eq, List.append_assoc]
  rfl

theorem Below.apart {ds : List Bytes} (hds : ∀ c ∈ ds, CleanName c) {x a p q : Bytes} (hp : Below ds x p)
    (hq : Below ds a q) (hne : x ≠ a) : under p q = false := by
  obtain ⟨r, hr, rfl⟩ := hp
  obtain ⟨s, hs, rfl⟩ := hq
  refine under_absPath_false (List.forall_mem_append.mpr ⟨hds, hr⟩) (List.forall_mem_append.mpr ⟨hds, hs⟩)
    (fun hp => ?_)
  rw [List.prefix_append_right_inj, List.cons_prefix_cons] at hp
  exact hne hp.1

theorem Below.clear {cfg : Config} {ds : List Bytes} (h : LD cfg ds) {n p : Bytes} (hp : Below ds n p) :
    under p cfg.layerdirs = false ∧ ∀ a, CleanName a → a ≠ n → under p (cfgOf cfg a) = false := by
  refine ⟨?_, fun _ ha hne => hp.apart h.clean (below_cfg h ha) (Ne.symm hne)⟩
  obtain ⟨r, hr, rfl⟩ := hp
  rw [h.eq]
  refine under_absPath_false (List.forall_mem_append.mpr ⟨h.clean, hr⟩) h.clean (fun hp => ?_)
  have := hp.length_le
  simp at this
  omega

/-! ### the listing of the layers directory -/

/-- **what is listed**: the names `n` whose directory path is present -/
theorem mem_children_iff {cfg : Config} {ds : List Bytes} (h : LD cfg ds) {fs : Tree} (hT : TreeWF fs)
    (n : Bytes) :
    n ∈ Fs.children fs cfg.layerdirs ↔ CleanName n ∧ absPath (ds ++ [n]) ∈ keys fs := by
  unfold Fs.children
  constructor
  · intro hm
    obtain ⟨e, he, rfl⟩ := List.mem_map.mp hm
    obtain ⟨hem, hp⟩ := List.mem_filter.mp he
    simp only [Bool.and_eq_true, bne_iff_ne, ne_eq, beq_iff_eq] at hp
    have hroot : e.1 ≠ [47] := by
      intro e1
      rw [e1, pathDir_root] at hp
      exact hp.1.1 hp.2
    obtain ⟨pre, c, hpre, hc, hk, hd⟩ := parent_shape e.1 (hT.2.1 e hem) hroot
    have hpd : pre = ds := absPath_inj pre ds hpre h.clean (by rw [← hd, hp.2, h.eq])
    rw [hk, pathBase_snoc pre c hc]
    refine ⟨hc, ?_⟩
    rw [← hpd, ← hk]
    exact List.mem_map.mpr ⟨e, hem, rfl⟩
  · rintro ⟨hn, hk⟩
    obtain ⟨e, he, e1⟩ := List.mem_map.mp hk
    refine List.mem_map.mpr ⟨e, List.mem_filter.mpr ⟨he, ?_⟩, by rw [e1, pathBase_snoc ds n hn]⟩
    have hall := snoc_clean h.clean hn
    simp only [Bool.and_eq_true, bne_iff_ne, ne_eq, beq_iff_eq]
    refine ⟨⟨?_, ?_⟩, ?_⟩
    · rw [e1, h.eq]
      intro e2
      have := absPath_inj _ _ hall h.clean e2
      simp at this
    · rw [e1, h.eq]
      exact (under_absPath ds _ h.clean hall).mpr (List.prefix_append _ _)
    · rw [e1, h.eq]
      exact pathDir_snoc' ds n h.clean hn

/-! ### the table read from the disk -/

/-- what `findLayers` reads -/
def diskLayers (cfg : Config) (fs : Tree) : List Layer :=
  readLayerFiles cfg fs (Fs.children fs cfg.layerdirs)

theorem mem_readLayerFiles_iff (cfg : Config) (fs : Tree) (names : List Bytes) (l : Layer) :
    l ∈ readLayerFiles cfg fs names ↔
      ∃ n ∈ names, isLegalLayerName n = true ∧ ∃ c, Fs.readFile fs (cfgOf cfg n) = some c ∧
        l = layerOfFile cfg n (readLayerFile c) := by
  unfold readLayerFiles
  rw [List.mem_filterMap]
  constructor
  · rintro ⟨n, hn, hf⟩
    split at hf
    · cases hf
    · rename_i hleg
      dsimp only at hf
      split at hf
      · rename_i c hc
        injection hf with hf
        exact ⟨n, hn, by simpa using hleg, c, hc, hf.symm⟩
      · cases hf
  · rintro ⟨n, hn, hleg, c, hc, rfl⟩
    refine ⟨n, hn, ?_⟩
    have : (!isLegalLayerName n) = false := by simp [hleg]
    simp only [this, Bool.false_eq_true, if_false]
    show (match Fs.readFile fs (cfgOf cfg n) with | some content => _ | none => none) = _
    rw [hc]

/-- **the (name, base) pairs on disk**: `n` is a listed legal name and its layerconfig is
    readable with base line `b` -/
theorem mem_diskView_iff {cfg : Config} {ds : List Bytes} (h : LD cfg ds) {fs : Tree} (hT : TreeWF fs)
    (a b : Bytes) :
    (a, b) ∈ (diskLayers cfg fs).map nb ↔
      a ≠ [] ∧ isLegalLayerName a = true ∧ layerPath cfg a ∈ keys fs ∧
        ∃ c, Fs.readFile fs (cfgOf cfg a) = some c ∧ (readLayerFile c).base = b := by
  unfold diskLayers
  constructor
  · intro hm
    obtain ⟨l, hl, e⟩ := List.mem_map.mp hm
    obtain ⟨n, hn, hleg, c, hc, rfl⟩ := (mem_readLayerFiles_iff cfg fs _ l).mp hl
    obtain ⟨hcn, hk⟩ := (mem_children_iff h hT n).mp hn
    have e1 : n = a := congrArg Prod.fst e
    have e2 : (readLayerFile c).base = b := congrArg Prod.snd e
    subst e1
    exact ⟨hcn.1.1, hleg, by rw [layerPath_eq h n hcn]; exact hk, c, hc, e2⟩
  · rintro ⟨hne, hleg, hk, c, hc, hb⟩
    have hcn := LayerPaths.legal_clean a hne hleg
    refine List.mem_map.mpr ⟨layerOfFile cfg a (readLayerFile c), ?_, by unfold nb layerOfFile; simp [hb]⟩
    exact (mem_readLayerFiles_iff cfg fs _ _).mpr
      ⟨a, (mem_children_iff h hT a).mpr ⟨hcn, by rw [← layerPath_eq h a hcn]; exact hk⟩, hleg, c, hc, rfl⟩

theorem diskLayers_nodup {cfg : Config} {fs : Tree} (hT : TreeWF fs) :
    ((diskLayers cfg fs).map (·.name)).Nodup :=
  List.Nodup.sublist (readLayerFiles_names cfg fs _) (TreeWF.children_nodup hT _)

/-! ### the cycle check sees only the set of (name, base) pairs -/

theorem chain_same_view {L L' : List Layer} (hnd' : (L'.map (·.name)).Nodup)
    (hsub : ∀ a b, (a, b) ∈ L.map nb → (a, b) ∈ L'.map nb) {x : Bytes} {c : List Bytes}
    (h : Chain L x c) : Chain L' x c := by
  induction h with
  | root => exact Chain.root
  | up b p c hb hf _ ih =>
    have hm : (b, p.base) ∈ L.map nb :=
      List.mem_map.mpr ⟨p, List.mem_of_find?_eq_some hf, by unfold nb; rw [find_name hf]⟩
    obtain ⟨p', hp', e⟩ := List.mem_map.mp (hsub _ _ hm)
    have e1 : p'.name = b := congrArg Prod.fst e
    have e2 : p'.base = p.base := congrArg Prod.snd e
    refine Chain.up b p' c hb ?_ (e2 ▸ ih)
    rw [← e1]; exact find?_of_mem hnd' hp'

/-- **check_of_same_view**: two tables with unique names and the same set of (name, base)
    pairs pass or fail the cycle check together -/
theorem check_of_same_view {L L' : List Layer} (hnd' : (L'.map (·.name)).Nodup)
    (hv : ∀ a b, (a, b) ∈ L.map nb ↔ (a, b) ∈ L'.map nb) (h : checkInheritance L = true) :
    checkInheritance L' = true := by
  rw [checkInheritance_iff] at h ⊢
  intro l' hl'
  have hm : (l'.name, l'.base) ∈ L'.map nb := List.mem_map.mpr ⟨l', hl', rfl⟩
  obtain ⟨l, hl, e⟩ := List.mem_map.mp ((hv _ _).mpr hm)
  have e1 : l.name = l'.name := congrArg Prod.fst e
  have e2 : l.base = l'.base := congrArg Prod.snd e
  obtain ⟨c, hc, hn, hd⟩ := h l hl
  exact ⟨c, e2 ▸ chain_same_view hnd' (fun a b => (hv a b).mp) hc, hn, e1 ▸ hd⟩

end Lc.DiskView
