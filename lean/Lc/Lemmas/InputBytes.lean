/-
  The layer records `FindLayers` reads from a tree of byte strings are byte strings: the
  representation invariant `IsB` (every element < 256; the model's `Bytes` is `List Nat`)
  pushed through `bufio.ScanLines`, `strings.TrimSpace`, `strings.Fields`, `path.Clean`,
  `path.Base`, the layerconfig reader and the directory listing.  With it the hypothesis
  `DefsOK` of the mount lemmas follows from a condition on the inputs alone (`InputsOK`).
  Helper lemmas for Props/C01 (`mount_idempotent`).
-/
import Lc.Lemmas.MountTwice
import Lc.Lemmas.Runes
import Lc.Lemmas.LayerfileRW

namespace Lc.InputBytes
open Lc Lc.Layers Lc.Mountinfo Lc.Kernel Lc.KernelProbe Lc.Spec Lc.Layerfile
open Lc.FsGrow Lc.MountArgs Lc.LayerCore Lc.Lemmas.Runes Lc.Lemmas.LayerfileRW Lc.MountTrace

/-! ### runes, fields, trimming, lines -/

theorem isB_of_mem_flat {l : List Rune} {x : Rune} (hx : x ∈ l) (h : IsB (flat l)) : IsB x.2 := by
  intro b hb
  apply h b
  unfold flat
  rw [List.mem_flatMap]
  exact ⟨x, hx, hb⟩

theorem isB_rs {s : Bytes} (h : IsB s) : ∀ x ∈ rs s, IsB x.2 := by
  intro x hx
  exact isB_of_mem_flat hx (by rw [flat_rs]; exact h)

theorem isB_fieldsAux : ∀ (l : List Rune) (cur : Bytes), IsB cur → (∀ x ∈ l, IsB x.2) →
    ∀ f ∈ fieldsAux cur l, IsB f := by
  intro l
  induction l with
  | nil =>
    intro cur hc _ f hf
    unfold fieldsAux at hf
    split at hf
    · cases hf
    · simp only [List.mem_singleton] at hf; subst hf; exact hc
  | cons x xs ih =>
    intro cur hc hl f hf
    have hxs : ∀ y ∈ xs, IsB y.2 := fun y hy => hl y (by simp [hy])
    unfold fieldsAux at hf
    split at hf
    · split at hf
      · exact ih [] isB_nil hxs f hf
      · rcases List.mem_cons.mp hf with rfl | hf
        · exact hc
        · exact ih [] isB_nil hxs f hf
    · exact ih _ (isB_append.mpr ⟨hc, hl x (by simp)⟩) hxs f hf

theorem isB_fields {s : Bytes} (h : IsB s) : ∀ f ∈ fields s, IsB f := by
  rw [fields_eq]
  exact isB_fieldsAux _ _ isB_nil (isB_rs h)

theorem isB_trimSpace {s : Bytes} (h : IsB s) : IsB (trimSpace s) := by
  unfold trimSpace
  intro b hb
  simp only [List.mem_flatMap] at hb
  obtain ⟨x, hx, hbx⟩ := hb
  have hx1 : x ∈ runes s := by
    have h1 := List.mem_reverse.mp hx
    have h2 := List.dropWhile_subset _ h1
    have h3 := List.mem_reverse.mp h2
    exact List.dropWhile_subset _ h3
  have : x.2 ∈ rs s := by
    unfold rs
    exact List.mem_map.mpr ⟨x, hx1, rfl⟩
  exact isB_rs h x.2 this b hbx

theorem isB_dropCR {l : Bytes} (h : IsB l) : IsB (dropCR l) := by
  unfold dropCR
  split
  · rename_i r hr
    intro b hb
    apply h b
    have : b ∈ l.reverse := by rw [hr]; simp [List.mem_reverse.mp hb]
    exact List.mem_reverse.mp this
  · exact h

theorem isB_scanLines {text : Bytes} (h : IsB text) : ∀ l ∈ scanLines text, IsB l := by
  intro l hl
  unfold scanLines at hl
  simp only [List.mem_map] at hl
  obtain ⟨p, hp, rfl⟩ := hl
  apply isB_dropCR
  have hparts := isB_splitOn 10 text h
  split at hp
  · rename_i r hr
    apply hparts
    have : p ∈ (splitOn 10 text).reverse := by rw [hr]; simp [List.mem_reverse.mp hp]
    exact List.mem_reverse.mp this
  · exact hparts p hp

/-! ### the layerconfig reader -/

/-- the import entries of a layer description are byte strings -/
def MountsB (l : LayerFile) : Prop := ∀ m ∈ l.mounts, IsB m.mount ∧ IsB m.source

theorem readStep_mountsB (l : LayerFile) (line : Bytes) (hl : IsB line) (h : MountsB l) :
    MountsB (readStep l line) := by
  have hf := isB_fields (isB_trimSpace hl)
  unfold readStep
  simp only
  split
  · exact h
  · split
    · exact h
    · rename_i kw args hfe
      rw [hfe] at hf
      split
      · split
        · exact h
        · split
          · exact h
          · exact h
      · split
        · split
          · rename_i t s m rest
            intro x hx
            rcases List.mem_append.mp hx with e | e
            · exact h x e
            · simp only [List.mem_singleton] at e
              subst e
              exact ⟨isB_pathClean _ (hf m (by simp)), isB_pathClean _ (hf s (by simp))⟩
          · exact h
        · split
          · split
            · exact h
            · exact h
          · exact h

theorem readLayerFile_mountsB {content : Bytes} (h : IsB content) : MountsB (readLayerFile content) := by
  unfold readLayerFile readLines
  have hl := isB_scanLines h
  generalize scanLines content = lines at hl
  have : ∀ (l : LayerFile), MountsB l → MountsB (lines.foldl readStep l) := by
    induction lines with
    | nil => intro l h; exact h
    | cons x xs ih =>
      intro l h
      exact ih (fun y hy => hl y (by simp [hy])) _ (readStep_mountsB l x (hl x (by simp)) h)
  exact this _ (fun m hm => by cases hm)

theorem tokenOK_of_tok {f : Bytes} (h : Tok f) : TokenOK f := by
  refine ⟨h.1, ?_, tok_no_lf f h, tok_no_cr f h⟩
  intro hc
  have := tok_no_ascii_space f h 32 hc (by omega)
  exact absurd this (by decide)

/-! ### the tree -/

/-- every path and every file content of the tree is a byte string -/
def TreeB (fs : Fs.Tree) : Prop := ∀ e ∈ fs, IsB e.1 ∧ ∀ c, e.2 = .file c → IsB c

theorem isB_reverse {s : Bytes} (h : IsB s) : IsB s.reverse := fun b hb => h b (List.mem_reverse.mp hb)

theorem isB_lastSlashSplit {s : Bytes} (h : IsB s) : IsB (lastSlashSplit s).2 := by
  unfold lastSlashSplit
  simp only []
  apply isB_reverse
  intro b hb
  exact isB_reverse h b (List.takeWhile_subset _ hb)

theorem isB_pathBase {s : Bytes} (h : IsB s) : IsB (pathBase s) := by
  unfold pathBase
  split
  · simp [IsB, DOT]
  · simp only []
    split
    · simp [IsB, SLASH]
    · apply isB_lastSlashSplit
      apply isB_reverse
      intro b hb
      exact isB_reverse h b (List.dropWhile_subset _ hb)

theorem isB_children {fs : Fs.Tree} (h : TreeB fs) (d : Bytes) : ∀ n ∈ Fs.children fs d, IsB n := by
  intro n hn
  unfold Fs.children at hn
  rw [List.mem_map] at hn
  obtain ⟨e, he, rfl⟩ := hn
  exact isB_pathBase (h e (List.mem_filter.mp he).1).1

theorem get_mem {fs : Fs.Tree} {p : Bytes} {x : Fs.Node} (h : Fs.get fs p = some x) : ∃ e ∈ fs, e.2 = x := by
  unfold Fs.get at h
  split at h
  · rename_i e he
    cases h
    exact ⟨e, List.mem_of_find?_eq_some he, rfl⟩
  · cases h

theorem statAux_mem {fs : Fs.Tree} : ∀ (k : Nat) (p : Bytes) (x : Fs.Node),
    Fs.statAux k fs p = some x → ∃ e ∈ fs, e.2 = x := by
  intro k
  induction k with
  | zero => intro p x h; simp [Fs.statAux] at h
  | succ k ih =>
    intro p x h
    unfold Fs.statAux at h
    cases hg : Fs.get fs p with
    | none => rw [hg] at h; cases h
    | some y =>
      rw [hg] at h
      cases y with
      | symlink t => exact ih _ _ h
      | dir => cases h; exact get_mem hg
      | file c => cases h; exact get_mem hg

theorem isB_readFile {fs : Fs.Tree} (h : TreeB fs) {p c : Bytes} (hr : Fs.readFile fs p = some c) : IsB c := by
  unfold Fs.readFile Fs.stat at hr
  cases hs : Fs.statAux 8 fs p with
  | none => rw [hs] at hr; cases hr
  | some x =>
    rw [hs] at hr
    cases x with
    | file c' =>
      cases hr
      obtain ⟨e, he, hx⟩ := statAux_mem 8 p _ hs
      exact (h e he).2 c hx
    | dir => cases hr
    | symlink t => cases hr

/-- a checker for `TreeB` (for concrete trees) -/
def treeBb (fs : Fs.Tree) : Bool :=
  fs.all fun e => e.1.all (· < 256) && (match e.2 with | .file c => c.all (· < 256) | _ => true)

theorem treeB_of_check {fs : Fs.Tree} (h : treeBb fs = true) : TreeB fs := by
  intro e he
  unfold treeBb at h
  rw [List.all_eq_true] at h
  have := h e he
  rw [Bool.and_eq_true] at this
  refine ⟨fun b hb => by simpa using (List.all_eq_true.mp this.1) b hb, ?_⟩
  intro c hc
  rw [hc] at this
  exact fun b hb => by simpa using (List.all_eq_true.mp this.2) b hb

/-! ### from the inputs to `DefsOK` -/

/-- the mount data of the overlay of the layer in directory entry `n` over the one in `bn` -/
def ovDataOf (cfg : Config) (bn n : Bytes) : Bytes :=
  ovData cfg { name := bn, layerPath := layerPath cfg bn } { name := n, layerPath := layerPath cfg n }

/-- Conditions on the inputs of a run: the paths of the configuration, the paths and file
    contents of the tree are byte strings (a representation invariant: Go strings are byte
    strings, the model's `Bytes` is `List Nat`), and no layer's overlay workdir — as read back
    from the mount data — ends in a carriage return (C12's finding `mountinfo-cr-at-line-end`:
    the kernel does not escape CR and the line reader strips it at a line end). -/
structure InputsOK (cfg : Config) (w : World) : Prop where
  layerdirs : IsB cfg.layerdirs
  buildRoot : IsB cfg.buildRoot
  workdir : IsB cfg.workdir
  upperdir : IsB cfg.upperdir
  tree : TreeB w.fs
  workCR : ∀ n ∈ Fs.children w.fs cfg.layerdirs, ∀ bn ∈ Fs.children w.fs cfg.layerdirs,
    (parseOverlayOpts (ovDataOf cfg bn n)).work.getLast? ≠ some 13

theorem ovData_layerPath {cfg : Config} {l bl l' bl' : Layer} (h1 : l'.layerPath = l.layerPath)
    (h2 : bl'.layerPath = bl.layerPath) : ovData cfg bl' l' = ovData cfg bl l := by
  unfold ovData buildPath upperPath workPath
  rw [h1, h2]

/-- what `FindLayers` finds under a name: the record of that directory entry -/
theorem findLayers_found {cfg : Config} {w w' : World} {d : Defs}
    (h : (findLayers cfg).run.run w = (.ok d, w')) {n : Bytes} {l : Layer} (hl : findLayer d n = some l) :
    n ∈ Fs.children w.fs cfg.layerdirs ∧ layerOfEntry cfg w.fs n = some l := by
  obtain ⟨_, hlay, _⟩ := findLayers_layers h
  have e : ∀ ls, d.layers = ls → findLayer d n = findLayer ({ layers := ls, order := d.order, mounts := d.mounts } : Defs) n := by
    intro ls hh; unfold findLayer; rw [hh]
  rw [e _ hlay, findLayer_readLayerFiles] at hl
  split at hl
  · rename_i hmem; exact ⟨hmem, hl⟩
  · cases hl

theorem layerOfEntry_fields {cfg : Config} {fs : Fs.Tree} {n : Bytes} {l : Layer}
    (h : layerOfEntry cfg fs n = some l) :
    ∃ c, Fs.readFile fs (pathJoin [layerPath cfg n, b!"layerconfig"]) = some c ∧
      l.name = n ∧ l.layerPath = layerPath cfg n ∧ l.cmounts = (readLayerFile c).mounts := by
  unfold layerOfEntry at h
  split at h
  · cases h
  · split at h
    · rename_i c hc
      cases h
      exact ⟨c, hc, rfl, rfl, rfl⟩
    · cases h

/-- **the layer records `getLayers` returns are well-formed** when the inputs are -/
theorem getLayers_defsOK {cfg : Config} {inuse : List (Bytes × List User)} {w : World} {d : Defs}
    (hin : InputsOK cfg w) (h : (getLayers cfg inuse).run.run w = (.ok d, w)) : DefsOK cfg d := by
  obtain ⟨_, _, d0, hfind, hle⟩ := MountTwice.getLayers_run h
  have key : ∀ l, Found d l → ∃ n ∈ Fs.children w.fs cfg.layerdirs, ∃ c,
      Fs.readFile w.fs (pathJoin [layerPath cfg n, b!"layerconfig"]) = some c ∧
      l.layerPath = layerPath cfg n ∧ l.cmounts = (readLayerFile c).mounts := by
    intro l hf
    obtain ⟨l0, hf0, hc⟩ := (hle.symm.sub).found hf
    obtain ⟨n, hn⟩ := hf0
    obtain ⟨hmem, hent⟩ := findLayers_found hfind hn
    obtain ⟨c, hc1, _, hc3, hc4⟩ := layerOfEntry_fields hent
    rw [core_eq_iff] at hc
    exact ⟨n, hmem, c, hc1, by rw [← hc.2.2.2, hc3], by rw [← hc.2.2.1, hc4]⟩
  refine ⟨hin.buildRoot, hin.workdir, hin.upperdir, ?_, ?_⟩
  · intro l hf
    obtain ⟨n, hmem, c, hc1, hp, hm⟩ := key l hf
    constructor
    · rw [hp]
      unfold layerPath
      exact isB_pathJoin2 hin.layerdirs (isB_children hin.tree _ n hmem)
    · intro m hmm
      rw [hm] at hmm
      have hb := readLayerFile_mountsB (isB_readFile hin.tree hc1) m hmm
      have ht := (readLayerFile_wf c).2.1 m hmm
      exact ⟨hb.1, hb.2, tokenOK_of_tok ht.1⟩
  · intro l bl hf hbf
    obtain ⟨n, hmem, _, _, hp, _⟩ := key l hf
    obtain ⟨bn, hbmem, _, _, hbp, _⟩ := key bl hbf
    have := hin.workCR n hmem bn hbmem
    unfold ovDataOf at this
    rw [← ovData_layerPath (l' := l) (bl' := bl) hp hbp] at this
    exact this

/-! ### a plain sufficient condition for `InputsOK.workCR` -/

theorem splitOn_snoc_part (sep : Nat) : ∀ (x y : Bytes), sep ∉ y →
    ∃ p ps, splitOn sep (x ++ sep :: y) = (p :: ps) ++ [y] := by
  intro x
  induction x with
  | nil => intro y hy; exact ⟨[], [], by simp [splitOn, splitOn_noSep sep y hy]⟩
  | cons c cs ih =>
    intro y hy
    obtain ⟨p, ps, hpre⟩ := ih y hy
    simp only [List.cons_append, splitOn]
    split
    · exact ⟨[], p :: ps, by rw [hpre]⟩
    · rw [hpre]
      exact ⟨c :: p, ps, by simp⟩

theorem unescape_plain : ∀ (s : Bytes), 92 ∉ s → unescape s = s := by
  intro s
  induction s with
  | nil => intro _; simp [unescape]
  | cons x xs ih =>
    intro h
    have hx : x ≠ 92 := fun e => h (by simp [e])
    rw [Props.C12.unescape_cons_ne x xs hx, ih (fun e => h (by simp [e]))]

/-- whatever precedes it, a final `,workdir=W` with no comma in `W` sets the parsed workdir to
    `unescape W` -/
theorem parse_work (x W : Bytes) (hW : 44 ∉ W) :
    (parseOverlayOpts (x ++ b!",workdir=" ++ W)).work = unescape W := by
  have h1 : x ++ b!",workdir=" ++ W = x ++ 44 :: (b!"workdir=" ++ W) := by simp
  have h2 : 44 ∉ b!"workdir=" ++ W := by
    intro h
    rcases List.mem_append.mp h with h | h
    · revert h; decide
    · exact hW h
  obtain ⟨p, ps, hpre⟩ := splitOn_snoc_part 44 x _ h2
  unfold parseOverlayOpts
  rw [h1, hpre, List.foldl_append]
  simp only [List.foldl_cons, List.foldl_nil]
  unfold ovlStep
  have h3 : splitN2 61 (b!"workdir=" ++ W) = [b!"workdir", W] :=
    splitN2_append_sep 61 b!"workdir" W (by decide)
  rw [h3]
  simp

/-- `InputsOK.workCR` holds when no layer's work path contains a comma or a backslash or ends in
    a carriage return -/
theorem workCR_of_plain {cfg : Config} {w : World}
    (h : ∀ n ∈ Fs.children w.fs cfg.layerdirs,
      44 ∉ pathJoin [layerPath cfg n, cfg.workdir] ∧ 92 ∉ pathJoin [layerPath cfg n, cfg.workdir] ∧
      (pathJoin [layerPath cfg n, cfg.workdir]).getLast? ≠ some 13) :
    ∀ n ∈ Fs.children w.fs cfg.layerdirs, ∀ bn ∈ Fs.children w.fs cfg.layerdirs,
      (parseOverlayOpts (ovDataOf cfg bn n)).work.getLast? ≠ some 13 := by
  intro n hn bn _
  obtain ⟨h1, h2, h3⟩ := h n hn
  have e : ovDataOf cfg bn n =
      (b!"lowerdir=" ++ buildPath cfg { name := bn, layerPath := layerPath cfg bn } ++ b!",upperdir=" ++
        upperPath cfg { name := n, layerPath := layerPath cfg n }) ++ b!",workdir=" ++
        pathJoin [layerPath cfg n, cfg.workdir] := rfl
  rw [e, parse_work _ _ h1, unescape_plain _ h2]
  exact h3

end Lc.InputBytes
