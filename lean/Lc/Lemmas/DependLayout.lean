/-
  Helper lemmas for C14: whitespace layouts of token lists and what the tokenizer
  returns on them.
-/
import Lc.Model.Depend

namespace Lc.Lemmas.DependLayout
open Lc Lc.AtomParse Lc.Depend

/-- all bytes are whitespace in the code's sense (`c <= ' '`) -/
def IsWs (w : Bytes) : Prop := ∀ b ∈ w, b ≤ 32

/-- a token: non-empty, no whitespace byte -/
def IsTok (t : Bytes) : Prop := t ≠ [] ∧ ∀ b ∈ t, 32 < b

/-- `Lay toks s`: the byte string `s` is the token list `toks` laid out with arbitrary
    whitespace: any whitespace before each token, every token followed by whitespace or the
    end of input, any whitespace at the end. -/
inductive Lay : List Bytes → Bytes → Prop
  | nil {w : Bytes} : IsWs w → Lay [] w
  | cons {w tok : Bytes} {ts : List Bytes} {r : Bytes} :
      IsWs w → Lay ts r → peek r ≤ 32 → Lay (tok :: ts) (w ++ tok ++ r)

theorem lay_cons_inv {tok : Bytes} {ts : List Bytes} {s : Bytes} (h : Lay (tok :: ts) s) :
    ∃ w r, s = w ++ tok ++ r ∧ IsWs w ∧ Lay ts r ∧ peek r ≤ 32 := by
  cases h with
  | cons hw hl hr => exact ⟨_, _, rfl, hw, hl, hr⟩

/-- what `getToken` returns on a laid-out token -/
theorem getToken_lay {w tok r : Bytes} (hw : IsWs w) (ht : IsTok tok) (hr : peek r ≤ 32) :
    getToken (w ++ tok ++ r) =
      match classify tok with
      | .error e => .error e
      | .ok (ty, flag, adv) => .ok (ty, flag, (tok ++ r).drop adv) := by
  obtain ⟨c, cs, rfl⟩ := List.exists_cons_of_ne_nil ht.1
  have h1 : (w ++ (c :: cs) ++ r).dropWhile (fun c => decide (c ≤ 32)) = c :: cs ++ r := by
    rw [List.append_assoc, List.dropWhile_append_of_pos fun a ha => decide_eq_true (hw a ha)]
    exact List.dropWhile_cons_of_neg (by simpa using ht.2 c (by simp))
  have h2 : (c :: cs ++ r).takeWhile (fun c => decide (c > 32)) = c :: cs := by
    rw [List.takeWhile_append_of_pos fun a ha => decide_eq_true (ht.2 a ha)]
    cases r with
    | nil => simp
    | cons d ds => rw [List.takeWhile_cons_of_neg (by simpa [peek] using hr), List.append_nil]
  simp only [getToken, h1, h2]
  rfl

/-- whitespace only: end of input -/
theorem getToken_ws {w : Bytes} (hw : IsWs w) : getToken w = .ok (.eof, [], []) := by
  unfold getToken
  have : w.dropWhile (fun c => decide (c ≤ 32)) = [] := by
    simpa using List.dropWhile_append_of_pos (l₂ := []) (p := fun c => decide (c ≤ 32))
      fun a ha => decide_eq_true (hw a ha)
  simp [this]

end Lc.Lemmas.DependLayout
