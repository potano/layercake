/-
  Hoare-style reasoning for the command monad `Lc.Layers.M` (ExceptT Fault (StateM World)) with
  core Lean's `Std.Do` (`mvcgen`): `Holds I m` (started in `I`, `m` ends in `I` on every exit),
  `Respects I E m` (ends in `I` normally, in `E` with an error), `Ret m Q` (about the returned
  value only); between triples and the run function; specifications relative to the state
  before (`lift_rel`, `holds_of_rel`); and the one walk over the command model: every function
  of `Model/Layers.lean` respects what the primitives it calls respect.
-/
import Std.Do
import Lc.Lemmas.RunM
import Lc.Lemmas.MountBlocks
import Lc.Lemmas.CmdBlocks

namespace Lc.Hoare
open Std.Do Lc Lc.Layers Lc.MountTrace Lc.RunM

set_option mvcgen.warning false

/-- `m` preserves the world predicate `I` on every exit -/
abbrev Holds {α} (I : World → Prop) (m : M α) : Prop :=
  ⦃fun w => ⌜I w⌝⦄ m ⦃post⟨fun _ w => ⌜I w⌝, fun _ w => ⌜I w⌝⟩⦄

theorem forM_holds {α} (I : World → Prop) (xs : List α) (body : α → M Unit)
    (h : ∀ x, Holds I (body x)) : Holds I (xs.forM body) := by
  induction xs with
  | nil => unfold Holds; mvcgen
  | cons x xs ih =>
    unfold Holds at *
    have hx := h x
    show ⦃fun w => ⌜I w⌝⦄ (do body x; xs.forM body) ⦃_⦄
    mvcgen [hx, ih]

theorem foldlM_holds {α β} (I : World → Prop) (xs : List α) (body : β → α → M β) (init : β)
    (h : ∀ b x, Holds I (body b x)) : Holds I (xs.foldlM body init) := by
  induction xs generalizing init with
  | nil => unfold Holds; simp only [List.foldlM_nil]; mvcgen
  | cons x xs ih =>
    unfold Holds at *
    have hx := h init x
    simp only [List.foldlM_cons]
    mvcgen [hx]
    rename_i b
    exact ih b

/-- from the triple to the run function: the final world satisfies the invariant -/
theorem extract {α} (I : World → Prop) (m : M α) (h : Holds I m) (w : World) (hw : I w) :
    I (m.run.run w).2 := by
  unfold Holds at h
  have h2 := h w hw
  simp [wp] at h2
  generalize (StateT.run (ExceptT.run m) w) = r at h2 ⊢
  obtain ⟨a, s⟩ := r
  cases a <;> exact h2

/-- started in `I`, `m` returns normally only in `Q`; nothing is said about an error exit -/
abbrev HoldsOk {α} (I : World → Prop) (Q : α → World → Prop) (m : M α) : Prop :=
  ⦃fun w => ⌜I w⌝⦄ m ⦃post⟨fun a w => ⌜Q a w⌝, fun _ _ => ⌜True⌝⟩⦄

theorem extractOk {α} (I : World → Prop) (Q : α → World → Prop) (m : M α) (h : HoldsOk I Q m)
    (w : World) (hw : I w) (a : α) (hr : (m.run.run w).1 = .ok a) : Q a (m.run.run w).2 := by
  unfold HoldsOk at h
  have h2 := h w hw
  simp [wp] at h2
  generalize hg : (StateT.run (ExceptT.run m) w) = r at h2 hr ⊢
  obtain ⟨x, s⟩ := r
  cases x with
  | error e => simp at hr
  | ok b =>
    simp at hr
    subst hr
    exact h2

/-- both exits at once: a triple with a normal and an exceptional postcondition gives the
    run function's result -/
theorem extractBoth {α} (I : World → Prop) (Q : α → World → Prop) (E : Fault → World → Prop) (m : M α)
    (h : ⦃fun w => ⌜I w⌝⦄ m ⦃post⟨fun a w => ⌜Q a w⌝, fun e w => ⌜E e w⌝⟩⦄) (w : World) (hw : I w) :
    match (m.run.run w).1 with
    | .ok a => Q a (m.run.run w).2
    | .error e => E e (m.run.run w).2 := by
  have h2 := h w hw
  simp [wp] at h2
  generalize (StateT.run (ExceptT.run m) w) = r at h2 ⊢
  obtain ⟨a, s⟩ := r
  cases a <;> exact h2

theorem triple_of_run {α} (m : M α) (P : World → Prop) (Q : α → World → Prop) (E : Fault → World → Prop)
    (h : ∀ w, P w → match m.run.run w with
      | (.ok a, w') => Q a w'
      | (.error e, w') => E e w') :
    ⦃fun w => ⌜P w⌝⦄ m ⦃post⟨fun a w => ⌜Q a w⌝, fun e w => ⌜E e w⌝⟩⦄ := by
  intro w hw
  have h2 := h w hw
  simp [wp]
  generalize m.run.run w = r at h2
  obtain ⟨a, s⟩ := r
  cases a <;> exact h2

theorem holds_true {α} (m : M α) : Holds (fun _ => True) m :=
  triple_of_run m _ _ _ (fun w _ => by
    generalize m.run.run w = r
    obtain ⟨x, w'⟩ := r
    cases x <;> trivial)

/-- A specification relative to the state before (`w = w1`, for every `w1`) gives an
    invariant triple: `Q`/`E` say how the world after relates to the world before, `hq`/`he`
    that `I` is carried along. -/
theorem lift_rel {α} (m : M α) (Q : World → α → World → Prop) (E : World → World → Prop)
    (hspec : ∀ w1, ⦃fun w => ⌜w = w1⌝⦄ m ⦃post⟨fun a w => ⌜Q w1 a w⌝, fun _ w => ⌜E w1 w⌝⟩⦄)
    (I : World → Prop) (I' : α → World → Prop) (I'' : World → Prop)
    (hq : ∀ w1 a w, I w1 → Q w1 a w → I' a w) (he : ∀ w1 w, I w1 → E w1 w → I'' w) :
    ⦃fun w => ⌜I w⌝⦄ m ⦃post⟨fun a w => ⌜I' a w⌝, fun _ w => ⌜I'' w⌝⟩⦄ := by
  apply triple_of_run
  intro w hw
  have h := extractBoth (fun w' => w' = w) (Q w) (fun _ => E w) m (hspec w) w rfl
  generalize m.run.run w = r at h
  obtain ⟨x, w'⟩ := r
  cases x
  · exact he w _ hw h
  · exact hq w _ _ hw h

theorem holds_of_rel (R : World → World → Prop) (htr : ∀ a b c, R a b → R b c → R a c) {α} (m : M α)
    (h : ∀ w1, ⦃fun w => ⌜w = w1⌝⦄ m ⦃post⟨fun _ w => ⌜R w1 w⌝, fun _ w => ⌜R w1 w⌝⟩⦄) (w0 : World) :
    Holds (R w0) m :=
  lift_rel m _ _ h _ _ _ (fun w1 _ w h1 h2 => htr w0 w1 w h1 h2) (fun w1 w h1 h2 => htr w0 w1 w h1 h2)

theorem bind_holds {α β} (I : World → Prop) (x : M α) (f : α → M β) (hx : Holds I x)
    (hf : ∀ a, Holds I (f a)) : Holds I (x >>= f) := by
  unfold Holds at *
  mvcgen [hx]
  rename_i a
  exact hf a

/-! ### statements about the returned value only -/

/-- about the returned value only, whatever the worlds are -/
abbrev Ret {α} (m : M α) (Q : α → Prop) : Prop :=
  ⦃fun _ => ⌜True⌝⦄ m ⦃post⟨fun a _ => ⌜Q a⌝, fun _ _ => ⌜True⌝⟩⦄

theorem ret_intro {α} (m : M α) (Q : α → Prop)
    (h : ∀ w a w', m.run.run w = (.ok a, w') → Q a) : Ret m Q := by
  intro w _
  simp [wp]
  generalize hg : (StateT.run (ExceptT.run m) w) = r
  obtain ⟨x, s⟩ := r
  cases x with
  | error e => trivial
  | ok a => exact h w a s hg

theorem ret_elim {α} (m : M α) (Q : α → Prop) (h : Ret m Q) (w : World) (a : α) (w' : World)
    (hr : m.run.run w = (.ok a, w')) : Q a := by
  have h2 := h w trivial
  simp [wp] at h2
  have hr' : StateT.run (ExceptT.run m) w = (.ok a, w') := hr
  rw [hr'] at h2
  exact h2

theorem testName_ret (d : Defs) (t : List (Bytes × Nat)) :
    Ret (testName d t) (fun _ => t.all (fun t => testName1 d t.1 t.2) = true) := by
  unfold Ret testName
  split <;> mvcgen [fail]

theorem getL_ret (d : Defs) (n : Bytes) : Ret (getL d n) (fun l => findLayer d n = some l) := by
  unfold Ret getL
  split <;> mvcgen

theorem foldlM_ret {α β} (I : β → Prop) (xs : List α) (body : β → α → M β) (init : β)
    (h : ∀ b x, I b → Ret (body b x) I) (hi : I init) : Ret (xs.foldlM body init) I := by
  induction xs generalizing init with
  | nil =>
    apply ret_intro
    intro w a w' hr
    simp only [List.foldlM_nil, run_pure] at hr
    injection hr with h1 _; injection h1 with h1; subst h1; exact hi
  | cons x xs ih =>
    apply ret_intro
    intro w a w' hr
    rw [List.foldlM_cons] at hr
    obtain ⟨b, w1, h1, h2⟩ := bind_ok_inv _ _ _ _ _ hr
    have hb := ret_elim _ _ (h init x hi) w b w1 h1
    exact ret_elim _ _ (ih b hb) w1 a w' h2

/-! ### One walk over the command model for every invariant

Nothing in `Model/Layers.lean` catches an error, and the world changes only inside `fsStep`,
`fsMount`, `fsUnmount` and `writeLayerFile`.  So a pair `I` (kept on normal return) / `E`
(reached on an error exit) that these respect is respected by every function built from
them.  The walk is done once, with `I` and `E` opaque, each function under the hypotheses for
the operations it performs; `mvcgen` then leaves only `I s ⊢ I s` and `I s ⊢ E s`.

A function that hands paths it computes to the primitives is walked as `<function>_on`: the
primitives need be respected only at paths satisfying a condition `C`, and what is left over
besides is `C` at each path written; `<function>_inv` is the case of no condition. -/

/-- started in `I`, `m` returns normally in `I` and fails in `E` -/
abbrev Respects {α} (I E : World → Prop) (m : M α) : Prop :=
  ⦃fun w => ⌜I w⌝⦄ m ⦃post⟨fun _ w => ⌜I w⌝, fun _ w => ⌜E w⌝⟩⦄

/-- the invariant of every loop of the walk -/
macro "walk_inv" I:term "," E:term : tactic =>
  `(tactic| all_goals (try exact post⟨fun _ w => ⌜$I w⌝, fun _ w => ⌜$E w⌝⟩))

/-- closes what `mvcgen` leaves of a walk step: `I s` from `I s`, `E s` from `I s` by `hw` -/
macro "walk_done" hw:ident : tactic =>
  `(tactic| all_goals first
    | exact ExceptConds.entails.rfl
    | (intros; first | assumption | exact $hw _ ‹_›))

theorem mem_of_split {α} (A p q : List α) (c : α) (h : A = p ++ c :: q) : c ∈ A := by
  rw [h]; simp

/-- the directories and the files `init` creates -/
theorem missing_of {C : Bytes → Prop} (cfg : Config) (h1 : C cfg.basepath) (h2 : C cfg.layerdirs)
    (h3 : C cfg.exportdirs) (fs : Fs.Tree) (p : Bytes)
    (hp : p ∈ (if !Fs.isDir fs cfg.basepath then [cfg.basepath] else [])
      ++ [cfg.layerdirs, cfg.exportdirs].filter (fun p => !Fs.isDir fs p)) : C p := by
  rcases List.mem_append.mp hp with h | h
  · split at h
    · simp at h; rw [h]; exact h1
    · cases h
  · have := (List.mem_filter.mp h).1
    simp at this
    rcases this with e | e
    · rw [e]; exact h2
    · rw [e]; exact h3

theorem needF_of {C : Bytes → Prop} (cfg : Config) (h1 : C (pathJoin [cfg.basepath, skeletonFile]))
    (h2 : C (pathJoin [cfg.exportdirs, b!"index.html"])) (fs : Fs.Tree) (f : Bytes × Bool)
    (hf : f ∈ [ (pathJoin [cfg.basepath, skeletonFile], true), (pathJoin [cfg.exportdirs, b!"index.html"], false) ].filter
      (fun f => !Fs.isFile fs f.1)) : C f.1 := by
  have := (List.mem_filter.mp hf).1
  simp at this
  rcases this with e | e
  · rw [e]; exact h1
  · rw [e]; exact h2

/-- the directories `mkdirs` creates -/
theorem need_of {C : Bytes → Prop} (cfg : Config) (l : Layer) (hl : C l.layerPath)
    (hj : ∀ a rest, C a → C (pathJoin (a :: rest))) (fs : Fs.Tree) (p : Bytes)
    (hp : p ∈ ([buildPath cfg l] ++ (if l.base.length > 0 then [workPath cfg l, upperPath cfg l] else [])).filter
      (fun p => !Fs.isDir fs p)) : C p := by
  have hp' := (List.mem_filter.mp hp).1
  rcases List.mem_append.mp hp' with h | h
  · simp at h; rw [h]; exact hj _ _ hl
  · split at h
    · simp at h
      rcases h with h | h
      · rw [h]; exact hj _ _ hl
      · rw [h]; exact hj _ _ hl
    · cases h

section walk
variable (I E : World → Prop)

theorem pure_inv {α} (a : α) : Respects I E (pure a : M α) := by unfold Respects; mvcgen
theorem fIsDir_inv (p) : Respects I E (fIsDir p) := by unfold Respects; mvcgen [fIsDir, getW]
theorem fIsFile_inv (p) : Respects I E (fIsFile p) := by unfold Respects; mvcgen [fIsFile, getW]
theorem fExists_inv (p) : Respects I E (fExists p) := by unfold Respects; mvcgen [fExists, getW]
theorem fIsSymlink_inv (p) : Respects I E (fIsSymlink p) := by unfold Respects; mvcgen [fIsSymlink, getW]
theorem holdsOnlyOwnFiles_inv (cfg l) : Respects I E (holdsOnlyOwnFiles cfg l) := by
  unfold Respects; mvcgen [holdsOnlyOwnFiles, getW]

variable {I E} (hw : ∀ w, I w → E w)
include hw

theorem throw_inv {α} (e : Fault) : Respects I E (throw e : M α) := by unfold Respects; mvcgen; walk_done hw
theorem fail_inv {α} (c : String) : Respects I E (fail c : M α) := throw_inv hw _

theorem liftRes_inv {α} (r : Res α) : Respects I E (liftRes r) := by
  unfold liftRes; split
  · exact pure_inv I E _
  · exact throw_inv hw _

theorem testName_inv (d t) : Respects I E (testName d t) := by
  unfold testName; split
  · exact pure_inv I E _
  · exact fail_inv hw _

theorem reorder_inv (d) : Respects I E (reorder d) := by
  unfold reorder; split
  · exact pure_inv I E _
  · exact throw_inv hw _

theorem getL_inv (d n) : Respects I E (getL d n) := by
  unfold getL; split
  · exact pure_inv I E _
  · exact throw_inv hw _

theorem errorIfError_inv (l) : Respects I E (errorIfError l) := by
  unfold errorIfError; split
  · exact fail_inv hw _
  · exact pure_inv I E _

theorem errorIfBusy_inv (l a) : Respects I E (errorIfBusy l a) := by
  unfold errorIfBusy; split
  · exact fail_inv hw _
  · exact pure_inv I E _

theorem findLayers_inv (cfg) : Respects I E (findLayers cfg) := by
  have h1 := reorder_inv hw
  unfold Respects at *
  mvcgen [findLayers, getW, h1, fail]
  walk_done hw

theorem refreshMountInfo_inv (cfg d) : Respects I E (refreshMountInfo cfg d) := by
  have h1 := @liftRes_inv I E hw
  unfold Respects at *
  mvcgen [refreshMountInfo, getW, h1]
  walk_done hw

theorem probeAll_inv (cfg inuse d) : Respects I E (probeAll cfg inuse d) := by
  have h1 := @liftRes_inv I E hw; have h2 := refreshMountInfo_inv hw
  unfold Respects at *
  mvcgen [probeAll, getW, h1, h2]
  walk_inv I, E
  walk_done hw

theorem getLayers_inv (cfg inuse) : Respects I E (getLayers cfg inuse) := by
  have h1 := findLayers_inv hw; have h2 := probeAll_inv hw
  unfold Respects at *
  mvcgen [getLayers, h1, h2]
  walk_done hw

theorem getDefaultLayerinfo_inv (cfg f) : Respects I E (getDefaultLayerinfo cfg f) := by
  unfold Respects at *
  mvcgen [getDefaultLayerinfo, getW, fail]
  walk_done hw

theorem ancestorsAndSelf_inv (d) : ∀ fuel n acc, Respects I E (ancestorsAndSelf d fuel n acc) := by
  intro fuel
  induction fuel with
  | zero => intro n acc; exact throw_inv hw _
  | succ k ih =>
    intro n acc
    have h1 := getL_inv hw
    unfold Respects at *
    unfold ancestorsAndSelf
    mvcgen [h1, ih]
    walk_done hw

theorem addLayer_on (cfg : Config) (d : Defs) (n b f : Bytes)
    (ht : ∀ cm ce, Respects I E (addFiles cfg d
      { name := n, base := b, cmounts := cm, cexports := ce, layerPath := layerPath cfg n })) :
    Respects I E (addLayer cfg d n b f) := by
  have h1 := testName_inv hw; have h2 := getDefaultLayerinfo_inv hw
  rw [addLayer_eq]
  unfold Respects at *
  mvcgen [fail, h1, h2, ht]
  walk_done hw

/-- `addFiles` when the primitives are respected at paths satisfying `C`, which holds of the
    layer's directory and of every `path.Join` below a path it holds of -/
theorem addFiles_on {C : Bytes → Prop} (hmk : ∀ p, C p → Respects I E (fsMkdir p))
    (hwl : ∀ l, C l.layerPath → Respects I E (writeLayerFile l))
    (hwt : ∀ p c, C p → Respects I E (fsWriteTextFile p c)) (cfg : Config) (d : Defs) (l : Layer)
    (hl : C l.layerPath) (hj : ∀ a rest, C a → C (pathJoin (a :: rest))) : Respects I E (addFiles cfg d l) := by
  have h1 := reorder_inv hw
  unfold Respects at *
  mvcgen [addFiles, buildPath, workPath, upperPath, h1, hmk, hwl, hwt]
  all_goals first
    | exact ExceptConds.entails.rfl
    | (intros; first | assumption | exact hw _ ‹_›)
    -- the layer directory and the record's own `layerPath`
    | exact hl
    -- the build, work and upper directories: one `path.Join` below it
    | exact hj _ _ hl
    -- `<build>/root`
    | exact hj _ _ (hj _ _ hl)
    -- `<build>/root/.bashrc`
    | exact hj _ _ (hj _ _ (hj _ _ hl))

theorem addFiles_inv (hmk : ∀ p, Respects I E (fsMkdir p)) (hwl : ∀ l, Respects I E (writeLayerFile l))
    (hwt : ∀ p c, Respects I E (fsWriteTextFile p c)) (cfg d l) : Respects I E (addFiles cfg d l) :=
  addFiles_on hw (C := fun _ => True) (fun p _ => hmk p) (fun l _ => hwl l) (fun p c _ => hwt p c) cfg d l
    trivial (fun _ _ _ => trivial)

theorem addLayer_inv (hmk : ∀ p, Respects I E (fsMkdir p)) (hwl : ∀ l, Respects I E (writeLayerFile l))
    (hwt : ∀ p c, Respects I E (fsWriteTextFile p c)) (cfg d n b f) : Respects I E (addLayer cfg d n b f) :=
  addLayer_on hw cfg d n b f fun _ _ => addFiles_inv hw hmk hwl hwt cfg d _

theorem removeLayerExportLinks_inv (hrm : ∀ p, Respects I E (fsRemove p)) (cfg l) :
    Respects I E (removeLayerExportLinks cfg l) := by
  have h1 := fExists_inv I E; have h2 := fIsSymlink_inv I E
  unfold Respects at *
  mvcgen [removeLayerExportLinks, fail, h1, h2, hrm]
  walk_inv I, E
  walk_done hw

theorem removeLayer_on (hrm : ∀ p, Respects I E (fsRemove p)) (cfg : Config) (d : Defs) (n : Bytes) (files : Bool)
    (ht : ∀ l o, findLayer d n = some l → Respects I E (removeFiles d n l o)) :
    Respects I E (removeLayer cfg d n files) := by
  have h1 := testName_inv hw; have h3 := errorIfError_inv hw
  have h4 := errorIfBusy_inv hw; have h5 := removeLayerExportLinks_inv hw hrm
  have h8 := holdsOnlyOwnFiles_inv I E
  rw [removeLayer_eq]
  unfold Respects at *
  mvcgen [getL, fail, h1, h3, h4, h5, h8, ht]
  walk_done hw

theorem removeFiles_on {C : Bytes → Prop} (hrm : ∀ p, Respects I E (fsRemove p))
    (hrn : ∀ a b, C b → Respects I E (fsRename a b)) (d : Defs) (n : Bytes) (l : Layer) (o : Bool)
    (hl : C (l.layerPath ++ removedSuffix)) : Respects I E (removeFiles d n l o) := by
  have h1 := fExists_inv I E; have h2 := reorder_inv hw
  unfold Respects at *
  mvcgen [removeFiles, fail, h1, h2, hrm, hrn]
  all_goals first
    | exact ExceptConds.entails.rfl
    | (intros; first | assumption | exact hw _ ‹_›)
    -- the target `<dir>~removed` of the move
    | exact hl

theorem removeFiles_inv (hrm : ∀ p, Respects I E (fsRemove p)) (hrn : ∀ a b, Respects I E (fsRename a b))
    (d n l o) : Respects I E (removeFiles d n l o) :=
  removeFiles_on hw (C := fun _ => True) hrm (fun a b _ => hrn a b) d n l o trivial

theorem removeLayer_inv (hrm : ∀ p, Respects I E (fsRemove p)) (hrn : ∀ a b, Respects I E (fsRename a b))
    (cfg d n f) : Respects I E (removeLayer cfg d n f) :=
  removeLayer_on hw hrm cfg d n f fun _ _ _ => removeFiles_inv hw hrm hrn d n _ _

/-- `renameLayer` when the primitives are respected at paths satisfying `C`: the new directory
    and the directory of each child whose record is rewritten -/
theorem renameLayer_on {C : Bytes → Prop} (hrm : ∀ p, Respects I E (fsRemove p))
    (hrn : ∀ a b, C b → Respects I E (fsRename a b)) (hwl : ∀ l, C l.layerPath → Respects I E (writeLayerFile l))
    (cfg : Config) (d : Defs) (old new : Bytes) (co : List Bytes) (hn : C (layerPath cfg new))
    (hk : ∀ k ∈ (co.filterMap fun n => (d.layers.filter (·.base == old)).find? (·.name == n))
        ++ (d.layers.filter (·.base == old)).filter (fun k => !co.contains k.name), C k.layerPath) :
    Respects I E (renameLayer cfg d old new co) := by
  have h1 := testName_inv hw; have h2 := getL_inv hw; have h3 := errorIfError_inv hw
  have h4 := errorIfBusy_inv hw; have h5 := removeLayerExportLinks_inv hw hrm
  have h6 := reorder_inv hw
  unfold Respects at *
  mvcgen [renameLayer, fail, h1, h2, h3, h4, h5, h6, hrn, hwl]
  walk_inv I, E
  all_goals first
    | exact ExceptConds.entails.rfl
    | (intros; first | assumption | exact hw _ ‹_›)
    -- the target of the directory move, which is also where the renamed record is written
    | exact hn
    -- the child the loop is at
    | (have := hk _ (mem_of_split _ _ _ _ ‹_ = _ ++ _ :: _›); exact this)

theorem renameLayer_inv (hrm : ∀ p, Respects I E (fsRemove p)) (hrn : ∀ a b, Respects I E (fsRename a b))
    (hwl : ∀ l, Respects I E (writeLayerFile l)) (cfg d o n co) : Respects I E (renameLayer cfg d o n co) :=
  renameLayer_on hw (C := fun _ => True) hrm (fun a b _ => hrn a b) (fun l _ => hwl l) cfg d o n co trivial
    (fun _ _ => trivial)

theorem rebaseLayer_on {C : Bytes → Prop} (hwl : ∀ l, C l.layerPath → Respects I E (writeLayerFile l))
    (cfg : Config) (d : Defs) (n nb : Bytes) (hd : ∀ l, findLayer d n = some l → C l.layerPath) :
    Respects I E (rebaseLayer cfg d n nb) := by
  have h1 := testName_inv hw; have h3 := errorIfError_inv hw
  have h4 := errorIfBusy_inv hw; have h5 := reorder_inv hw
  unfold Respects at *
  mvcgen [rebaseLayer, getL, fail, h1, h3, h4, h5, hwl]
  all_goals first
    | exact ExceptConds.entails.rfl
    | (intros; first | assumption | exact hw _ ‹_›)
    -- the directory of the record found, where `writeLayerFile` writes
    | (have hl := hd _ ‹findLayer d n = some _›; exact hl)

theorem rebaseLayer_inv (hwl : ∀ l, Respects I E (writeLayerFile l)) (cfg d n b) :
    Respects I E (rebaseLayer cfg d n b) :=
  rebaseLayer_on hw (C := fun _ => True) (fun l _ => hwl l) cfg d n b (fun _ _ => trivial)

theorem makedirs_on {C : Bytes → Prop} (hmk : ∀ p, C p → Respects I E (fsMkdir p)) (cfg : Config) (d : Defs)
    (n : Bytes) (hd : ∀ l, findLayer d n = some l → C l.layerPath)
    (hj : ∀ a rest, C a → C (pathJoin (a :: rest))) : Respects I E (makedirs cfg d n) := by
  have h1 := testName_inv hw; have h3 := errorIfError_inv hw
  have h4 := @liftRes_inv I E hw
  unfold Respects at *
  mvcgen [makedirs, getL, getW, h1, h3, h4, hmk]
  walk_inv I, E
  all_goals first
    | exact ExceptConds.entails.rfl
    | (intros; first | assumption | exact hw _ ‹_›)
    -- the directory the loop is at is one of the missing build / work / upper directories
    | exact need_of cfg _ (hd _ ‹_›) hj _ _ (mem_of_split _ _ _ _ ‹_ = _ ++ _ :: _›)

theorem makedirs_inv (hmk : ∀ p, Respects I E (fsMkdir p)) (cfg d n) : Respects I E (makedirs cfg d n) :=
  makedirs_on hw (C := fun _ => True) (fun p _ => hmk p) cfg d n (fun _ _ => trivial) (fun _ _ _ => trivial)

omit hw in
theorem makeSymlinkInDirectory_inv (hmk : ∀ p, Respects I E (fsMkdir p)) (hsl : ∀ a b, Respects I E (fsSymlink a b))
    (a b) : Respects I E (makeSymlinkInDirectory a b) := by
  have h1 := fIsSymlink_inv I E; have h2 := fIsDir_inv I E
  unfold Respects at *
  mvcgen [makeSymlinkInDirectory, h1, h2, hmk, hsl]

theorem makeExportSymlinks_inv (hmk : ∀ p, Respects I E (fsMkdir p)) (hsl : ∀ a b, Respects I E (fsSymlink a b))
    (cfg l) : Respects I E (makeExportSymlinks cfg l) := by
  have h1 := @liftRes_inv I E hw; have h2 := makeSymlinkInDirectory_inv hmk hsl
  have h3 := fExists_inv I E
  unfold Respects at *
  mvcgen [makeExportSymlinks, h1, h2, h3]
  walk_inv I, E
  walk_done hw

theorem initBase_on {Cm Cw : Bytes → Prop}
    (hmk : ∀ p, Cm p → Respects I E (fsMkdir p)) (hwt : ∀ p c, Cw p → Respects I E (fsWriteTextFile p c))
    (cfg : Config) (h1 : Cm cfg.basepath) (h2 : Cm cfg.layerdirs) (h3 : Cm cfg.exportdirs)
    (h4 : Cw (pathJoin [cfg.basepath, skeletonFile])) (h5 : Cw (pathJoin [cfg.exportdirs, b!"index.html"])) :
    Respects I E (initBase cfg) := by
  unfold Respects at *
  mvcgen [initBase, getW, fail, hmk, hwt]
  walk_inv I, E
  all_goals first
    | exact ExceptConds.entails.rfl
    | (intros; first | assumption | exact hw _ ‹_›)
    -- the directory, respectively the file, the loop is at
    | exact missing_of cfg h1 h2 h3 _ _ (mem_of_split _ _ _ _ ‹_ = _ ++ _ :: _›)
    | exact needF_of cfg h4 h5 _ _ (mem_of_split _ _ _ _ ‹_ = _ ++ _ :: _›)

theorem initBase_inv (hmk : ∀ p, Respects I E (fsMkdir p)) (hwt : ∀ p c, Respects I E (fsWriteTextFile p c)) (cfg) :
    Respects I E (initBase cfg) :=
  initBase_on hw (Cm := fun _ => True) (Cw := fun _ => True) (fun p _ => hmk p) (fun p c _ => hwt p c) cfg
    trivial trivial trivial trivial trivial

theorem mountOverlay_inv (hmt : ∀ s t f o, Respects I E (fsMount s t f o)) (cfg d l) :
    Respects I E (mountOverlay cfg d l) := by
  have h1 := getL_inv hw
  unfold Respects at *
  mvcgen [mountOverlay, h1, hmt]
  walk_done hw

theorem mountItem_inv (hmk : ∀ p, Respects I E (fsMkdir p)) (hmt : ∀ s t f o, Respects I E (fsMount s t f o))
    (cfg d m) : Respects I E (mountItem cfg d m) := by
  have h1 := fExists_inv I E
  unfold Respects at *
  mvcgen [mountItem, fail, h1, hmk, hmt]
  walk_done hw

theorem mountItems_inv (hmk : ∀ p, Respects I E (fsMkdir p)) (hmt : ∀ s t f o, Respects I E (fsMount s t f o))
    (cfg d ex) : Respects I E (mountItems cfg d ex) := by
  have h1 := mountItem_inv hw hmk hmt cfg d
  unfold Respects at *
  mvcgen [mountItems, h1]
  walk_inv I, E
  walk_done hw

theorem mountOne_inv (hmk : ∀ p, Respects I E (fsMkdir p)) (hmt : ∀ s t f o, Respects I E (fsMount s t f o))
    (cfg d n) : Respects I E (mountOne cfg d n) := by
  rw [mountOne_eq]
  have h1 := getL_inv hw; have h2 := @liftRes_inv I E hw; have h3 := refreshMountInfo_inv hw
  have h4 := mountOverlay_inv hw hmt cfg; have h5 := mountItems_inv hw hmk hmt cfg
  unfold Respects at *
  mvcgen [mountOne', getW, fail, h1, h2, h3, h4, h5]
  walk_done hw

theorem mkChainDirs_inv (hmk : ∀ p, Respects I E (fsMkdir p)) (cfg chain d) :
    Respects I E (mkChainDirs cfg chain d) := by
  have h1 := makedirs_inv hw hmk cfg
  unfold Respects at *
  mvcgen [mkChainDirs, h1]
  walk_inv I, E
  walk_done hw

theorem mountChain_inv (hmk : ∀ p, Respects I E (fsMkdir p)) (hmt : ∀ s t f o, Respects I E (fsMount s t f o))
    (cfg chain d) : Respects I E (mountChain cfg chain d) := by
  have h1 := mountOne_inv hw hmk hmt cfg
  unfold Respects at *
  mvcgen [mountChain, h1]
  walk_inv I, E
  walk_done hw

theorem linkChain_inv (hmk : ∀ p, Respects I E (fsMkdir p)) (hsl : ∀ a b, Respects I E (fsSymlink a b))
    (cfg d chain) : Respects I E (linkChain cfg d chain) := by
  have h1 := makeExportSymlinks_inv hw hmk hsl cfg; have h2 := getL_inv hw
  unfold Respects at *
  mvcgen [linkChain, h1, h2]
  walk_inv I, E
  walk_done hw

theorem mountCmd_inv (hmk : ∀ p, Respects I E (fsMkdir p)) (hsl : ∀ a b, Respects I E (fsSymlink a b))
    (hmt : ∀ s t f o, Respects I E (fsMount s t f o)) (cfg d n) : Respects I E (mountCmd cfg d n) := by
  rw [mountCmd_eq]
  have h1 := testName_inv hw; have h2 := getL_inv hw; have h3 := errorIfError_inv hw
  have h4 := ancestorsAndSelf_inv hw; have h5 := mkChainDirs_inv hw hmk cfg
  have h6 := mountChain_inv hw hmk hmt cfg; have h7 := linkChain_inv hw hmk hsl cfg
  unfold Respects at *
  mvcgen [mountPre, h1, h2, h3, h4, h5, h6, h7]
  walk_done hw

theorem unmountLayer_inv (hum : ∀ t, Respects I E (fsUnmount t)) (cfg d n) : Respects I E (unmountLayer cfg d n) := by
  have h1 := getL_inv hw; have h2 := refreshMountInfo_inv hw; have h3 := @liftRes_inv I E hw
  unfold Respects at *
  mvcgen [unmountLayer, getW, h1, h2, h3, hum]
  walk_inv I, E
  walk_done hw

theorem unmountCmd_inv (hum : ∀ t, Respects I E (fsUnmount t)) (cfg d n a) : Respects I E (unmountCmd cfg d n a) := by
  have h1 := testName_inv hw; have h2 := unmountLayer_inv hw hum
  unfold Respects at *
  mvcgen [unmountCmd, fail, h1, h2]
  walk_inv I, E
  walk_done hw

theorem shake_inv (hmt : ∀ s t f o, Respects I E (fsMount s t f o)) (cfg d) : Respects I E (shake cfg d) := by
  have h1 := getL_inv hw
  unfold Respects at *
  mvcgen [shake, h1, hmt]
  walk_inv I, E
  walk_done hw

theorem chrootMount_inv (hmk : ∀ p, Respects I E (fsMkdir p)) (hsl : ∀ a b, Respects I E (fsSymlink a b))
    (hmt : ∀ s t f o, Respects I E (fsMount s t f o)) (cfg d n) : Respects I E (chrootMount cfg d n) := by
  have h1 := testName_inv hw; have h2 := getL_inv hw; have h3 := mountCmd_inv hw hmk hsl hmt
  have h4 := fIsDir_inv I E
  unfold Respects at *
  mvcgen [chrootMount, fail, h1, h2, h3, h4]
  walk_done hw

end walk

/-- the operations through which the commands change the world.  `writeLayerFile` is taken
    whole: after an injected fault its remaining chunk writes are skipped in a world where the
    fault has fired, so `cursorWrite` alone keeps no fault invariant. -/
structure Prims (I E : World → Prop) : Prop where
  weaken : ∀ w, I w → E w
  fsStep : ∀ op f, Respects I E (fsStep op f)
  writeLayerFile : ∀ l, Respects I E (writeLayerFile l)
  fsMount : ∀ s t f o, Respects I E (fsMount s t f o)
  fsUnmount : ∀ t, Respects I E (fsUnmount t)

theorem Prims.runCmd {I E : World → Prop} (P : Prims I E) (cfg inuse c) : Respects I E (runCmd cfg inuse c) := by
  have hw := P.weaken
  have hmk : ∀ p, Respects I E (fsMkdir p) := fun _ => P.fsStep _ _
  have hsl : ∀ a b, Respects I E (fsSymlink a b) := fun _ _ => P.fsStep _ _
  have hrm : ∀ p, Respects I E (fsRemove p) := fun _ => P.fsStep _ _
  have hrn : ∀ a b, Respects I E (fsRename a b) := fun _ _ => P.fsStep _ _
  have hwt : ∀ p c, Respects I E (fsWriteTextFile p c) := fun _ _ => P.fsStep _ _
  have h0 := initBase_inv hw hmk hwt; have h1 := getLayers_inv hw
  have h2 := addLayer_inv hw hmk P.writeLayerFile hwt; have h3 := removeLayer_inv hw hrm hrn
  have h4 := renameLayer_inv hw hrm hrn P.writeLayerFile; have h5 := rebaseLayer_inv hw P.writeLayerFile
  have h6 := makedirs_inv hw hmk; have h7 := mountCmd_inv hw hmk hsl P.fsMount
  have h8 := unmountCmd_inv hw P.fsUnmount; have h9 := shake_inv hw P.fsMount
  have h10 := chrootMount_inv hw hmk hsl P.fsMount
  unfold Respects at *
  cases c <;>
  · mvcgen [Layers.runCmd, h0, h1, h2, h3, h4, h5, h6, h7, h8, h9, h10]
    walk_done hw

/-! ### the case `E = I` -/

theorem pure_holds {α} (I : World → Prop) (a : α) : Holds I (pure a : M α) := pure_inv I I a
theorem throw_holds {α} (I : World → Prop) (e : Fault) : Holds I (throw e : M α) := throw_inv (fun _ h => h) e
theorem fail_holds {α} (I : World → Prop) (c : String) : Holds I (fail c : M α) := fail_inv (fun _ h => h) c
theorem liftRes_holds {α} (I : World → Prop) (r : Res α) : Holds I (liftRes r) := liftRes_inv (fun _ h => h) r
theorem getW_holds (I : World → Prop) : Holds I getW := by unfold Holds; mvcgen [getW]

end Lc.Hoare
