/-
  What `mount` does to the kernel table (`World.kt`): helper lemmas for Props/C01
  (`mountOne_establishes_cache`, `mount_idempotent`).

  * `KGrow w0`: relative to a reference world the pretend switch is unchanged and the kernel
    table and the tree only gained entries — kept by the writing primitives, hence (through
    `Hoare.mountOne_inv`) by `mountOne`,
  * after a successful, non-pretending `fs.Mount` the target carries a mount; lifted to the
    overlay block, the import blocks and `mountOne`.
-/
import Lc.Lemmas.KernelProbe
import Lc.Lemmas.MountTrace
import Lc.Lemmas.RunM
import Lc.Lemmas.FsGrow

namespace Lc.MountKernel
open Std.Do Lc Lc.Layers Lc.Hoare Lc.Mountinfo Lc.Kernel Lc.KernelProbe Lc.Trace Lc.MountTrace Lc.FsGrow

set_option mvcgen.warning false

/-! ### the kernel table only grows -/

/-- relative to a reference world: same pretend switch, the kernel table and the file-system
    tree only gained entries -/
def KGrow (w0 w : World) : Prop := w.pretend = w0.pretend ∧ Ext w0.kt w.kt ∧ FsExt w0.fs w.fs

theorem KGrow.refl (w : World) : KGrow w w := ⟨rfl, Ext.refl _, FsExt.refl _⟩

theorem KGrow.trans {a b c : World} (h1 : KGrow a b) (h2 : KGrow b c) : KGrow a c :=
  ⟨h2.1.trans h1.1, h1.2.1.trans h2.2.1, h1.2.2.trans h2.2.2⟩

theorem gate_kgrow (w0 : World) : Holds (KGrow w0) gate := gate_inv (fun _ h => h) (fun _ h => h)

theorem record_kgrow (w0 : World) (op : Op) : Holds (KGrow w0) (record op) :=
  triple_of_run _ _ _ _ fun _ h => h

theorem sysMount_kgrow (w0 : World) (s t f : Bytes) (fl : Nat) (o : Bytes) :
    Holds (KGrow w0) (sysMount s t f fl o) :=
  sysMount_inv s t f fl o (fun _ h => h) (fun _ _ h hk => ⟨h.1, h.2.1.trans (kmount_ext hk), h.2.2⟩)

theorem fsMount_kgrow (w0 : World) (s t f o : Bytes) : Holds (KGrow w0) (fsMount s t f o) :=
  fsMount_inv s t f o (gate_kgrow w0) (sysMount_kgrow w0 _ _ _ _ _) (sysMount_kgrow w0 _ _ _ _ _)

theorem fsStep_kgrow (w0 : World) (op : Op) (f : Fs.Tree → Except String Fs.Tree)
    (hf : ∀ fs fs', f fs = .ok fs' → FsExt fs fs') : Holds (KGrow w0) (fsStep op f) :=
  fsStep_inv op f (gate_kgrow w0) (fun _ h => h) (fun _ h => h)
    (fun _ _ h hfs => ⟨h.1, h.2.1, h.2.2.trans (hf _ _ hfs)⟩)

theorem fsMkdir_kgrow (w0 p) : Holds (KGrow w0) (fsMkdir p) :=
  fsStep_kgrow w0 _ _ (fun _ _ h => mkdirAll_ext h)
theorem fsSymlink_kgrow (w0 a b) : Holds (KGrow w0) (fsSymlink a b) :=
  fsStep_kgrow w0 _ _ (fun _ _ h => symlink_ext h)

theorem fIsDir_kgrow (w0 p) : Holds (KGrow w0) (fIsDir p) := fIsDir_inv _ _ p
theorem fIsSymlink_kgrow (w0 p) : Holds (KGrow w0) (fIsSymlink p) := fIsSymlink_inv _ _ p
theorem testName_kgrow (w0 d ts) : Holds (KGrow w0) (testName d ts) := testName_inv (fun _ h => h) d ts
theorem errorIfError_kgrow (w0 l) : Holds (KGrow w0) (errorIfError l) := errorIfError_inv (fun _ h => h) l

theorem mountOne_kgrow (w0 cfg d name) : Holds (KGrow w0) (mountOne cfg d name) :=
  mountOne_inv (fun _ h => h) (fsMkdir_kgrow w0) (fsMount_kgrow w0) cfg d name

/-! ### a successful, non-pretending `fs.Mount` leaves a mount on its target -/

/-- not pretending -/
def NP (w : World) : Prop := w.pretend = false

theorem gate_np : HoldsOk NP (fun r w => r = true ∧ NP w) gate :=
  triple_of_run _ _ _ _ fun w (h : w.pretend = false) => by
    rw [RunM.run_gate, h]
    cases w.crashAt == some (w.nops + 1)
    · cases w.faultAt == some (w.nops + 1)
      · exact ⟨rfl, h⟩
      · trivial
    · trivial

theorem sysMount_has (s t f : Bytes) (fl : Nat) (o : Bytes) :
    HoldsOk NP (fun _ w => NP w ∧ HasMount w.kt t) (sysMount s t f fl o) :=
  sysMount_inv s t f fl o (fun _ _ => trivial) (fun _ _ h hk => ⟨h, kmount_has hk⟩)

theorem fsMount_has (s t f o : Bytes) :
    HoldsOk NP (fun _ w => NP w ∧ HasMount w.kt t) (fsMount s t f o) := by
  have h1 := gate_np
  have h2 := sysMount_has
  rw [fsMount_eq]
  unfold HoldsOk at *
  mvcgen [h1, h2]
  all_goals (try intros)
  all_goals simp_all

theorem fsStep_np (op : Op) (f) : Holds NP (fsStep op f) :=
  fsStep_inv op f (gate_inv (fun _ h => h) (fun _ h => h)) (fun _ h => h) (fun _ h => h) (fun _ _ h _ => h)

/-- the cache of `d` shows a mount on `p` -/
def Cached (d : Defs) (p : Bytes) : Prop := getMount d.mounts p ≠ none

theorem mountOverlay_has (cfg : Config) (d : Defs) (l : Layer) :
    HoldsOk NP (fun _ w => NP w ∧ (l.base.length > 0 →
      Cached d (buildPath cfg l) ∨ HasMount w.kt (buildPath cfg l))) (mountOverlay cfg d l) := by
  have h1 := fsMount_has
  unfold HoldsOk at *
  mvcgen [mountOverlay, getL, h1]
  all_goals (try intros)
  all_goals simp_all [Cached]

theorem mountItem_has (cfg : Config) (d : Defs) (m : Expanded) :
    HoldsOk NP (fun _ w => NP w ∧ (Cached d m.mount ∨ HasMount w.kt m.mount)) (mountItem cfg d m) := by
  have h1 := fsMount_has
  have h2 := fsStep_np
  have h3 := fExists_inv NP NP
  unfold HoldsOk Holds at *
  mvcgen [mountItem, fsMkdir, h1, h2, h3, fail]
  all_goals (try intros)
  all_goals simp_all [Cached]

/-! ### run-level composition -/

/-- from a `HoldsOk` triple and the invariant `KGrow` to the run function -/
theorem run_ok_of {α} {m : M α} {Q : α → World → Prop} (h : HoldsOk NP Q m)
    (hk : ∀ w0, Holds (KGrow w0) m) {w w' : World} {a : α} (hp : NP w)
    (hr : m.run.run w = (.ok a, w')) : Q a w' ∧ KGrow w w' := by
  have h1 := extractOk NP Q m h w hp a (by rw [hr])
  have h2 := extract (KGrow w) m (hk w) w (KGrow.refl w)
  rw [hr] at h1 h2
  exact ⟨h1, h2⟩

theorem mountItems_cons (cfg : Config) (d : Defs) (m : Expanded) (ms : List Expanded) :
    mountItems cfg d (m :: ms) = (mountItem cfg d m >>= fun _ => mountItems cfg d ms) := by
  unfold mountItems
  simp only [List.forIn_cons, bind_assoc, pure_bind]

theorem mountItems_nil (cfg : Config) (d : Defs) : mountItems cfg d [] = pure () := rfl

/-- after a successful, non-pretending pass over the imports each import's mountpoint was
    cached as mounted or carries a mount now -/
theorem mountItems_has (cfg : Config) (d : Defs) : ∀ (ex : List Expanded) (w w' : World),
    NP w → (mountItems cfg d ex).run.run w = (.ok (), w') →
    NP w' ∧ Ext w.kt w'.kt ∧ ∀ e ∈ ex, Cached d e.mount ∨ HasMount w'.kt e.mount := by
  intro ex
  induction ex with
  | nil =>
    intro w w' hp h
    rw [mountItems_nil, RunM.run_pure] at h
    cases h
    exact ⟨hp, Ext.refl _, fun e he => by cases he⟩
  | cons m ms ih =>
    intro w w' hp h
    rw [mountItems_cons] at h
    obtain ⟨u, w1, h1, h2⟩ := RunM.bind_ok_inv _ _ _ _ _ h
    obtain ⟨⟨hp1, hm⟩, hk1⟩ := run_ok_of (mountItem_has cfg d m) (fun w0 => mountItem_inv (fun _ h => h) (fsMkdir_kgrow w0) (fsMount_kgrow w0) cfg d m) hp h1
    obtain ⟨hp2, hk2, hrest⟩ := ih w1 w' hp1 h2
    refine ⟨hp2, hk1.2.1.trans hk2, ?_⟩
    intro e he
    rcases List.mem_cons.mp he with rfl | he
    · rcases hm with hm | hm
      · exact .inl hm
      · exact .inr (hk2.hasMount hm)
    · exact hrest e he

/-- **what a successful, non-pretending `mountOne` leaves in the kernel table**: the build
    path of a derived layer and every expanded import mountpoint were cached as mounted when
    it started or carry a mount when it returns; the table only grew; the returned cache is
    the probe of the final table. -/
theorem mountOne_run_ok (cfg : Config) (d : Defs) (name : Bytes) (w w' : World) (d' : Defs)
    (hp : NP w) (h : (mountOne cfg d name).run.run w = (.ok d', w')) :
    NP w' ∧ Ext w.kt w'.kt ∧ Kernel.probe w'.kt = .ok d'.mounts ∧
    ∃ l ex, findLayer d name = some l ∧ expandConfigMounts cfg d l = .ok ex ∧
      (l.base.length > 0 → Cached d (buildPath cfg l) ∨ HasMount w'.kt (buildPath cfg l)) ∧
      (∀ e ∈ ex, Cached d e.mount ∨ HasMount w'.kt e.mount) ∧
      ∃ d2 l2 l', d2.layers = d.layers.map (fun l => { l with overlain := (overlayLowerdirs d2.mounts).contains (buildPath cfg l) }) ∧
        findLayer d2 name = some l2 ∧ findLayerstate cfg w'.fs d2 l2 = .ok l' ∧ d' = setLayer d2 l' := by
  obtain ⟨l, ex, w2, d2, l2, l', hl, hex, h2, h4, hprobe, hlay, hl2, hst, rfl⟩ := mountOne_ok_inv h
  obtain ⟨⟨hp2, hov⟩, hk2⟩ := run_ok_of (mountOverlay_has cfg d l) (fun w0 => mountOverlay_inv (fun _ h => h) (fsMount_kgrow w0) cfg d l) hp h2
  obtain ⟨hp4, hk4, hit⟩ := mountItems_has cfg d ex _ _ hp2 h4
  refine ⟨hp4, hk2.2.1.trans hk4, hprobe, l, ex, hl, hex, ?_, hit, d2, l2, l', hlay, hl2, hst, rfl⟩
  intro hb
  rcases hov hb with hc | hm
  · exact .inl hc
  · exact .inr (hk4.hasMount hm)

end Lc.MountKernel
