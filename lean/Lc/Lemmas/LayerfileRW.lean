/-
  Helper lemmas for Props/C11 (read_write_read): `path.Clean` never introduces white
  space, the reader's step on the lines the writer emits.
-/
import Lc.Lemmas.Runes
import Lc.Lemmas.Path
import Lc.Lemmas.LayerfileScanner
import Lc.Lemmas.Ite

namespace Lc.Lemmas.LayerfileRW
open Lc Lc.Lemmas.Runes Lc.Lemmas.Path Lc.Lemmas.LayerfileScanner Lc.Layerfile Lc.Mountinfo

/-! ### path.Clean keeps tokens tokens -/

theorem ns_splitOn (s : Bytes) (h : NS s) : ∀ p ∈ splitOn 47 s, NS p := by
  rw [← joinWith_splitOn 47 s] at h
  exact (ns_joinWith 47 (by omega) (by decide) _).mp h

theorem ns_single (c : Nat) (h : c < 128) (hc : isSpaceRune c = false) : NS [c] := by
  have := (ns_split [] c [] h).mpr ⟨ns_nil, hc, ns_nil⟩
  simpa using this

/-- `path.Clean` of a string without white-space runes has no white-space runes -/
theorem ns_pathClean (s : Bytes) (h : NS s) : NS (pathClean s) := by
  rw [pathClean_eq_assemble]
  have hst : ∀ c ∈ (pathComps s).foldl (cleanStep (isAbs s)) [], NS c := by
    intro c hc
    rcases foldl_cleanStep_mem _ _ _ c hc with e | e
    · simp at e
    · unfold pathComps at e
      exact ns_splitOn s h c (List.mem_filter.mp e).1
  generalize (pathComps s).foldl (cleanStep (isAbs s)) [] = stack at hst
  generalize isAbs s = r
  have hbody : NS (joinWith SLASH stack.reverse) :=
    (ns_joinWith 47 (by omega) (by decide) _).mpr (fun p hp => hst p (by simpa using hp))
  unfold assemble
  cases r
  · simp only [Bool.false_eq_true, if_false]
    split
    · exact ns_single 46 (by omega) (by decide)
    · exact hbody
  · simp only [if_true, List.isEmpty_cons, Bool.false_eq_true, if_false]
    have := (ns_split [] 47 (joinWith SLASH stack.reverse) (by omega)).mpr ⟨ns_nil, by decide, hbody⟩
    simp only [List.nil_append] at this
    exact this

theorem tok_pathClean (f : Bytes) (h : Tok f) : Tok (pathClean f) :=
  ⟨pathClean_ne_nil f, ns_pathClean f h.2⟩

/-! ### what the writer emits, line by line -/

def body (kw : Bytes) (m : NeededMount) : Bytes := joinWith 32 [kw, m.fstype, m.source, m.mount]

theorem renderMount_eq (kw : Bytes) (m : NeededMount) : renderMount kw m = body kw m ++ [10] := by
  simp [renderMount, body, joinWith]

def bodies (l : LayerFile) : List Bytes :=
  (if l.base.length > 0 then [joinWith 32 [kwBase, l.base], []] else [])
  ++ l.mounts.map (body kwImport)
  ++ (if l.exports.length > 0 then [[]] else [])
  ++ l.exports.map (body kwExport)

theorem render_eq (l : LayerFile) : render l = (bodies l).flatMap (· ++ [10]) := by
  unfold render writeChunks bodies
  simp only [List.flatten_append, List.flatMap_append, List.flatMap_map]
  have hm : ∀ (kw : Bytes) (ms : List NeededMount),
      (ms.map (renderMount kw)).flatten = ms.flatMap (fun m => body kw m ++ [10]) := by
    intro kw ms
    induction ms with
    | nil => rfl
    | cons m rest ih => simp [renderMount_eq, ih]
  rw [hm, hm]
  congr 1
  · congr 1
    · congr 1
      split <;> simp [joinWith]
    · split <;> simp

/-! ### tokens in a layer description -/

def TokM (m : NeededMount) : Prop :=
  Tok m.fstype ∧ Tok m.source ∧ Tok m.mount ∧ pathClean m.source = m.source ∧ pathClean m.mount = m.mount

/-- what every result of the reader satisfies, whatever the input -/
def WF (l : LayerFile) : Prop :=
  (l.base = [] ∨ Tok l.base) ∧ (∀ m ∈ l.mounts, TokM m) ∧ (∀ m ∈ l.exports, TokM m)

theorem tokM_mk (t s m : Bytes) (ht : Tok t) (hs : Tok s) (hm : Tok m) :
    TokM ⟨pathClean m, pathClean s, t⟩ :=
  ⟨ht, tok_pathClean s hs, tok_pathClean m hm, pathClean_idem s, pathClean_idem m⟩

theorem WF.snoc {l : LayerFile} (h : WF l) {m : NeededMount} (hm : TokM m) :
    WF { l with mounts := l.mounts ++ [m] } ∧ WF { l with exports := l.exports ++ [m] } := by
  have hs : ∀ ms : List NeededMount, (∀ x ∈ ms, TokM x) → ∀ x ∈ ms ++ [m], TokM x := by
    intro ms hms x hx
    rcases List.mem_append.mp hx with e | e
    · exact hms x e
    · rw [List.mem_singleton.mp e]; exact hm
  exact ⟨⟨h.1, hs _ h.2.1, h.2.2⟩, ⟨h.1, h.2.1, hs _ h.2.2⟩⟩

theorem readStep_wf (l : LayerFile) (line : Bytes) (h : WF l) : WF (readStep l line) := by
  have hf := fields_tok (trimSpace line)
  have hmount : ∀ args : List Bytes, (∀ f ∈ args, Tok f) →
      WF (match args with
        | t :: s :: m :: _ => { l with mounts := l.mounts ++ [⟨pathClean m, pathClean s, t⟩] }
        | _ => { l with nmsgs := l.nmsgs + 1 }) ∧
      WF (match args with
        | t :: s :: m :: _ => { l with exports := l.exports ++ [⟨pathClean m, pathClean s, t⟩] }
        | _ => { l with nmsgs := l.nmsgs + 1 }) := by
    intro args ha
    match args with
    | [] | [_] | [_, _] => exact ⟨h, h⟩
    | t :: s :: m :: _ => exact h.snoc (tokM_mk t s m (ha t (by simp)) (ha s (by simp)) (ha m (by simp)))
  unfold readStep
  refine ite_ind h ?_
  cases hfe : fields (trimSpace line) with
  | nil => exact h
  | cons kw args =>
    rw [hfe] at hf
    have ha : ∀ f ∈ args, Tok f := fun f hm => hf f (List.mem_cons_of_mem _ hm)
    refine ite_ind ?_ (ite_ind (hmount args ha).1 (ite_ind (hmount args ha).2 h))
    cases args with
    | nil => exact h
    | cons b _ => exact ite_ind h ⟨Or.inr (ha b (by simp)), h.2.1, h.2.2⟩

theorem wf_empty : WF {} := ⟨Or.inl rfl, by simp, by simp⟩

theorem readLines_wf (lines : List Bytes) : ∀ l, WF l → WF (lines.foldl readStep l) := by
  induction lines with
  | nil => intro l h; exact h
  | cons x xs ih => intro l h; exact ih _ (readStep_wf l x h)

theorem readLayerFile_wf (content : Bytes) : WF (readLayerFile content) :=
  readLines_wf _ _ wf_empty

/-! ### the reader on the writer's lines -/

theorem tok_kwBase : Tok kwBase := by constructor <;> decide
theorem tok_kwImport : Tok kwImport := by constructor <;> decide
theorem tok_kwExport : Tok kwExport := by constructor <;> decide

theorem readStep_blank (x : LayerFile) : readStep x [] = x := by
  simp [readStep, trimSpace_nil, isContentLine]

theorem readStep_base (x : LayerFile) (b : Bytes) (hb : Tok b) (hx : x.base = []) :
    readStep x (joinWith 32 [kwBase, b]) = { x with base := b } := by
  have hall : ∀ f ∈ [kwBase, b], Tok f := by
    intro f hf; simp at hf; rcases hf with e | e <;> subst e <;> first | exact tok_kwBase | exact hb
  have ht := trimSpace_join [kwBase, b] (by simp) hall
  have hfl := fields_join [kwBase, b] hall
  unfold readStep
  simp only [ht, hfl]
  have hc : isContentLine (joinWith 32 [kwBase, b]) = true := by simp [joinWith, kwBase, isContentLine]
  simp [hc, hx]

theorem body_fields (kw : Bytes) (m : NeededMount) (hk : Tok kw) (hm : TokM m) :
    trimSpace (body kw m) = body kw m ∧ fields (body kw m) = [kw, m.fstype, m.source, m.mount] := by
  obtain ⟨h1, h2, h3, _, _⟩ := hm
  have hall : ∀ f ∈ [kw, m.fstype, m.source, m.mount], Tok f := by
    intro f hf
    simp at hf
    rcases hf with e | e | e | e <;> subst e <;> assumption
  exact ⟨trimSpace_join _ (by simp) hall, fields_join _ hall⟩

theorem readStep_import (x : LayerFile) (m : NeededMount) (hm : TokM m) :
    readStep x (body kwImport m) = { x with mounts := x.mounts ++ [m] } := by
  have hc : isContentLine (body kwImport m) = true := by simp [body, joinWith, kwImport, isContentLine]
  obtain ⟨ht, hfl⟩ := body_fields kwImport m tok_kwImport hm
  unfold readStep
  simp only [ht, hfl]
  have hne : kwImport ≠ kwBase := by decide
  obtain ⟨_, _, _, h4, h5⟩ := hm
  simp [hc, hne, h4, h5]

theorem readStep_export (x : LayerFile) (m : NeededMount) (hm : TokM m) :
    readStep x (body kwExport m) = { x with exports := x.exports ++ [m] } := by
  have hc : isContentLine (body kwExport m) = true := by simp [body, joinWith, kwExport, isContentLine]
  obtain ⟨ht, hfl⟩ := body_fields kwExport m tok_kwExport hm
  unfold readStep
  simp only [ht, hfl]
  have hne : kwExport ≠ kwBase := by decide
  have hne2 : kwExport ≠ kwImport := by decide
  obtain ⟨_, _, _, h4, h5⟩ := hm
  simp [hc, hne, hne2, h4, h5]

theorem readLines_imports (ms : List NeededMount) : ∀ (x : LayerFile), (∀ m ∈ ms, TokM m) →
    (ms.map (body kwImport)).foldl readStep x = { x with mounts := x.mounts ++ ms } := by
  induction ms with
  | nil => intro x _; simp
  | cons m rest ih =>
    intro x h
    simp only [List.map_cons, List.foldl_cons]
    rw [readStep_import x m (h m (by simp)), ih _ (fun y hy => h y (by simp [hy]))]
    simp

theorem readLines_exports (ms : List NeededMount) : ∀ (x : LayerFile), (∀ m ∈ ms, TokM m) →
    (ms.map (body kwExport)).foldl readStep x = { x with exports := x.exports ++ ms } := by
  induction ms with
  | nil => intro x _; simp
  | cons m rest ih =>
    intro x h
    simp only [List.map_cons, List.foldl_cons]
    rw [readStep_export x m (h m (by simp)), ih _ (fun y hy => h y (by simp [hy]))]
    simp

theorem body_no_lf_cr (kw : Bytes) (m : NeededMount) (hk : Tok kw) (hm : TokM m) :
    10 ∉ body kw m ∧ 13 ∉ body kw m := by
  obtain ⟨h1, h2, h3, _, _⟩ := hm
  have a1 := tok_no_lf _ hk; have a2 := tok_no_lf _ h1; have a3 := tok_no_lf _ h2; have a4 := tok_no_lf _ h3
  have b1 := tok_no_cr _ hk; have b2 := tok_no_cr _ h1; have b3 := tok_no_cr _ h2; have b4 := tok_no_cr _ h3
  simp [body, joinWith, a1, a2, a3, a4, b1, b2, b3, b4]

theorem bodies_no_lf_cr (l : LayerFile) (h : WF l) : ∀ b ∈ bodies l, 10 ∉ b ∧ 13 ∉ b := by
  intro b hb
  unfold bodies at hb
  simp only [List.mem_append, List.mem_map] at hb
  rcases hb with ((hb | ⟨m, hm, rfl⟩) | hb) | ⟨m, hm, rfl⟩
  · split at hb
    · rename_i hlen
      have hbt : Tok l.base := by
        rcases h.1 with e | e
        · rw [e] at hlen; simp at hlen
        · exact e
      simp at hb
      rcases hb with rfl | rfl
      · have a1 := tok_no_lf _ tok_kwBase; have a2 := tok_no_lf _ hbt
        have b1 := tok_no_cr _ tok_kwBase; have b2 := tok_no_cr _ hbt
        simp [joinWith, a1, a2, b1, b2]
      · simp
    · simp at hb
  · exact body_no_lf_cr _ _ tok_kwImport (h.2.1 m hm)
  · split at hb
    · simp at hb; subst hb; simp
    · simp at hb
  · exact body_no_lf_cr _ _ tok_kwExport (h.2.2 m hm)

/-- reading the writer's lines gives back the description (message count 0) -/
theorem readLines_bodies (l : LayerFile) (h : WF l) :
    (bodies l).foldl readStep {} = { l with nmsgs := 0 } := by
  unfold bodies
  simp only [List.foldl_append]
  have hbase : (if l.base.length > 0 then [joinWith 32 [kwBase, l.base], []] else []).foldl readStep {}
      = { base := l.base } := by
    split
    · rename_i hlen
      have hbt : Tok l.base := by
        rcases h.1 with e | e
        · rw [e] at hlen; simp at hlen
        · exact e
      simp only [List.foldl_cons, List.foldl_nil]
      rw [readStep_base {} l.base hbt rfl, readStep_blank]
    · rename_i hlen
      have : l.base = [] := by
        cases hb : l.base with
        | nil => rfl
        | cons a b => rw [hb] at hlen; simp at hlen
      simp [this]
  rw [hbase, readLines_imports l.mounts _ h.2.1]
  have hsep : ∀ x : LayerFile, (if l.exports.length > 0 then [([] : Bytes)] else []).foldl readStep x = x := by
    intro x; split <;> simp [readStep_blank]
  rw [hsep, readLines_exports l.exports _ h.2.2]
  simp

/-- WriteLayerfile followed by ReadLayerFile on any description the reader can produce -/
theorem read_render (l : LayerFile) (h : WF l) : readLayerFile (render l) = { l with nmsgs := 0 } := by
  unfold readLayerFile readLines
  rw [render_eq, scanLines_lines _ (fun b hb => (bodies_no_lf_cr l h b hb).1)
    (fun b hb => dropCR_id b (bodies_no_lf_cr l h b hb).2)]
  exact readLines_bodies l h

end Lc.Lemmas.LayerfileRW
