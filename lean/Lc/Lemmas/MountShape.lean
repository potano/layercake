/-
  Consequences of the trace grammar of `mountOne` (Lc/Lemmas/MountTrace.lean), by list
  reasoning only: which operations can occur (`OpAllowed`), the overlay call comes first
  (`shape`), the propagation call follows its mount (`SlaveAdj`).  Helper lemmas for Props/C01.
-/
import Lc.Lemmas.MountTrace

namespace Lc.MountTrace
open Lc Lc.Layers Lc.Mountinfo Lc.Trace

theorem mem_fsMountOps {op : Op} {src tgt fs o : Bytes} :
    op ∈ fsMountOps src tgt fs o ↔
      op = mountOp src tgt fs o ∨ (needsSlave src = true ∧ op = propOp tgt o) := by
  unfold fsMountOps
  by_cases h : needsSlave src = true <;> simp [h]

/-- `op` belongs to the expanded import `e`: creation of its missing source directory, its
    mount call, or the propagation call after it — the latter two only when the cache shows
    nothing mounted on its mountpoint -/
def IsItemOp (d : Defs) (e : Expanded) (op : Op) : Prop :=
  op = .mkdir e.source ∨
  (getMount d.mounts e.mount = none ∧
    (op = mountOp e.source e.mount e.fstype [] ∨ (needsSlave e.source = true ∧ op = propOp e.mount [])))

/-- `op` is the overlay mount of `l`, issued only when the cache shows nothing on the build path -/
def IsOverlayOp (cfg : Config) (d : Defs) (l : Layer) (op : Op) : Prop :=
  l.base.length > 0 ∧ getMount d.mounts (buildPath cfg l) = none ∧
    ∃ bl, findLayer d l.base = some bl ∧ op = overlayOp cfg bl l

def OpAllowed (cfg : Config) (d : Defs) (l : Layer) (op : Op) : Prop :=
  IsOverlayOp cfg d l op ∨
  ∃ ex e, expandConfigMounts cfg d l = .ok ex ∧ e ∈ ex ∧ IsItemOp d e op

theorem ItemSeg.ops {d : Defs} {m : Expanded} {s : List Op} (h : ItemSeg d m s) :
    ∀ op ∈ s, IsItemOp d m op := by
  obtain ⟨mk, mt, rfl, hmk, hmt⟩ := h
  intro op hop
  rcases List.mem_append.mp hop with hop | hop
  · rcases hmk with hmk | hmk
    · rw [hmk] at hop; cases hop
    · rw [hmk] at hop; simp at hop; exact .inl hop
  · rcases hmt with hmt | ⟨hg, hmt⟩
    · rw [hmt] at hop; cases hop
    · rw [hmt] at hop
      exact .inr ⟨hg, mem_fsMountOps.mp hop⟩

theorem ItemSegs.ops {d : Defs} {ms : List Expanded} {s : List Op} (h : ItemSegs d ms s) :
    ∀ op ∈ s, ∃ e ∈ ms, IsItemOp d e op := by
  induction h with
  | nil => intro op hop; cases hop
  | snoc hprev hseg ih =>
    intro op hop
    rcases List.mem_append.mp hop with hop | hop
    · obtain ⟨e, he, hi⟩ := ih op hop
      exact ⟨e, List.mem_append.mpr (.inl he), hi⟩
    · exact ⟨_, List.mem_append.mpr (.inr (List.mem_singleton.mpr rfl)), hseg.ops op hop⟩

/-- overlay call first (if at all), then only operations of the configured imports -/
def OverlayFirst (cfg : Config) (d : Defs) (l : Layer) (s : List Op) : Prop :=
  ∃ it, (s = it ∨ ∃ bl, IsOverlayOp cfg d l (overlayOp cfg bl l) ∧ findLayer d l.base = some bl ∧
            s = overlayOp cfg bl l :: it) ∧
    ∀ op ∈ it, ∃ ex e, expandConfigMounts cfg d l = .ok ex ∧ e ∈ ex ∧ IsItemOp d e op

theorem MountOneTrace.shape {cfg : Config} {d : Defs} {l : Layer} {s : List Op}
    (h : MountOneTrace cfg d l s) : OverlayFirst cfg d l s := by
  obtain ⟨ov, it, rfl, hov, hit⟩ := h
  refine ⟨it, ?_, ?_⟩
  · rcases hov with hov | ⟨hb, hg, bl, hbl, hov⟩
    · left; rw [hov]; rfl
    · right; exact ⟨bl, ⟨hb, hg, bl, hbl, rfl⟩, hbl, by rw [hov]; rfl⟩
  · intro op hop
    rcases hit with hit | ⟨ex, hex, hit⟩
    · rw [hit] at hop; cases hop
    · obtain ⟨e, he, hi⟩ := hit.ops op hop
      exact ⟨ex, e, hex, he, hi⟩

theorem MountOneTrace.ops {cfg : Config} {d : Defs} {l : Layer} {s : List Op}
    (h : MountOneTrace cfg d l s) : ∀ op ∈ s, OpAllowed cfg d l op := by
  obtain ⟨it, hs, hit⟩ := h.shape
  intro op hop
  rcases hs with hs | ⟨bl, hov, _, hs⟩
  · rw [hs] at hop; exact .inr (hit op hop)
  · rw [hs] at hop
    rcases List.mem_cons.mp hop with hop | hop
    · rw [hop]; exact .inl hov
    · exact .inr (hit op hop)

/-- every operation of any exit of `mountOne` -/
theorem MountOneE.ops {cfg : Config} {d : Defs} {name : Bytes} {s : List Op}
    (h : MountOneE cfg d name s) :
    ∀ op ∈ s, ∃ l, findLayer d name = some l ∧ OpAllowed cfg d l op := by
  intro op hop
  rcases h with h | ⟨s', l, hl, ht⟩
  · rw [h] at hop; cases hop
  · exact ⟨l, hl, ht.ops op (List.mem_append.mpr (.inl hop))⟩

/-- the shape survives cutting the trace short -/
theorem MountOneE.shape {cfg : Config} {d : Defs} {name : Bytes} {s : List Op}
    (h : MountOneE cfg d name s) : s = [] ∨ ∃ l, findLayer d name = some l ∧ OverlayFirst cfg d l s := by
  rcases h with h | ⟨s', l, hl, ht⟩
  · exact .inl h
  · obtain ⟨it, hs, hit⟩ := ht.shape
    rcases hs with hs | ⟨bl, hov, hbl, hs⟩
    · refine .inr ⟨l, hl, s, .inl rfl, ?_⟩
      intro op hop
      exact hit op (by rw [← hs]; exact List.mem_append.mpr (.inl hop))
    · cases s with
      | nil => exact .inl rfl
      | cons x s2 =>
        simp only [List.cons_append, List.cons.injEq] at hs
        refine .inr ⟨l, hl, s2, .inr ⟨bl, hov, hbl, by rw [hs.1]⟩, ?_⟩
        intro op hop
        exact hit op (by rw [← hs.2]; exact List.mem_append.mpr (.inl hop))

/-! ### the propagation call follows its mount -/

/-- every mount whose source is /dev, /sys or /run is immediately followed by the
    propagation call on the same target; `strict = false` tolerates such a mount as the very
    last operation (the run was cut short right after it) -/
def SlaveAdj (strict : Bool) : List Op → Prop
  | [] => True
  | op :: rest =>
    (∀ src tgt fs fl data, op = .mount src tgt fs fl data → needsSlave src = true →
      match rest with
      | [] => strict = false
      | nxt :: _ => nxt = propOp tgt data) ∧ SlaveAdj strict rest

theorem SlaveAdj.append {a b : List Op} (ha : SlaveAdj true a) (hb : SlaveAdj true b) :
    SlaveAdj true (a ++ b) := by
  induction a with
  | nil => exact hb
  | cons op rest ih =>
    obtain ⟨h1, h2⟩ := ha
    refine ⟨?_, ih h2⟩
    intro src tgt fs fl data hop hn
    have := h1 src tgt fs fl data hop hn
    cases rest with
    | nil => simp at this
    | cons nxt r => exact this

/-- a trace cut short: only its last operation can have lost its propagation call -/
theorem SlaveAdj.prefix {s s' : List Op} (h : SlaveAdj true (s ++ s')) : SlaveAdj false s := by
  induction s with
  | nil => trivial
  | cons op rest ih =>
    obtain ⟨h1, h2⟩ := h
    refine ⟨?_, ih h2⟩
    intro src tgt fs fl data hop hn
    have := h1 src tgt fs fl data hop hn
    cases rest with
    | nil => rfl
    | cons nxt r => exact this

theorem SlaveAdj.of_true {s : List Op} (h : SlaveAdj true s) : SlaveAdj false s := by
  have : SlaveAdj true (s ++ []) := by simpa using h
  exact this.prefix

theorem needsSlave_nil : needsSlave [] = false := by decide

theorem SlaveAdj.fsMountOps (src tgt fs o : Bytes) : SlaveAdj true (fsMountOps src tgt fs o) := by
  unfold Trace.fsMountOps
  by_cases h : needsSlave src = true
  · simp only [h, if_true]
    refine ⟨?_, ?_, trivial⟩
    · intro src' tgt' fs' fl' data' hop _
      simp only [mountOp, Op.mount.injEq] at hop
      obtain ⟨_, rfl, _, _, rfl⟩ := hop
      rfl
    · intro src' tgt' fs' fl' data' hop hn
      simp only [propOp, Op.mount.injEq] at hop
      rw [← hop.1, needsSlave_nil] at hn
      cases hn
  · simp only [h]
    refine ⟨?_, trivial⟩
    intro src' tgt' fs' fl' data' hop hn
    simp only [mountOp, Op.mount.injEq] at hop
    rw [← hop.1] at hn
    exact absurd hn h

theorem ItemSeg.slave {d : Defs} {m : Expanded} {s : List Op} (h : ItemSeg d m s) : SlaveAdj true s := by
  obtain ⟨mk, mt, rfl, hmk, hmt⟩ := h
  apply SlaveAdj.append
  · rcases hmk with hmk | hmk <;> rw [hmk]
    · trivial
    · exact ⟨fun _ _ _ _ _ h => (by cases h), trivial⟩
  · rcases hmt with hmt | ⟨_, hmt⟩ <;> rw [hmt]
    · trivial
    · exact SlaveAdj.fsMountOps _ _ _ _

theorem ItemSegs.slave {d : Defs} {ms : List Expanded} {s : List Op} (h : ItemSegs d ms s) :
    SlaveAdj true s := by
  induction h with
  | nil => trivial
  | snoc _ hseg ih => exact ih.append hseg.slave

theorem MountOneTrace.slave {cfg : Config} {d : Defs} {l : Layer} {s : List Op}
    (h : MountOneTrace cfg d l s) : SlaveAdj true s := by
  obtain ⟨ov, it, rfl, hov, hit⟩ := h
  apply SlaveAdj.append
  · rcases hov with hov | ⟨_, _, bl, _, hov⟩ <;> rw [hov]
    · trivial
    · have := SlaveAdj.fsMountOps b!"overlay" (buildPath cfg l) b!"overlay" (ovData cfg bl l)
      rw [fsMountOps_overlay] at this
      exact this
  · rcases hit with hit | ⟨ex, _, hit⟩
    · rw [hit]; trivial
    · exact hit.slave

theorem MountOneE.slave {cfg : Config} {d : Defs} {name : Bytes} {s : List Op}
    (h : MountOneE cfg d name s) : SlaveAdj false s := by
  rcases h with h | ⟨s', l, _, ht⟩
  · rw [h]; trivial
  · exact ht.slave.prefix

end Lc.MountTrace
