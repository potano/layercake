/-
  Lemmas about the `path` models of Lc/Base/Path.lean: `path.Clean` is idempotent
  (`pathClean_idem`) because it is a fold over the components (`pathComps`, `cleanStep`)
  whose stack keeps an invariant (`Good`, `Inv`) and is put back together by `assemble`;
  the same invariants give the component view of clean paths in Lemmas/ExportPath and
  Lemmas/AbsPath.
-/
import Lc.Base.Path

namespace Lc.Lemmas.Path
open Lc

theorem dotIfEmpty_ne_nil (out : Bytes) : (if out.isEmpty then [DOT] else out) ≠ [] := by
  cases out <;> simp

theorem pathClean_ne_nil (s : Bytes) : pathClean s ≠ [] := by
  unfold pathClean
  exact dotIfEmpty_ne_nil _

theorem pathDir_ne_nil (s : Bytes) : pathDir s ≠ [] := pathClean_ne_nil _

/-- an absolute path stays absolute under `path.Clean` -/
theorem isAbs_pathClean_of_isAbs (s : Bytes) (h : isAbs s = true) : isAbs (pathClean s) = true := by
  unfold pathClean
  simp only [h, if_true]
  simp [isAbs, SLASH]

theorem isAbs_cons (x : Nat) (xs : Bytes) : isAbs (x :: xs) = decide (x = 47) := by
  by_cases h : x = 47
  · subst h; rfl
  · unfold isAbs
    split
    · rename_i heq; injection heq with h1 _; exact absurd h1 h
    · simp [h]

theorem isAbs_append (a b : Bytes) (h : isAbs a = true) : isAbs (a ++ b) = true := by
  cases a with
  | nil => simp [isAbs] at h
  | cons x xs =>
    rw [isAbs_cons] at h
    rw [List.cons_append, isAbs_cons]
    exact h

theorem pathJoin_two (b l : Bytes) (hb : b ≠ []) : pathJoin [b, l] = pathClean (b ++ SLASH :: l) := by
  cases b with
  | nil => exact absurd rfl hb
  | cons x xs => simp [pathJoin, List.dropWhile, joinWith]

theorem isAbs_ne_nil {s : Bytes} (h : isAbs s = true) : s ≠ [] := by
  intro e; subst e; simp [isAbs] at h

/-! ### idempotence of `path.Clean` -/

/-- a path component as `path.Clean` keeps it -/
def Good (c : Bytes) : Prop := c ≠ [] ∧ c ≠ [DOT] ∧ SLASH ∉ c

theorem good_dotdot : Good dotdot := by
  refine ⟨by decide, by decide, by decide⟩

theorem splitOn_no_sep (sep : Nat) (s : Bytes) : ∀ p ∈ splitOn sep s, sep ∉ p := by
  induction s with
  | nil => intro p hp; simp [splitOn] at hp; subst hp; simp
  | cons c cs ih =>
    intro p hp
    unfold splitOn at hp
    by_cases hc : c = sep
    · simp only [hc, if_true] at hp
      rcases List.mem_cons.mp hp with e | e
      · subst e; simp
      · exact ih p e
    · simp only [hc, if_false] at hp
      cases hs : splitOn sep cs with
      | nil => exact absurd hs (splitOn_ne_nil sep cs)
      | cons h t =>
        rw [hs] at hp ih
        simp only [] at hp
        rcases List.mem_cons.mp hp with e | e
        · subst e
          intro hm
          rcases List.mem_cons.mp hm with e2 | e2
          · exact hc e2.symm
          · exact ih h (by simp) e2
        · exact ih p (by simp [e])

theorem splitOn_append_sep_gen (sep : Nat) (X rest : Bytes) :
    splitOn sep (X ++ sep :: rest) = splitOn sep X ++ splitOn sep rest := by
  induction X with
  | nil => simp [splitOn]
  | cons c cs ih =>
    by_cases hc : c = sep
    · simp [splitOn, hc, ih]
    · simp only [List.cons_append, splitOn, hc, if_false, ih]
      cases hs : splitOn sep cs with
      | nil => exact absurd hs (splitOn_ne_nil sep cs)
      | cons h t => simp

theorem pathComps_good (s : Bytes) : ∀ c ∈ pathComps s, Good c := by
  intro c hc
  unfold pathComps at hc
  have h := List.mem_filter.mp hc
  have hns := splitOn_no_sep SLASH s c h.1
  have h2 := h.2
  simp only [Bool.and_eq_true, Bool.not_eq_true', bne_iff_ne, ne_eq] at h2
  refine ⟨?_, h2.2, hns⟩
  intro e; subst e; simp at h2

theorem cleanStep_good (r : Bool) (stack : List Bytes) (c : Bytes) (hs : ∀ x ∈ stack, Good x)
    (hc : Good c) : ∀ x ∈ cleanStep r stack c, Good x := by
  unfold cleanStep
  by_cases h : c = dotdot
  · simp only [h, if_true]
    cases stack with
    | nil => cases r <;> simp [good_dotdot]
    | cons top rest =>
      simp only []
      by_cases ht : top = dotdot
      · simp only [ht, if_true]
        intro x hx
        rcases List.mem_cons.mp hx with e | e
        · exact e ▸ good_dotdot
        · exact hs x (by rw [ht]; exact e)
      · simp only [ht, if_false]
        intro x hx; exact hs x (by simp [hx])
  · simp only [h, if_false]
    intro x hx
    rcases List.mem_cons.mp hx with e | e
    · exact e ▸ hc
    · exact hs x e

theorem foldl_good (r : Bool) (l : List Bytes) : ∀ (stack : List Bytes), (∀ x ∈ stack, Good x) →
    (∀ c ∈ l, Good c) → ∀ x ∈ l.foldl (cleanStep r) stack, Good x := by
  induction l with
  | nil => intro stack hs _; exact hs
  | cons c cs ih =>
    intro stack hs hl
    simp only [List.foldl_cons]
    exact ih _ (cleanStep_good r stack c hs (hl c (by simp))) (fun x hx => hl x (by simp [hx]))

/-- shape of the component stack (top first) -/
def Inv (r : Bool) (stack : List Bytes) : Prop :=
  if r then dotdot ∉ stack
  else ∃ (ns : List Bytes) (n : Nat), stack = ns ++ List.replicate n dotdot ∧ dotdot ∉ ns

theorem cleanStep_inv (r : Bool) (stack : List Bytes) (c : Bytes) (h : Inv r stack) :
    Inv r (cleanStep r stack c) := by
  unfold cleanStep
  cases r with
  | true =>
    simp only [Inv, if_true] at h ⊢
    by_cases hc : c = dotdot
    · simp only [hc, if_true]
      cases stack with
      | nil => simp
      | cons top rest =>
        have ht : top ≠ dotdot := fun e => h (by simp [e])
        simp only [ht, if_false]
        intro hm; exact h (by simp [hm])
    · simp only [hc, if_false]
      intro hm
      rcases List.mem_cons.mp hm with e | e
      · exact hc e.symm
      · exact h e
  | false =>
    simp only [Inv, Bool.false_eq_true, if_false] at h ⊢
    obtain ⟨ns, n, hst, hns⟩ := h
    by_cases hc : c = dotdot
    · simp only [hc, if_true]
      cases ns with
      | nil =>
        simp only [List.nil_append] at hst
        subst hst
        refine ⟨[], n + 1, ?_, by simp⟩
        cases n with
        | zero => simp [List.replicate]
        | succ m => simp [List.replicate]
      | cons top ns' =>
        subst hst
        have ht : top ≠ dotdot := fun e => hns (by simp [e])
        simp only [List.cons_append, ht, if_false]
        exact ⟨ns', n, rfl, fun hm => hns (by simp [hm])⟩
    · simp only [hc, if_false]
      refine ⟨c :: ns, n, by simp [hst], ?_⟩
      intro hm
      rcases List.mem_cons.mp hm with e | e
      · exact hc e.symm
      · exact hns e

theorem foldl_inv (r : Bool) (l : List Bytes) : ∀ stack, Inv r stack → Inv r (l.foldl (cleanStep r) stack) := by
  induction l with
  | nil => intro s h; exact h
  | cons c cs ih => intro s h; exact ih _ (cleanStep_inv r s c h)

theorem inv_nil (r : Bool) : Inv r [] := by
  cases r
  · simp only [Inv, Bool.false_eq_true, if_false]; exact ⟨[], 0, rfl, by simp⟩
  · simp [Inv]

/-- pushing components none of which is `..` -/
theorem foldl_push (r : Bool) (l : List Bytes) (hl : dotdot ∉ l) :
    ∀ acc, l.foldl (cleanStep r) acc = l.reverse ++ acc := by
  induction l with
  | nil => intro acc; rfl
  | cons c cs ih =>
    intro acc
    have hc : c ≠ dotdot := fun e => hl (by simp [e])
    have hcs : dotdot ∉ cs := fun e => hl (by simp [e])
    simp only [List.foldl_cons, cleanStep, hc, if_false]
    rw [ih hcs]
    simp

theorem foldl_dotdots (n : Nat) : ∀ m, (List.replicate n dotdot).foldl (cleanStep false) (List.replicate m dotdot)
    = List.replicate (n + m) dotdot := by
  induction n with
  | zero => intro m; simp
  | succ k ih =>
    intro m
    simp only [List.replicate_succ, List.foldl_cons]
    have : cleanStep false (List.replicate m dotdot) dotdot = List.replicate (m + 1) dotdot := by
      cases m with
      | zero => simp [cleanStep]
      | succ j => simp [cleanStep, List.replicate_succ]
    rw [this, ih (m + 1)]
    congr 1; omega

/-- re-cleaning the components of a cleaned path gives the same stack -/
theorem refold (r : Bool) (stack : List Bytes) (h : Inv r stack) :
    stack.reverse.foldl (cleanStep r) [] = stack := by
  cases r with
  | true =>
    simp only [Inv, if_true] at h
    rw [foldl_push true _ (by simpa using h)]
    simp
  | false =>
    simp only [Inv, Bool.false_eq_true, if_false] at h
    obtain ⟨ns, n, rfl, hns⟩ := h
    simp only [List.reverse_append, List.reverse_replicate, List.foldl_append]
    have := foldl_dotdots n 0
    simp only [List.replicate_zero, Nat.add_zero] at this
    rw [this, foldl_push false _ (by simpa using hns)]
    simp


theorem pathComps_join (cs : List Bytes) (hne : cs ≠ []) (hg : ∀ c ∈ cs, Good c) :
    pathComps (joinWith SLASH cs) = cs := by
  unfold pathComps
  rw [splitOn_joinWith SLASH cs hne (fun p hp => (hg p hp).2.2)]
  apply List.filter_eq_self.mpr
  intro c hc
  obtain ⟨h1, h2, _⟩ := hg c hc
  cases c with
  | nil => exact absurd rfl h1
  | cons x xs => simp [h2]

theorem pathComps_rooted (cs : List Bytes) (hne : cs ≠ []) (hg : ∀ c ∈ cs, Good c) :
    pathComps (SLASH :: joinWith SLASH cs) = cs := by
  have h := pathComps_join cs hne hg
  unfold pathComps at h ⊢
  have : splitOn SLASH (SLASH :: joinWith SLASH cs) = [] :: splitOn SLASH (joinWith SLASH cs) := by
    simp [splitOn]
  rw [this]
  simpa [List.filter] using h

theorem joinWith_cons_head (sep c : Nat) (h : Bytes) (t : List Bytes) :
    joinWith sep ((c :: h) :: t) = c :: joinWith sep (h :: t) := by
  cases t <;> rfl

theorem joinWith_splitOn (sep : Nat) (s : Bytes) : joinWith sep (splitOn sep s) = s := by
  induction s with
  | nil => simp [splitOn, joinWith]
  | cons c cs ih =>
    unfold splitOn
    split
    · rename_i hc
      cases hs : splitOn sep cs with
      | nil => exact absurd hs (splitOn_ne_nil sep cs)
      | cons y rest => rw [hs] at ih; simp [joinWith, ih, hc]
    · split
      · rename_i hs; exact absurd hs (splitOn_ne_nil sep cs)
      · rename_i h t hs
        rw [hs] at ih
        rw [joinWith_cons_head, ih]

def assemble (r : Bool) (stack : List Bytes) : Bytes :=
  let body := joinWith SLASH stack.reverse
  let out := if r then SLASH :: body else body
  if out.isEmpty then [DOT] else out

theorem pathClean_eq_assemble (s : Bytes) :
    pathClean s = assemble (isAbs s) ((pathComps s).foldl (cleanStep (isAbs s)) []) := rfl

theorem assemble_spec (r : Bool) (stack : List Bytes) (hinv : Inv r stack)
    (hg : ∀ c ∈ stack, Good c) :
    isAbs (assemble r stack) = r ∧
      (pathComps (assemble r stack)).foldl (cleanStep r) [] = stack := by
  cases hcs : stack.reverse with
  | nil =>
    have hst : stack = [] := by simpa using hcs
    subst hst
    cases r <;> exact ⟨by decide, by decide⟩
  | cons c rest =>
    have hg' : ∀ x ∈ c :: rest, Good x := by
      intro x hx; rw [← hcs] at hx; exact hg x (by simpa using hx)
    have hre := refold r stack hinv
    rw [hcs] at hre
    obtain ⟨hc1, _, hc3⟩ := hg' c (by simp)
    cases c with
    | nil => exact absurd rfl hc1
    | cons x xs =>
      have ht := joinWith_cons_head SLASH x xs rest
      have hx : x ≠ 47 := fun e => hc3 (by simp [e, SLASH])
      cases r with
      | true =>
        have ha : assemble true stack = SLASH :: joinWith SLASH ((x :: xs) :: rest) := by
          simp [assemble, hcs]
        rw [ha, pathComps_rooted _ (by simp) hg']
        exact ⟨rfl, hre⟩
      | false =>
        have ha : assemble false stack = joinWith SLASH ((x :: xs) :: rest) := by
          simp [assemble, hcs, ht]
        rw [ha, pathComps_join _ (by simp) hg']
        refine ⟨?_, hre⟩
        rw [ht, isAbs_cons]
        simp [hx]

/-- `path.Clean` is idempotent -/
theorem pathClean_idem (s : Bytes) : pathClean (pathClean s) = pathClean s := by
  have hinv := foldl_inv (isAbs s) (pathComps s) [] (inv_nil _)
  have hg := foldl_good (isAbs s) (pathComps s) [] (by simp) (pathComps_good s)
  obtain ⟨h1, h2⟩ := assemble_spec _ _ hinv hg
  rw [pathClean_eq_assemble s] at *
  generalize List.foldl (cleanStep (isAbs s)) [] (pathComps s) = stack at *
  rw [pathClean_eq_assemble (assemble (isAbs s) stack), h1, h2]

theorem cleanStep_mem (r : Bool) (stack : List Bytes) (c : Bytes) :
    ∀ x ∈ cleanStep r stack c, x ∈ stack ∨ x = c := by
  intro x hx
  unfold cleanStep at hx
  split at hx
  · rename_i hc
    split at hx
    · split at hx
      · simp at hx
      · simp at hx; right; rw [hx, hc]
    · split at hx
      · rcases List.mem_cons.mp hx with e | e
        · right; rw [e, hc]
        · left; exact e
      · left; simp [hx]
  · rcases List.mem_cons.mp hx with e | e
    · right; exact e
    · left; exact e

theorem foldl_cleanStep_mem (r : Bool) (l : List Bytes) : ∀ (stack : List Bytes),
    ∀ x ∈ l.foldl (cleanStep r) stack, x ∈ stack ∨ x ∈ l := by
  induction l with
  | nil => intro stack x hx; left; exact hx
  | cons c cs ih =>
    intro stack x hx
    simp only [List.foldl_cons] at hx
    rcases ih _ x hx with e | e
    · rcases cleanStep_mem r stack c x e with e | e
      · left; exact e
      · right; simp [e]
    · right; simp [e]

theorem pathJoin_cons {a : Bytes} (ha : a ≠ []) (rest : List Bytes) :
    pathJoin (a :: rest) = pathClean (joinWith SLASH (a :: rest)) := by
  cases a with
  | nil => exact absurd rfl ha
  | cons x xs => rfl

theorem pathJoin_ne_nil {a : Bytes} (ha : a ≠ []) (rest : List Bytes) : pathJoin (a :: rest) ≠ [] := by
  rw [pathJoin_cons ha]
  exact pathClean_ne_nil _

theorem pathJoin_clean {a : Bytes} (ha : a ≠ []) (rest : List Bytes) :
    pathClean (pathJoin (a :: rest)) = pathJoin (a :: rest) := by
  rw [pathJoin_cons ha]
  exact pathClean_idem _

theorem pathBase_ne_nil (s : Bytes) : pathBase s ≠ [] := by
  unfold pathBase
  split
  · simp
  · simp only []
    split
    · simp
    · rename_i h; intro e; rw [e] at h; simp at h

end Lc.Lemmas.Path
