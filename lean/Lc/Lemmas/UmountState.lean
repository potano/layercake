/-
  The END STATE of `unmountLayer` / `unmountCmd` in the kernel model (helper lemmas for
  Props/C03): in a world without pretend switch and without injected fault or crash the
  unmount loop is the pure sequence `KernelUmount.kumountSeq` on the kernel table, the rest
  of `unmountLayer` (re-probing) does not touch the world; `umount <name>` is the name test
  followed by `unmountLayer`.  Last section: "no mount is hidden below another" is kept by
  `fs.Unmount`, hence by `unmountLayer`, and by a mount(2) on a target with nothing mounted
  below it (`sysMount_noHidden`).
-/
import Lc.Lemmas.UmountTrace
import Lc.Lemmas.KernelUmount

namespace Lc.UmountState
open Std.Do Lc Lc.Layers Lc.Hoare Lc.Mountinfo Lc.Trace Lc.UmountTrace Lc.Kernel Lc.KernelUmount

/-- no pretend switch, no injected fault, no injected crash -/
def Plain (w : World) : Prop := w.pretend = false ∧ w.faultAt = none ∧ w.crashAt = none

/-- one `fs.Unmount` in a plain world: the kernel's answer decides; file system untouched -/
theorem fsUnmount_run (tgt : Bytes) (w : World) (hw : Plain w) :
    match (fsUnmount tgt).run.run w with
    | (.ok _, w') => Plain w' ∧ w'.fs = w.fs ∧ kumount w.kt tgt = .ok w'.kt
    | (.error e, w') => Plain w' ∧ w'.fs = w.fs ∧ w'.kt = w.kt ∧
        ∃ ke, kumount w.kt tgt = .error ke ∧ e = .err ("sys:" ++ ke.str) := by
  rw [RunM.run_fsUnmount, RunM.gate_passes w hw.1 (by rw [hw.2.2]; exact nofun) (by rw [hw.2.1]; exact nofun)]
  dsimp only
  cases hk : kumount w.tick.kt tgt
  · exact ⟨hw, rfl, rfl, _, hk, rfl⟩
  · exact ⟨hw, rfl, hk⟩

/-- what the unmount loop did, in terms of the pure sequence on the kernel table -/
structure LoopResult (ms : List MountType) (w : World) (r : Except Fault PUnit × World) : Prop where
  plain : Plain r.2
  fs : r.2.fs = w.fs
  kt : r.2.kt = (kumountSeq w.kt (ms.map (·.mountpoint))).2.1
  ok : (kumountSeq w.kt (ms.map (·.mountpoint))).2.2 = none → r.1 = .ok PUnit.unit
  err : ∀ e, (kumountSeq w.kt (ms.map (·.mountpoint))).2.2 = some e → r.1 = .error (.err ("sys:" ++ e.str))

/-- **the unmount loop in a plain world is `kumountSeq`** -/
theorem unmountMounts_run (ms : List MountType) : ∀ (w : World), Plain w →
    LoopResult ms w ((unmountMounts ms).run.run w) := by
  induction ms with
  | nil =>
    intro w hw
    exact ⟨hw, rfl, rfl, fun _ => rfl, fun e h => by simp [kumountSeq] at h⟩
  | cons m ms ih =>
    intro w hw
    rw [unmountMounts_cons, RunM.run_bind]
    have h1 := fsUnmount_run m.mountpoint w hw
    generalize (fsUnmount m.mountpoint).run.run w = r1 at h1
    obtain ⟨x, w1⟩ := r1
    cases x with
    | error e =>
      obtain ⟨hp, hfs, hkt, ke, hke, he⟩ := h1
      have hseq : kumountSeq w.kt ((m :: ms).map (·.mountpoint)) = ([], w.kt, some ke) := by
        simp [kumountSeq, hke]
      refine ⟨hp, hfs, ?_, ?_, ?_⟩
      · rw [hseq]
        exact hkt
      · rw [hseq]
        intro h
        cases h
      · rw [hseq]
        intro e' h'
        cases h'
        rw [he]
    | ok u =>
      obtain ⟨hp, hfs, hkt⟩ := h1
      have hseq : kumountSeq w.kt ((m :: ms).map (·.mountpoint)) =
          (m.mountpoint :: (kumountSeq w1.kt (ms.map (·.mountpoint))).1,
           (kumountSeq w1.kt (ms.map (·.mountpoint))).2.1,
           (kumountSeq w1.kt (ms.map (·.mountpoint))).2.2) := by
        simp [kumountSeq, hkt]
      have h2 := ih w1 hp
      refine ⟨h2.plain, h2.fs.trans hfs, ?_, ?_, ?_⟩
      · rw [hseq]
        exact h2.kt
      · rw [hseq]
        exact h2.ok
      · rw [hseq]
        exact h2.err

/-- **end state of `unmountLayer`, plain world, idle layer with mounts**: the kernel table is
    what `kumountSeq` over the issue order leaves, the file system is untouched; the status is
    `ok` on a normal return; a failing unmount call is reported as that error -/
theorem unmountLayer_plain (cfg : Config) (d : Defs) (name : Bytes) (w : World) (l : Layer)
    (hl : findLayer d name = some l) (hw : Plain w) (hb : isBusy l false = false)
    (hm : l.mounts.length ≠ 0) :
    ((unmountLayer cfg d name).run.run w).2.kt = (kumountSeq w.kt (issueOrder l)).2.1 ∧
    ((unmountLayer cfg d name).run.run w).2.fs = w.fs ∧ Plain ((unmountLayer cfg d name).run.run w).2 ∧
    (∀ st d', ((unmountLayer cfg d name).run.run w).1 = .ok (st, d') →
      st = .ok ∧ (kumountSeq w.kt (issueOrder l)).2.2 = none) ∧
    (∀ e, (kumountSeq w.kt (issueOrder l)).2.2 = some e →
      ((unmountLayer cfg d name).run.run w).1 = .error (.err ("sys:" ++ e.str))) := by
  rcases unmountLayer_run_cases cfg d name w l hl with ⟨hb2, _⟩ | ⟨_, hm2, _⟩ | ⟨_, _, hrun⟩
  · rw [hb] at hb2
    cases hb2
  · exact absurd hm2 hm
  · have hloop := unmountMounts_run l.mounts.reverse w hw
    obtain ⟨hp, hfs, hkt, hok, herr⟩ := hloop
    change _ = (kumountSeq w.kt (issueOrder l)).2.1 at hkt
    change (kumountSeq w.kt (issueOrder l)).2.2 = none → _ at hok
    change ∀ e, (kumountSeq w.kt (issueOrder l)).2.2 = some e → _ at herr
    obtain ⟨hrunOk, hrunErr⟩ := hrun
    generalize hr1 : (unmountMounts l.mounts.reverse).run.run w = r1 at hp hfs hkt hok herr hrunOk hrunErr
    obtain ⟨x, w1⟩ := r1
    simp only at hp hfs hkt hok herr
    cases x with
    | ok u =>
      have hnone : (kumountSeq w.kt (issueOrder l)).2.2 = none := by
        cases hk : (kumountSeq w.kt (issueOrder l)).2.2 with
        | none => rfl
        | some e => cases herr e hk
      obtain ⟨hw1, hst⟩ := unmountTail_run cfg d name w1
      rw [hrunOk u w1 rfl, hw1]
      exact ⟨hkt, hfs, hp, fun st d' hr => ⟨hst _ hr, hnone⟩, fun e he => by cases herr e he⟩
    | error e =>
      rw [hrunErr e w1 rfl]
      refine ⟨hkt, hfs, hp, ?_, ?_⟩
      · intro st d' hr
        cases hr
      · intro e' he'
        have h := herr e' he'
        injection h with h
        rw [h]

/-! ### `unmountCmd` for one layer -/

theorem unmountCmd_one_eq (cfg : Config) (d : Defs) (c : Nat) (cs : Bytes) :
    unmountCmd cfg d (c :: cs) false = (do
      testName d [(c :: cs, NAME_NEED)]
      let r ← unmountLayer cfg d (c :: cs)
      match r.1 with
      | .ok => pure r.2
      | .busy => fail "busy"
      | .notMounted => fail "notmounted") := by
  unfold unmountCmd
  simp
  rfl

/-- `umount <name>` (a name given, no `-all`): either nothing happened at all (the name test
    failed), or the world is the one `unmountLayer` left, a normal return is a normal return of
    `unmountLayer` with status `ok`, and an error of `unmountLayer` is the command's error -/
theorem unmountCmd_one (cfg : Config) (d : Defs) (name : Bytes) (w : World) (hn : name ≠ []) :
    (((unmountCmd cfg d name false).run.run w).2 = w ∧
      ∃ e, ((unmountCmd cfg d name false).run.run w).1 = .error e) ∨
    (((unmountCmd cfg d name false).run.run w).2 = ((unmountLayer cfg d name).run.run w).2 ∧
      (∀ d', ((unmountCmd cfg d name false).run.run w).1 = .ok d' →
        ((unmountLayer cfg d name).run.run w).1 = .ok (.ok, d')) ∧
      (∀ e, ((unmountLayer cfg d name).run.run w).1 = .error e →
        ((unmountCmd cfg d name false).run.run w).1 = .error e) ∧
      (∀ st d', ((unmountLayer cfg d name).run.run w).1 = .ok (st, d') → st ≠ .ok →
        ∃ e, ((unmountCmd cfg d name false).run.run w).1 = .error e)) := by
  cases name with
  | nil => exact absurd rfl hn
  | cons c cs =>
    rw [unmountCmd_one_eq]
    cases ht : [(c :: cs, NAME_NEED)].all fun t => testName1 d t.1 t.2
    · left
      rw [RunM.testName_refuses d _ _ w ht]
      exact ⟨rfl, _, rfl⟩
    · right
      have hp : (testName d [(c :: cs, NAME_NEED)]).run.run w = (.ok (), w) := by
        unfold testName
        rw [if_pos ht]
        rfl
      rw [RunM.bind_ok _ _ _ _ _ hp, RunM.run_bind]
      generalize (unmountLayer cfg d (c :: cs)).run.run w = r
      obtain ⟨x, w'⟩ := r
      cases x with
      | error e =>
        refine ⟨rfl, fun d' h => (by cases h), fun e' h => ?_, fun st d' h => (by cases h)⟩
        cases h
        rfl
      | ok a =>
        obtain ⟨st, d1⟩ := a
        cases st with
        | ok =>
          refine ⟨rfl, fun d' h => ?_, fun e' h => (by cases h), fun st d' h hne => ?_⟩
          · cases h
            rfl
          · cases h
            exact absurd rfl hne
        | busy =>
          exact ⟨rfl, fun d' h => (by cases h), fun e' h => (by cases h), fun st d' h hne => ⟨_, rfl⟩⟩
        | notMounted =>
          exact ⟨rfl, fun d' h => (by cases h), fun e' h => (by cases h), fun st d' h hne => ⟨_, rfl⟩⟩

/-! ### no mount hidden: kept by everything `umount` does, and by a mount on a free target -/

theorem fsUnmount_noHidden (tgt : Bytes) :
    Holds (fun w => KernelResolve.NoHidden w.kt.mnts) (fsUnmount tgt) :=
  fsUnmount_inv tgt (gate_inv (fun _ h => h) (fun _ h => h)) (fun _ h => h) (fun _ h => h)
    (fun _ _ h hk => kumount_noHidden h hk)

/-- **`umount` never hides a mount**: on every exit of `unmountLayer` (normal, refused call,
    injected fault) a kernel table without hidden mounts is still one -/
theorem unmountLayer_noHidden (cfg : Config) (d : Defs) (name : Bytes) :
    Holds (fun w => KernelResolve.NoHidden w.kt.mnts) (unmountLayer cfg d name) :=
  unmountLayer_inv (fun _ h => h) fsUnmount_noHidden cfg d name

/-- **a mount(2) issued on a target below which nothing is mounted hides nothing** (and a
    remount / propagation change never does): `sysMount` keeps "well-formed table without hidden
    mounts" on both exits.  Layercake's own calls have such targets when the configured imports
    name a mountpoint before the mountpoints below it and nothing foreign was mounted below
    the build root in between (C01 `mountOne_targets_unmounted`: it never targets a mountpoint
    its cached table shows). -/
theorem sysMount_noHidden (src tgt fstype : Bytes) (flags : Nat) (data : Bytes) :
    ⦃fun w => ⌜KTWF w.kt ∧ KernelResolve.NoHidden w.kt.mnts ∧
        ((hasFlag flags MS_REMOUNT || (flags / 131072) % 16 != 0) = true ∨
          (NoneBelow w.kt.mnts tgt ∧ CleanMps w.kt.mnts ∧ src ≠ []))⌝⦄
    sysMount src tgt fstype flags data
    ⦃post⟨fun _ w => ⌜KTWF w.kt ∧ KernelResolve.NoHidden w.kt.mnts⌝,
          fun _ w => ⌜KTWF w.kt ∧ KernelResolve.NoHidden w.kt.mnts⌝⟩⦄ :=
  sysMount_inv src tgt fstype flags data (fun _ h => ⟨h.1, h.2.1⟩) fun w kt' ⟨h1, h2, h3⟩ hk => by
    show KTWF kt' ∧ KernelResolve.NoHidden kt'.mnts
    rcases h3 with h3 | ⟨h3, h4, h5⟩
    · rw [kmount_nonstructural_eq h3 hk]
      exact ⟨h1, h2⟩
    · exact ⟨kmount_KTWF _ _ _ _ _ _ _ h1 hk, kmount_noHidden_all _ _ _ _ _ _ _ h1 h2 h3 h4 h5 hk⟩

end Lc.UmountState
