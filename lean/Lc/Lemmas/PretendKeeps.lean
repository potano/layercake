/-
  Started with `pretend = true`, each operation through which a command could change the world
  returns at once with the world as it was, so every invariant that only pretending worlds
  satisfy is kept by every function of the command model (`prims_of_pretend`, an instance of
  the walk of Lemmas/Hoare.lean).  `PInv`: file system, kernel table, trace and fault-point
  counter as in a reference world.  Helper lemmas for Props/C15.
-/
import Lc.Lemmas.Trace

namespace Lc.Pretend
open Std.Do Lc Lc.Layers Lc.Hoare

def PInv (w0 w : World) : Prop :=
  w.fs = w0.fs ∧ w.kt = w0.kt ∧ w.trace = w0.trace ∧ w.nops = w0.nops ∧ w.pretend = true

abbrev Keeps {α} (w0 : World) (m : M α) : Prop := Holds (PInv w0) m

theorem forM_keeps {α} (w0) (xs : List α) (body : α → M Unit) (h : ∀ x, Keeps w0 (body x)) :
    Keeps w0 (xs.forM body) := forM_holds _ xs body h
theorem foldlM_keeps {α β} (w0) (xs : List α) (body : β → α → M β) (init : β)
    (h : ∀ b x, Keeps w0 (body b x)) : Keeps w0 (xs.foldlM body init) := foldlM_holds _ xs body init h

theorem fsStep_skips (op : Op) (f) (w : World) (hp : w.pretend = true) : (fsStep op f).run.run w = (.ok (), w) := by
  rw [RunM.run_fsStep, RunM.gate_skips w hp]

theorem fsUnmount_skips (t : Bytes) (w : World) (hp : w.pretend = true) : (fsUnmount t).run.run w = (.ok (), w) := by
  rw [RunM.run_fsUnmount, RunM.gate_skips w hp]

theorem fsMount_skips (s t f o : Bytes) (w : World) (hp : w.pretend = true) :
    (fsMount s t f o).run.run w = (.ok (), w) := by
  rw [Trace.fsMount_eq, RunM.bind_ok _ _ _ _ _ (RunM.gate_skips w hp)]
  rfl

/-- the cursor is not gated: `writeLayerFile` asks the switch itself before it opens one -/
theorem writeLayerFile_skips (l : Layer) (w : World) (hp : w.pretend = true) :
    (writeLayerFile l).run.run w = (.ok (), w) := by
  unfold writeLayerFile
  rw [RunM.bind_ok _ _ _ _ _ (RunM.run_getW w), if_pos hp]
  rfl

theorem holds_of_skips {α} {m : M α} {a : α} (h : ∀ w, w.pretend = true → m.run.run w = (.ok a, w))
    {I : World → Prop} (hI : ∀ w, I w → w.pretend = true) : Holds I m :=
  triple_of_run _ _ _ _ fun w hw => by
    rw [h w (hI w hw)]
    exact hw

theorem prims_of_pretend {I : World → Prop} (hI : ∀ w, I w → w.pretend = true) : Prims I I where
  weaken _ h := h
  fsStep op f := holds_of_skips (fsStep_skips op f) hI
  fsMount s t f o := holds_of_skips (fsMount_skips s t f o) hI
  fsUnmount t := holds_of_skips (fsUnmount_skips t) hI
  writeLayerFile l := holds_of_skips (writeLayerFile_skips l) hI

theorem prims (w0 : World) : Prims (PInv w0) (PInv w0) := prims_of_pretend fun _ h => h.2.2.2.2

theorem fIsFile_keeps (w0 p) : Keeps w0 (fIsFile p) := fIsFile_inv _ _ p

theorem renameLayer_keeps (w0 cfg d o n co) : Keeps w0 (renameLayer cfg d o n co) :=
  renameLayer_inv (prims w0).weaken (fun _ => (prims w0).fsStep _ _) (fun _ _ => (prims w0).fsStep _ _)
    (prims w0).writeLayerFile cfg d o n co

theorem runCmd_keeps (w0 cfg inuse c) : Keeps w0 (runCmd cfg inuse c) := (prims w0).runCmd cfg inuse c

end Lc.Pretend
