/-
  Helper lemmas for C17 (mod= masks): bit algebra of and/or masks, the model's symbolic
  loop on clauses of the supported forms; the name `parseLine` stores (`parseLineFields_name`:
  options never touch it, the name check stores the cleaned second field or nothing).
-/
import Lc.Model.StageLine
import Lc.Spec.Chmod
import Lc.Lemmas.Ite

namespace Lc.Lemmas.StageLine
open Lc Lc.StageLine Lc.Spec

theorem digitsVal_octVal (s : Bytes) (acc : Nat) : digitsVal 8 s acc = Chmod.octVal s acc := by
  induction s generalizing acc with
  | nil => rfl
  | cons c cs ih => simp [digitsVal, Chmod.octVal, ih]

theorem isOct_eq : isOctDigit = Chmod.isOct := rfl

def isRwxst (c : Nat) : Bool := c == 114 || c == 119 || c == 120 || c == 115 || c == 116

/-- a clause of the form the parser supports: at most one who letter, one of + -, letters from rwxst -/
structure SClause where
  who : Option Nat
  minus : Bool
  perms : Bytes

def SClause.wf (c : SClause) : Bool :=
  (match c.who with | none => true | some w => Chmod.isWho w) && c.perms.all isRwxst
def SClause.whoL (c : SClause) : Bytes := match c.who with | none => [] | some w => [w]
def SClause.render (c : SClause) : Bytes := c.whoL ++ (if c.minus then 45 else 43) :: c.perms
def SClause.ast (c : SClause) : Chmod.Clause :=
  ⟨c.whoL, [⟨if c.minus then .remove else .add, c.perms⟩]⟩

def bitsOf (c : Nat) : Nat := (settingMask? c).getD 0
def vfold (ps : Bytes) (acc : Nat) : Nat := ps.foldl (fun acc c => acc ||| bitsOf c) acc

theorem vfold_acc (ps : Bytes) (acc : Nat) : vfold ps acc = acc ||| vfold ps 0 := by
  induction ps generalizing acc with
  | nil => simp [vfold]
  | cons c cs ih =>
    simp only [vfold, List.foldl_cons] at ih ⊢
    rw [ih (acc ||| bitsOf c), ih (0 ||| bitsOf c)]
    simp [Nat.or_assoc]

theorem vfold_cons (c : Nat) (ps : Bytes) : vfold (c :: ps) 0 = bitsOf c ||| vfold ps 0 := by
  show vfold ps (0 ||| bitsOf c) = _
  rw [vfold_acc, Nat.zero_or]

/-- bit lemma for two successive removals -/
theorem clear_twice (x b F g : Nat) (hg : g < 4096) :
    x &&& (4095 ^^^ (b &&& g)) &&& (4095 ^^^ (F &&& g)) = x &&& (4095 ^^^ ((b ||| F) &&& g)) := by
  apply Nat.eq_of_testBit_eq
  intro i
  have hP : Nat.testBit 4095 i = decide (i < 12) := Nat.testBit_two_pow_sub_one 12 i
  simp only [Nat.testBit_and, Nat.testBit_xor, Nat.testBit_or, hP]
  by_cases hi : i < 12
  · simp only [hi, decide_true]
    cases x.testBit i <;> cases b.testBit i <;> cases F.testBit i <;> cases g.testBit i <;> rfl
  · have hgi : g.testBit i = false :=
      Nat.testBit_lt_two_pow (Nat.lt_of_lt_of_le hg (Nat.pow_le_pow_right (by omega) (by omega) : 2 ^ 12 ≤ 2 ^ i))
    simp only [hi, decide_false, hgi, Bool.and_false]
    cases x.testBit i <;> rfl

theorem and_4095 (a : Nat) (h : a < 4096) : a &&& 4095 = a :=
  (Nat.and_two_pow_sub_one_eq_mod a 12).trans (Nat.mod_eq_of_lt h)

/-! The model's loop, one byte at a time: what `modStep` answers on each kind of byte of a
    rendered clause, in the states in which the byte can come. -/

theorem modLoop_step {st st' : MS} {c : Nat} (h : modStep st c = some st') (cs : Bytes) :
    modLoop (c :: cs) st = modLoop cs st' := by
  rw [modLoop, h]

theorem rwxst_cases (c : Nat) (h : isRwxst c = true) : c = 114 ∨ c = 119 ∨ c = 120 ∨ c = 115 ∨ c = 116 := by
  simpa only [isRwxst, Bool.or_eq_true, beq_iff_eq, or_assoc] using h

theorem rwxst_tests (c : Nat) (h : isRwxst c = true) :
    groupMask? c = none ∧ (c == 43 || c == 45) = false ∧ settingMask? c = some (bitsOf c) := by
  rcases rwxst_cases c h with rfl | rfl | rfl | rfl | rfl <;> exact ⟨rfl, rfl, rfl⟩

theorem add_step (c : Nat) (h : isRwxst c = true) (a o g sm : Nat) (hg : g ≠ 0) :
    modStep ⟨a, o, g, sm, 1⟩ c = some ⟨a, o ||| (bitsOf c &&& g), g, bitsOf c &&& g, 1⟩ := by
  obtain ⟨h1, h2, h3⟩ := rwxst_tests c h
  simp [modStep, h1, h2, h3, hg]

theorem remove_step (c : Nat) (h : isRwxst c = true) (a o g sm : Nat) (hg : g ≠ 0) :
    modStep ⟨a, o, g, sm, 2⟩ c = some ⟨a &&& (4095 ^^^ (bitsOf c &&& g)),
      o &&& (4095 ^^^ (bitsOf c &&& g)), g, bitsOf c &&& g, 2⟩ := by
  obtain ⟨h1, h2, h3⟩ := rwxst_tests c h
  simp [modStep, h1, h2, h3, hg, permBits]

theorem op_step (minus : Bool) (a o g : Nat) :
    modStep ⟨a, o, g, 0, 0⟩ (if minus then 45 else 43) =
      some ⟨a, o, if g == 0 then permBits else g, 0, if minus then 2 else 1⟩ := by
  cases minus <;> rfl

theorem who_step (w : Nat) (h : Chmod.isWho w = true) (a o : Nat) :
    modStep ⟨a, o, 0, 0, 0⟩ w = some ⟨a, o, Chmod.whoMask [w], 0, 0⟩ ∧
      Chmod.whoMask [w] ≠ 0 ∧ Chmod.whoMask [w] < 4096 := by
  have hw : w = 117 ∨ w = 103 ∨ w = 111 ∨ w = 97 := by
    simpa only [Chmod.isWho, Bool.or_eq_true, beq_iff_eq, or_assoc] using h
  rcases hw with rfl | rfl | rfl | rfl <;> exact ⟨rfl, by decide, by decide⟩

/-- `+` letters: the or-mask collects the letters' bits within the group -/
theorem perms_add (g : Nat) (hg : g ≠ 0) (ps rest : Bytes) (hps : ps.all isRwxst = true) (a o sm : Nat) :
    ∃ sm', modLoop (ps ++ rest) ⟨a, o, g, sm, 1⟩ =
      modLoop rest ⟨a, o ||| (vfold ps 0 &&& g), g, sm', 1⟩ := by
  induction ps generalizing o sm with
  | nil => exact ⟨sm, by simp [vfold]⟩
  | cons c cs ih =>
    rw [List.all_cons, Bool.and_eq_true] at hps
    obtain ⟨sm', h⟩ := ih hps.2 (o ||| (bitsOf c &&& g)) (bitsOf c &&& g)
    refine ⟨sm', ?_⟩
    rw [List.cons_append, modLoop_step (add_step c hps.1 a o g sm hg), h, vfold_cons,
      Nat.and_or_distrib_right, Nat.or_assoc]

/-- `-` letters: both masks lose the letters' bits within the group -/
theorem perms_remove (g : Nat) (hg : g ≠ 0) (hg' : g < 4096) (ps rest : Bytes)
    (hps : ps.all isRwxst = true) (a o sm : Nat) (ha : a < 4096) (ho : o < 4096) :
    ∃ sm', modLoop (ps ++ rest) ⟨a, o, g, sm, 2⟩ =
      modLoop rest ⟨a &&& (4095 ^^^ (vfold ps 0 &&& g)), o &&& (4095 ^^^ (vfold ps 0 &&& g)), g, sm', 2⟩ := by
  induction ps generalizing a o sm with
  | nil => exact ⟨sm, by simp [vfold, and_4095 a ha, and_4095 o ho]⟩
  | cons c cs ih =>
    rw [List.all_cons, Bool.and_eq_true] at hps
    obtain ⟨sm', h⟩ := ih hps.2 _ _ (bitsOf c &&& g)
      (Nat.lt_of_le_of_lt Nat.and_le_left ha) (Nat.lt_of_le_of_lt Nat.and_le_left ho)
    refine ⟨sm', ?_⟩
    rw [List.cons_append, modLoop_step (remove_step c hps.1 a o g sm hg), h, vfold_cons,
      clear_twice a _ _ g hg', clear_twice o _ _ g hg']

theorem clause_head (c : SClause) (h : c.wf = true) (rest : Bytes) (a o : Nat) :
    Chmod.whoMask c.whoL ≠ 0 ∧ Chmod.whoMask c.whoL < 4096 ∧
    modLoop (c.render ++ rest) ⟨a, o, 0, 0, 0⟩ =
      modLoop (c.perms ++ rest) ⟨a, o, Chmod.whoMask c.whoL, 0, if c.minus then 2 else 1⟩ := by
  obtain ⟨who, minus, perms⟩ := c
  cases who with
  | none =>
    exact ⟨(by decide : Chmod.whoMask [] ≠ 0), (by decide : Chmod.whoMask [] < 4096),
      modLoop_step (op_step minus a o 0) _⟩
  | some w =>
    simp only [SClause.wf, Bool.and_eq_true] at h
    obtain ⟨hw, hne, hlt⟩ := who_step w h.1 a o
    refine ⟨hne, hlt, ?_⟩
    show modLoop (w :: (if minus then 45 else 43) :: (perms ++ rest)) _ = _
    rw [modLoop_step hw, modLoop_step (op_step minus a o _)]
    simp [SClause.whoL, hne]

theorem foldl_bits (isDir : Bool) (m : Nat) (ps : Bytes) (h : ps.all isRwxst = true) (acc : Nat) :
    ps.foldl (fun acc c => acc ||| Chmod.permBits1 isDir m c) acc = vfold ps acc := by
  induction ps generalizing acc with
  | nil => rfl
  | cons c cs ih =>
    simp only [List.all_cons, Bool.and_eq_true] at h
    simp only [List.foldl_cons, vfold]
    have : Chmod.permBits1 isDir m c = bitsOf c := by
      rcases rwxst_cases c h.1 with rfl | rfl | rfl | rfl | rfl <;> rfl
    rw [this]
    exact ih h.2 _

theorem permValue_rwxst (isDir : Bool) (m : Nat) (ps : Bytes) (h : ps.all isRwxst = true) :
    Chmod.permValue isDir m ps = vfold ps 0 := by
  unfold Chmod.permValue
  split
  · simp [isRwxst] at h
  · simp [isRwxst] at h
  · simp [isRwxst] at h
  · exact foldl_bits isDir m ps h 0

/-- the model on one rendered clause, from a reset state: the masks stay 12-bit words and come
    to act on a mode as before followed by the clause -/
theorem clause_step (c : SClause) (h : c.wf = true) (rest : Bytes) (a o : Nat)
    (ha : a < 4096) (ho : o < 4096) :
    ∃ st, modLoop (c.render ++ rest) ⟨a, o, 0, 0, 0⟩ = modLoop rest st ∧
      st.andM < 4096 ∧ st.orM < 4096 ∧
      ∀ isDir m, Chmod.applyMasks st.andM st.orM m =
        Chmod.applyClause isDir (Chmod.applyMasks a o m) c.ast := by
  obtain ⟨hg, hg', hhead⟩ := clause_head c h rest a o
  have hps : c.perms.all isRwxst = true := by
    unfold SClause.wf at h; simp only [Bool.and_eq_true] at h; exact h.2
  rw [hhead]
  simp only [Chmod.applyClause, SClause.ast, List.foldl_cons, List.foldl_nil, Chmod.applyAction,
    permValue_rwxst _ _ c.perms hps, Chmod.applyMasks]
  cases c.minus with
  | false =>
    obtain ⟨sm', hl⟩ := perms_add _ hg c.perms rest hps a o 0
    have : vfold c.perms 0 &&& Chmod.whoMask c.whoL < 2 ^ 12 := Nat.lt_of_le_of_lt Nat.and_le_right hg'
    exact ⟨_, hl, ha, Nat.or_lt_two_pow (n := 12) ho this, fun _ m => (Nat.or_assoc _ _ _).symm⟩
  | true =>
    obtain ⟨sm', hl⟩ := perms_remove _ hg hg' c.perms rest hps a o 0 ha ho
    refine ⟨_, hl, Nat.lt_of_le_of_lt Nat.and_le_left ha, Nat.lt_of_le_of_lt Nat.and_le_left ho,
      fun _ m => ?_⟩
    show _ = (m &&& a ||| o) &&& _
    rw [Nat.and_or_distrib_right, Nat.and_assoc]

def renderMode (cs : List SClause) : Bytes := joinWith 44 (cs.map SClause.render)

theorem clauses_loop (cs : List SClause) (hne : cs ≠ []) (hwf : ∀ c ∈ cs, c.wf = true)
    (a o : Nat) (ha : a < 4096) (ho : o < 4096) :
    ∃ st, modLoop (renderMode cs) ⟨a, o, 0, 0, 0⟩ = some st ∧
      ∀ isDir m, Chmod.applyMasks st.andM st.orM m =
        (cs.map SClause.ast).foldl (Chmod.applyClause isDir) (Chmod.applyMasks a o m) := by
  induction cs generalizing a o with
  | nil => exact absurd rfl hne
  | cons c rest ih =>
    have hc := hwf c (by simp)
    cases rest with
    | nil =>
      obtain ⟨st, hl, _, _, hs⟩ := clause_step c hc [] a o ha ho
      rw [List.append_nil] at hl
      exact ⟨st, hl, hs⟩
    | cons d rest' =>
      obtain ⟨⟨a', o', g, sm, aor⟩, hl, ha', ho', hs⟩ := clause_step c hc (44 :: renderMode (d :: rest')) a o ha ho
      obtain ⟨st, hst, hsem⟩ := ih (by simp) (fun x hx => hwf x (by simp [hx])) a' o' ha' ho'
      refine ⟨st, ?_, fun isDir m => ?_⟩
      · show modLoop (c.render ++ 44 :: renderMode (d :: rest')) _ = _
        rw [hl, modLoop_step (st' := ⟨a', o', 0, 0, 0⟩) rfl, hst]
      · rw [hsem isDir m, hs isDir m]; rfl

theorem render_not_octal (cs : List SClause) (hne : cs ≠ []) : (renderMode cs).all isOctDigit = false := by
  cases cs with
  | nil => exact absurd rfl hne
  | cons c rest =>
    have hmem : (if c.minus then 45 else 43) ∈ renderMode (c :: rest) := by
      cases rest with
      | nil => simp [renderMode, joinWith, SClause.render]
      | cons d r => simp [renderMode, joinWith, SClause.render]
    rw [List.all_eq_false]
    refine ⟨_, hmem, ?_⟩
    cases c.minus <;> simp [isOctDigit]

/-- no option stores into `name`: each key's branch ends in `e` or in `{ e with … }` on other
    fields -/
theorem processOption_name (e : Entry) (lt k v : Bytes) : (processOption e lt k v).1.name = e.name := by
  have ite {c : Prop} [Decidable c] {a b : Entry × Option String} :
      a.1.name = e.name → b.1.name = e.name → (if c then a else b).1.name = e.name :=
    ite_ind (P := fun p : Entry × Option String => p.1.name = e.name)
  unfold processOption
  refine ite ?mod (ite ?uid (ite ?src (ite ?dev (ite ?targ (ite ?absent rfl)))))
  case mod =>
    refine ite rfl (ite rfl ?_)
    split <;> rfl
  case uid =>
    refine ite rfl ?_
    split
    · exact ite rfl rfl
    · rfl
    · rfl
  case src =>
    refine ite rfl (ite rfl (ite rfl ?_))
    split <;> rfl
  case dev => exact ite rfl (ite rfl rfl)
  case targ =>
    refine ite rfl ?_
    split <;> rfl
  case absent =>
    refine ite rfl ?_
    split <;> rfl

theorem optionsLoop_name (lt : Bytes) : ∀ (l : List Bytes) (e : Entry) (errs : List String),
    (optionsLoop lt l e errs).1.name = e.name := by
  intro l
  induction l with
  | nil => intro e errs; rfl
  | cons s rest ih =>
    intro e errs
    unfold optionsLoop
    split
    · exact ih _ _
    · exact ih _ _
    · simp only
      rw [ih]; exact processOption_name _ _ _ _

theorem optionsLoop_errs (lt : Bytes) (l : List Bytes) : ∀ (e : Entry) (errs : List String),
    errs ≠ [] → (optionsLoop lt l e errs).2 ≠ [] := by
  induction l with
  | nil => exact fun _ _ h => h
  | cons s rest ih =>
    intro e errs h
    unfold optionsLoop
    split
    · exact ih _ _ (by simp)
    · exact ih _ _ (by simp)
    · apply ih
      split
      · simp
      · exact h

/-- the name check of `parseLine` on its own (the second `let` of `parseLineFields`) -/
def nameStage (name : Bytes) (e0 : Entry) (errs0 : List String) : Entry × List String :=
  if name.length < 2 then (e0, errs0 ++ ["no-name"])
  else if name.head? != some 47 then (e0, errs0 ++ ["not-absolute"])
  else if (pathClean name).length < 2 then (e0, errs0 ++ ["no-name"])
  else match parseSource (pathClean name) with
    | .ok w => ({ e0 with name := pathClean name, hasWildcard := w }, errs0)
    | .error (.err c) => (e0, errs0 ++ [c])
    | .error .panic => (e0, errs0 ++ ["panic"])

/-- `parseLineFields` is: type word, then `nameStage`, then the options loop -/
theorem parseLineFields_stages (fields : List Bytes) : ∃ (adding : Bool) (lt : Nat) (errs0 : List String),
    parseLineFields fields =
      ⟨adding,
       (optionsLoop (fields.getD 0 []) (fields.drop 2)
          (nameStage (fields.getD 1 []) { ltype := lt } errs0).1
          (nameStage (fields.getD 1 []) { ltype := lt } errs0).2).1,
       (optionsLoop (fields.getD 0 []) (fields.drop 2)
          (nameStage (fields.getD 1 []) { ltype := lt } errs0).1
          (nameStage (fields.getD 1 []) { ltype := lt } errs0).2).2⟩ := by
  unfold parseLineFields
  extract_lets ltype name
  split
  rename_i adding lt errs0 _
  exact ⟨adding, lt, errs0, rfl⟩

theorem nameStage_name (name : Bytes) (e0 : Entry) (errs0 : List String) (h0 : e0.name = []) :
    ((nameStage name e0 errs0).1.name = [] ∧ ∃ x, (nameStage name e0 errs0).2 = errs0 ++ [x]) ∨
    (isAbs name = true ∧ 2 ≤ (pathClean name).length ∧
      (nameStage name e0 errs0).1.name = pathClean name ∧ (nameStage name e0 errs0).2 = errs0) := by
  unfold nameStage
  by_cases h1 : name.length < 2
  · rw [if_pos h1]; exact .inl ⟨h0, _, rfl⟩
  by_cases h2 : (name.head? != some 47) = true
  · rw [if_neg h1, if_pos h2]; exact .inl ⟨h0, _, rfl⟩
  by_cases h3 : (pathClean name).length < 2
  · rw [if_neg h1, if_neg h2, if_pos h3]; exact .inl ⟨h0, _, rfl⟩
  rw [if_neg h1, if_neg h2, if_neg h3]
  cases parseSource (pathClean name) with
  | error f => cases f <;> exact .inl ⟨h0, _, rfl⟩
  | ok w =>
    refine .inr ⟨?_, by omega, rfl, rfl⟩
    cases name with
    | nil => exact absurd rfl h2
    | cons x xs =>
      have : x = 47 := by simpa using h2
      rw [this]; rfl

/-- the name `parseLine` stores: empty (then an error was logged), or the cleaned second
    field, which is absolute and at least two bytes long -/
theorem parseLineFields_name (fields : List Bytes) :
    ((parseLineFields fields).entry.name = [] ∧ (parseLineFields fields).errors ≠ []) ∨
    (isAbs (fields.getD 1 []) = true ∧ 2 ≤ (pathClean (fields.getD 1 [])).length ∧
      (parseLineFields fields).entry.name = pathClean (fields.getD 1 [])) := by
  obtain ⟨adding, lt, errs0, h⟩ := parseLineFields_stages fields
  rw [h]
  simp only [optionsLoop_name]
  rcases nameStage_name (fields.getD 1 []) { ltype := lt } errs0 rfl with ⟨h1, x, hx⟩ | ⟨h1, h2, h3, _⟩
  · left
    refine ⟨h1, optionsLoop_errs _ _ _ _ ?_⟩
    rw [hx]
    simp
  · right; exact ⟨h1, h2, h3⟩

end Lc.Lemmas.StageLine
