/- Where `indexByte` (Lc/Base/Bytes.lean, Go's `strings.IndexByte`) finds its byte.  Used by
   the in-use scan (C19) and by the stage-name lemmas. -/
import Lc.Base.Bytes

namespace Lc.InUseLemmas
open Lc

theorem indexByte_eq_none_iff (c : Nat) (s : Bytes) : indexByte c s = none ↔ c ∉ s := by
  induction s with
  | nil => simp [indexByte]
  | cons a s ih =>
    by_cases ha : a = c
    · simp [indexByte, ha]
    · simp [indexByte, ha, ih, Ne.symm ha]

theorem indexByte_none (c : Nat) (n : Bytes) (h : c ∉ n) : indexByte c n = none :=
  (indexByte_eq_none_iff c n).mpr h

theorem indexByte_append (c : Nat) (n t : Bytes) (h : c ∉ n) :
    indexByte c (n ++ c :: t) = some n.length := by
  induction n with
  | nil => simp [indexByte]
  | cons a n ih =>
    have ha : a ≠ c := by intro e; apply h; simp [e]
    have hn : c ∉ n := by intro e; apply h; simp [e]
    simp [indexByte, ha, ih hn]

theorem indexByte_some (c : Nat) : ∀ (s : Bytes) (k : Nat), indexByte c s = some k →
    c ∉ s.take k ∧ s = s.take k ++ c :: s.drop (k + 1)
  | a :: s, k, h => by
    rw [indexByte] at h
    split at h
    next ha => cases h; simp [ha]
    next ha =>
      obtain ⟨j, hj, rfl⟩ := Option.map_eq_some_iff.mp h
      obtain ⟨h1, h2⟩ := indexByte_some c s j hj
      exact ⟨by simp [h1, Ne.symm ha], by simpa using h2⟩

theorem indexByte_lt (c : Nat) (s : Bytes) (i : Nat) (h : indexByte c s = some i) :
    i < s.length := by
  have := congrArg List.length (indexByte_some c s i h).2
  simp only [List.length_append, List.length_cons, List.length_take, List.length_drop] at this
  omega

end Lc.InUseLemmas
