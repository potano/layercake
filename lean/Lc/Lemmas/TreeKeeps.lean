/-
  Every structural command keeps the file-system tree well-formed (`TreeWF`,
  Lemmas/TreeWF.lean) on every exit — normal, error, injected fault or crash, pretending or
  not — when the configured directories are clean absolute paths.  Each primitive keeps it at
  a clean absolute path, and every path a command writes at is one: the commands are instances
  of the walk of Lemmas/Hoare.lean (`*_on` with `C := CleanAbs`).  Helper lemmas for Props/C02.
-/
import Lc.Lemmas.Hoare
import Lc.Lemmas.TreeWF
import Lc.Lemmas.LayerPaths
import Lc.Lemmas.ForestCmd
import Lc.Lemmas.CmdBlocks

namespace Lc.TreeKeeps
open Std.Do Lc Lc.Layers Lc.Hoare Lc.TreeWF Lc.Fs Lc.Lemmas.Path Lc.ExportPath Lc.InLayers
set_option mvcgen.warning false

abbrev T (w : World) : Prop := TreeWF w.fs
abbrev Tk {α} (m : M α) : Prop := Holds T m

/-! ### paths the commands compute -/

theorem cleanAbs_join (a : Bytes) (rest : List Bytes) (ha : isAbs a = true) :
    CleanAbs (pathJoin (a :: rest)) := pathJoin_head_shape a rest ha

/-- a clean name with a slash-free suffix glued on is a clean name -/
theorem cleanName_suffix (c s : Bytes) (hc : CleanName c) (hs : s ≠ []) (h47 : (47 : Nat) ∉ s) :
    CleanName (c ++ s) := by
  obtain ⟨⟨hcne, hcdot, hcsl⟩, hcdd⟩ := hc
  refine ⟨⟨by simp [hcne], ?_, ?_⟩, ?_⟩
  · intro e
    have := congrArg List.length e
    cases c with
    | nil => exact hcne rfl
    | cons x xs => cases s with
      | nil => exact hs rfl
      | cons y ys => simp [DOT] at this
  · intro hm
    rcases List.mem_append.mp hm with hm | hm
    · exact hcsl hm
    · exact h47 hm
  · intro e
    cases c with
    | nil => exact hcne rfl
    | cons x xs =>
      cases s with
      | nil => exact hs rfl
      | cons y ys =>
        cases xs with
        | nil =>
          simp [dotdot] at e
          exact hcdot (by rw [e.1]; rfl)
        | cons z zs =>
          have := congrArg List.length e
          simp [dotdot] at this

/-- a clean absolute path other than "/" with a slash-free suffix glued to its last
    component (`layerconfig.new`, `<name>~removed`) -/
theorem cleanAbs_suffix (F s : Bytes) (hF : CleanAbs F) (hne : F ≠ [47]) (hs : s ≠ [])
    (h47 : (47 : Nat) ∉ s) : CleanAbs (F ++ s) := by
  obtain ⟨pre, c, hpre, hc, hk, _⟩ := parent_shape F hF hne
  have hcs := cleanName_suffix c s hc hs h47
  have : F ++ s = absPath (pre ++ [c ++ s]) := by
    rw [hk, absPath_snoc_eq, absPath_snoc_eq]; simp
  rw [this]
  apply cleanAbs_absPath
  intro x hx
  rcases List.mem_append.mp hx with hx | hx
  · exact hpre x hx
  · simp at hx; rw [hx]; exact hcs

theorem cleanAbs_layerPath (cfg : Config) (n : Bytes) (hld : isAbs cfg.layerdirs = true) :
    CleanAbs (layerPath cfg n) := cleanAbs_join cfg.layerdirs [n] hld

theorem cleanAbs_cfgPath (l : Layer) (hl : CleanAbs l.layerPath) : CleanAbs (layerconfigPath l) :=
  cleanAbs_join l.layerPath [b!"layerconfig"] hl.2
theorem cleanAbs_tmpPath (l : Layer) (hl : CleanAbs l.layerPath) : CleanAbs (layerconfigPath l ++ tmpSuffix) :=
  cleanAbs_suffix _ _ (cleanAbs_cfgPath l hl) (Lemmas.WriteLF.layerconfigPath_ne_root l) (by decide) (by decide)

/-! ### primitives -/

theorem fsStep_tw (op : Op) (f : Fs.Tree → Except String Fs.Tree)
    (hf : ∀ fs fs', TreeWF fs → f fs = .ok fs' → TreeWF fs') : Tk (fsStep op f) :=
  lift_rel _ _ _ (Lemmas.WriteLF.fsStep_spec op f) T _ _
    (fun w1 _ w h1 hq => by
      rcases hq.2 with ⟨_, e⟩ | ⟨_, e⟩
      · show TreeWF w.fs; rw [e]; exact h1
      · exact hf _ _ h1 e)
    (fun w1 w h1 he => by show TreeWF w.fs; rw [he.1]; exact h1)

theorem fsMkdir_tw (p : Bytes) (hp : CleanAbs p) : Tk (fsMkdir p) :=
  fsStep_tw _ _ (fun _ _ h hr => mkdirAll_wf h p hp hr)

theorem fsRename_tw (a b : Bytes) (hb : CleanAbs b) : Tk (fsRename a b) :=
  fsStep_tw _ _ (fun _ _ h hr => rename_wf' h a b hb hr)

theorem fsRemove_tw (p : Bytes) : Tk (fsRemove p) :=
  fsStep_tw _ _ (fun fs fs' h hr => by injection hr with hr; rw [← hr]; exact removeAll_wf h p)

theorem fsSymlink_tw (link target : Bytes) (hl : CleanAbs link) : Tk (fsSymlink link target) :=
  fsStep_tw _ _ (fun _ _ h hr => symlink_wf h target link hl hr)

theorem fsWriteTextFile_tw (p content : Bytes) (hp : CleanAbs p) : Tk (fsWriteTextFile p content) :=
  fsStep_tw _ _ (fun fs fs' h hr => by
    cases ho : openWrite fs p false with
    | error e => rw [ho] at hr; cases hr
    | ok fs1 =>
      rw [ho] at hr
      simp only [bind, Except.bind, pure, Except.pure, Except.ok.injEq] at hr
      rw [← hr]
      exact overwriteFile_wf (openWrite_wf h p false hp ho) p content)

theorem cursorOpen_tw (p : Bytes) (hp : CleanAbs p) : Tk (cursorOpen p) := by
  unfold Tk Holds
  mvcgen [cursorOpen, getW, setW, fail, record]
  all_goals first
    | assumption
    | (rename_i h; exact openWrite_wf (by assumption) p true hp h)

theorem cursorWrite_tw (p chunk : Bytes) (failed : Bool) : Tk (cursorWrite p chunk failed) := by
  unfold Tk Holds
  mvcgen [cursorWrite, getW, setW, fail, record]
  all_goals first
    | assumption
    | (exact appendFile_wf (by assumption) p chunk)

theorem gate_fs (P : Fs.Tree → Prop) : Holds (fun w => P w.fs) gate := by
  unfold Holds
  mvcgen [gate, getW, setW, fail]

theorem sysMount_fs (P : Fs.Tree → Prop) (s t f fl o) : Holds (fun w => P w.fs) (sysMount s t f fl o) := by
  unfold Holds
  mvcgen [sysMount, getW, setW, fail, record]

theorem fsUnmount_fs (P : Fs.Tree → Prop) (t : Bytes) : Holds (fun w => P w.fs) (fsUnmount t) := by
  have h := gate_fs P
  unfold Holds at *
  mvcgen [fsUnmount, h, getW, setW, fail, record]

theorem fsMount_fs (P : Fs.Tree → Prop) (s t f o : Bytes) : Holds (fun w => P w.fs) (fsMount s t f o) := by
  have h1 := gate_fs P; have h2 := sysMount_fs P
  unfold Holds at *
  mvcgen [fsMount, h1, h2]

theorem fIsDir_tw (p) : Tk (fIsDir p) := fIsDir_inv T T p
theorem fIsFile_tw (p) : Tk (fIsFile p) := fIsFile_inv T T p

/-! ### the commands -/

def CfgClean (cfg : Config) : Prop :=
  CleanAbs cfg.basepath ∧ CleanAbs cfg.layerdirs ∧ CleanAbs cfg.exportdirs

instance (cfg : Config) : Decidable (CfgClean cfg) := inferInstanceAs (Decidable (_ ∧ _ ∧ _))

/-- every layer of the table lives at a clean absolute path -/
def DirsOK (d : Defs) : Prop := ∀ l ∈ d.layers, CleanAbs l.layerPath

theorem dirsOK_find {d : Defs} (hd : DirsOK d) {n : Bytes} {l : Layer} (h : findLayer d n = some l) :
    CleanAbs l.layerPath := hd l (List.mem_of_find?_eq_some h)

theorem cleanAbs_removed (F : Bytes) (hF : CleanAbs F) : CleanAbs (F ++ removedSuffix) := by
  by_cases h : F = [47]
  · subst h; decide
  · exact cleanAbs_suffix F _ hF h (by decide) (by decide)

theorem writeLayerFile_tw (l : Layer) (hl : CleanAbs l.layerPath) : Tk (writeLayerFile l) := by
  have h1 := cursorOpen_tw _ (cleanAbs_tmpPath l hl)
  have h2 := cursorWrite_tw (layerconfigPath l ++ tmpSuffix)
  have h3 := fsRename_tw (layerconfigPath l ++ tmpSuffix) (layerconfigPath l) (cleanAbs_cfgPath l hl)
  have hw : ∀ w, T w → T w := fun _ h => h
  unfold Tk Holds at *
  mvcgen [writeLayerFile, getW, fail, h1, h2, h3]
  walk_inv T, T
  walk_done hw

/-- reading the layers, probing them: the tree is not touched (any property of it stays) -/
theorem getLayers_fs (P : Fs.Tree → Prop) (cfg inuse) : Holds (fun w => P w.fs) (getLayers cfg inuse) :=
  getLayers_inv (fun _ h => h) cfg inuse

open Lc.ForestCmd Lc.ForestInv Lc.RunM

/-! ### a whole invocation -/

/-- the tree after `getLayers` is the tree before -/
theorem getLayers_fs_eq (cfg : Config) (inuse : List (Bytes × List User)) (w : World) :
    ((getLayers cfg inuse).run.run w).2.fs = w.fs :=
  extract (fun w' => w'.fs = w.fs) _ (getLayers_fs (· = w.fs) cfg inuse) w rfl

/-- what `getLayers` hands to a command when the tree is well-formed: a well-formed table whose
    records carry what `readLayerFiles` read (name, base, imports, exports, directory) -/
theorem getLayers_ok (cfg : Config) (inuse : List (Bytes × List User)) (w w' : World) (d : Defs)
    (hT : TreeWF w.fs) (hr : (getLayers cfg inuse).run.run w = (.ok d, w')) :
    WF d ∧ Fs.isDir w.fs cfg.layerdirs = true ∧
      d.layers.map sig = (readLayerFiles cfg w.fs (Fs.children w.fs cfg.layerdirs)).map sig := by
  unfold getLayers at hr
  obtain ⟨d1, w1, h1, h2⟩ := bind_ok_inv _ _ _ _ _ hr
  obtain ⟨_, hdir, hL, _⟩ := findLayers_ok cfg w w1 d1 h1
  have hwf1 := findLayers_wf cfg w w1 d1 (children_nodup hT _) h1
  obtain ⟨hs, hord⟩ := ret_elim _ _ (probeAll_sig cfg inuse d1 hwf1.nodup) w1 d w' h2
  exact ⟨wf_of_view hwf1 (sig_nb hs) hord, hdir, by rw [hs, hL]⟩

/-- … so every record handed on has the `sig` of a record read -/
theorem getLayers_from (cfg : Config) (inuse : List (Bytes × List User)) (w w' : World) (d : Defs)
    (hT : TreeWF w.fs) (hr : (getLayers cfg inuse).run.run w = (.ok d, w')) :
    ∀ l ∈ d.layers, ∃ l0 ∈ readLayerFiles cfg w.fs (Fs.children w.fs cfg.layerdirs), sig l = sig l0 := by
  obtain ⟨_, _, hs⟩ := getLayers_ok cfg inuse w w' d hT hr
  intro l hl
  have : sig l ∈ (readLayerFiles cfg w.fs (Fs.children w.fs cfg.layerdirs)).map sig :=
    hs ▸ List.mem_map.mpr ⟨l, hl, rfl⟩
  obtain ⟨l0, hl0, e⟩ := List.mem_map.mp this
  exact ⟨l0, hl0, e.symm⟩

theorem getLayers_dirsOK (cfg : Config) (inuse : List (Bytes × List User)) (w w' : World) (d : Defs)
    (hld : isAbs cfg.layerdirs = true) (hT : TreeWF w.fs)
    (hr : (getLayers cfg inuse).run.run w = (.ok d, w')) : DirsOK d := by
  intro l hl
  obtain ⟨l0, hl0, e⟩ := getLayers_from cfg inuse w w' d hT hr l hl
  rw [sig_path e, (LayerPaths.readLayerFiles_placed cfg _ _ (fun hm => children_ne_nil _ _ _ hm rfl) l0 hl0).1]
  exact cleanAbs_layerPath cfg _ hld

/-- the commands covered: every one except `mount` and `chroot`, which create directories and
    symbolic links at paths taken verbatim from a layerconfig (not necessarily clean) -/
def fsSafe : Cmd → Bool
  | .mount _ | .chroot _ => false
  | _ => true

/-- a whole invocation, any exit (`Props.C02.run_keeps_treeWF`) -/
theorem run_tw (cfg : Config) (inuse : List (Bytes × List User)) (c : Cmd) (w : World)
    (hc : CfgClean cfg) (hs : fsSafe c = true) (hT : TreeWF w.fs) : TreeWF (run cfg inuse c w).2.fs := by
  have hld : isAbs cfg.layerdirs = true := hc.2.1.2
  have hw : ∀ w, T w → T w := fun _ h => h
  have hj : ∀ a rest, CleanAbs a → CleanAbs (pathJoin (a :: rest)) := fun a rest h => cleanAbs_join a rest h.2
  -- everything but init: read the layers, then the command on what was read
  have key : ∀ (cmd : Defs → M Defs), (∀ d, DirsOK d → Tk (cmd d)) →
      TreeWF ((getLayers cfg inuse >>= cmd).run.run w).2.fs := by
    intro cmd hcmd
    rw [run_bind]
    have hg := extract T _ (getLayers_fs TreeWF cfg inuse) w hT
    generalize hgr : (getLayers cfg inuse).run.run w = r at hg
    obtain ⟨x, w1⟩ := r
    cases x with
    | error e => exact hg
    | ok d =>
      have hd := getLayers_dirsOK cfg inuse w w1 d hld hT hgr
      exact extract T _ (hcmd d hd) w1 hg
  unfold run
  cases c with
  | init =>
    have : Tk (runCmd cfg inuse .init) := by
      have h := initBase_on hw fsMkdir_tw fsWriteTextFile_tw cfg hc.1 hc.2.1 hc.2.2
        (cleanAbs_join _ _ hc.1.2) (cleanAbs_join _ _ hc.2.2.2)
      unfold Tk Holds Respects at *
      mvcgen [runCmd, h]
    exact extract T _ this w hT
  | add n b f =>
    exact key (fun d => addLayer cfg d n b f) (fun d _ => addLayer_on hw cfg d n b f (fun _ _ =>
      addFiles_on hw fsMkdir_tw writeLayerFile_tw fsWriteTextFile_tw cfg d _ (cleanAbs_layerPath cfg n hld) hj))
  | remove n f =>
    exact key (fun d => removeLayer cfg d n f) (fun d hd => removeLayer_on hw (fun p => fsRemove_tw p) cfg d n f
      (fun l o hf => removeFiles_on hw fsRemove_tw fsRename_tw d n l o (cleanAbs_removed _ (dirsOK_find hd hf))))
  | rename o n co =>
    exact key (fun d => renameLayer cfg d o n co)
      (fun d hd => renameLayer_on hw fsRemove_tw fsRename_tw writeLayerFile_tw cfg d o n co (cleanAbs_layerPath cfg n hld)
        (fun k hk => hd k (kidsOf_mem d o co k hk).1))
  | rebase n b => exact key (fun d => rebaseLayer cfg d n b) (fun d hd => rebaseLayer_on hw writeLayerFile_tw cfg d n b (fun _ => dirsOK_find hd))
  | mkdirs n => exact key (fun d => makedirs cfg d n) (fun d hd => makedirs_on hw fsMkdir_tw cfg d n (fun _ => dirsOK_find hd) hj)
  | mount _ => cases hs
  | umount n a => exact key (fun d => unmountCmd cfg d n a) (fun d _ => unmountCmd_inv hw (fsUnmount_fs TreeWF) cfg d n a)
  | shake => exact key (fun d => shake cfg d) (fun d _ => shake_inv hw (fsMount_fs TreeWF) cfg d)
  | chroot _ => cases hs
  | probe => exact key (fun d => pure d) (fun d _ => pure_holds T d)

end Lc.TreeKeeps
