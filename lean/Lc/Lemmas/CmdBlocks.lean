/-
  `addLayer` and `removeLayer` cut in two.  In the model each ends in a block that is reached
  from several branches (the configuration of a new layer comes from its parent or from a
  file; a layer is deleted outright for one of three reasons), and `mvcgen` walks such a block
  once per branch.  Named, the block gets its own specification for each invariant, and the
  walk of the command (`addLayer_eq`, `removeLayer_eq`) cites it at every branch.
-/
import Lc.Model.Layers

namespace Lc.Layers
open Lc.Layerfile

/-- `addLayer` once name, base and configuration are settled: the directories and files of the
    new layer, then the table with its record -/
def addFiles (cfg : Config) (d : Defs) (layer : Layer) : M Defs := do
  fsMkdir layer.layerPath
  writeLayerFile layer
  fsMkdir (buildPath cfg layer)
  if layer.base.length > 0 then
    fsMkdir (workPath cfg layer)
    fsMkdir (upperPath cfg layer)
  else
    let rootuser := pathJoin [buildPath cfg layer, b!"root"]
    fsMkdir rootuser
    fsWriteTextFile (pathJoin [rootuser, b!".bashrc"]) b!"#bashrc"
  reorder { d with layers := d.layers ++ [layer] }

theorem addLayer_eq (cfg : Config) (d : Defs) (name base configFile : Bytes) :
    addLayer cfg d name base configFile = (do
      testName d [(name, NAME_FREE), (base, NAME_OPTIONAL + NAME_NEED)]
      let mut basis : Option (List NeededMount × List NeededMount) := none
      if base.length > 0 then
        if base == name then fail "ownbase"
        match findLayer d base with
        | some b => basis := some (b.cmounts, b.cexports)
        | none => basis := none
      if configFile.length > 0 || base.length == 0 then
        let lf ← getDefaultLayerinfo cfg configFile
        basis := some (lf.mounts, lf.exports)
      match basis with
      | none => fail "noconfig"
      | some (cm, ce) =>
        addFiles cfg d { name := name, base := base, cmounts := cm, cexports := ce,
                         layerPath := layerPath cfg name }) := rfl

/-- `removeLayer` once it is decided whether the directory goes outright or is renamed -/
def removeFiles (d : Defs) (name : Bytes) (l : Layer) (outright : Bool) : M Defs := do
  if outright then
    fsRemove l.layerPath
  else
    let newname := l.layerPath ++ removedSuffix
    if ← fExists newname then fail "pseudodelete"
    fsRename l.layerPath newname
  reorder { d with layers := d.layers.filter (·.name != name) }

theorem removeLayer_eq (cfg : Config) (d : Defs) (name : Bytes) (removeFiles' : Bool) :
    removeLayer cfg d name removeFiles' = (do
      testName d [(name, NAME_NEED)]
      let l ← getL d name
      errorIfError l
      if hasChild d name then fail "haschild"
      errorIfBusy l true
      removeLayerExportLinks cfg l
      let outright ← if removeFiles' then pure true
                     else if l.state == S_complete then holdsOnlyOwnFiles cfg l else pure false
      removeFiles d name l outright) := rfl

end Lc.Layers
