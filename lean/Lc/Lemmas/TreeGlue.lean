/-
  From the view to the kernel table: the list `getMountAndSubmounts view bp` of a view that
  agrees with a kernel table `t` (ids, parent ids, mountpoints of the region at/below `bp`), read
  from its end, is an unmount order for which `TreeUmount.kumountSeq_tree` applies.
  * `sortBy_stable`: the stable sort keeps the table order of entries it need not exchange;
  * `Rep`, `all2_of_map_eq`: entries of the view and of the table correspond one to one
    (`Expand.All2 Rep`), also after a permutation of one side (`Expand.all2_perm`);
  * `goodList`: the list is parents-first and covered-subtrees-first (both branches of
    `getMountAndSubmounts`);
  * `issueOrder_tree_never_refused`: the glue.
-/
import Lc.Lemmas.TreeOrderSub
import Lc.Lemmas.TreeUmount
import Lc.Lemmas.KernelProbe
import Lc.Lemmas.Expand

namespace Lc.TreeGlue
open Lc Lc.Layers Lc.Mountinfo Lc.Kernel Lc.KernelResolve Lc.KernelUmount Lc.TreeOrder Lc.TreeUmount
open Lc.SortByAux Lc.Expand

/-! ### the stable sort -/

theorem insertBy_rel {α} (lt : α → α → Bool) (Q : α → α → Prop)
    (hneg : ∀ a b c, lt a b = true → lt c b = false → lt a c = true) (x : α) :
    ∀ (s : List α), s.Pairwise (fun a b => lt b a = false) →
      s.Pairwise (fun a b => Q a b ∨ lt a b = true) → (∀ y ∈ s, Q y x) →
      (insertBy lt x s).Pairwise (fun a b => Q a b ∨ lt a b = true) := by
  intro s
  induction s with
  | nil => intro _ _ _; simp [insertBy]
  | cons y ys ih =>
    intro hs hg hq
    have hs' := List.pairwise_cons.mp hs
    have hg' := List.pairwise_cons.mp hg
    unfold insertBy
    split
    · rename_i hxy
      refine List.pairwise_cons.mpr ⟨?_, hg⟩
      intro z hz
      right
      rcases List.mem_cons.mp hz with hz | hz
      · rw [hz]; exact hxy
      · exact hneg x y z hxy (hs'.1 z hz)
    · refine List.pairwise_cons.mpr ⟨?_, ih hs'.2 hg'.2 (fun z hz => hq z (by simp [hz]))⟩
      intro w hw
      rcases List.mem_cons.mp ((insertBy_perm lt x ys).mem_iff.mp hw) with hw | hw
      · rw [hw]; exact .inl (hq y (by simp))
      · exact hg'.1 w hw

/-- **`sortBy lt l.reverse` is a stable sort**: two entries come out in their order in `l`
    unless the first is `lt`-smaller than the second -/
theorem sortBy_stable {α} (lt : α → α → Bool) (Q : α → α → Prop) (hirr : ∀ a, lt a a = false)
    (htrans : ∀ a b c, lt a b = true → lt b c = true → lt a c = true)
    (hneg : ∀ a b c, lt a b = true → lt c b = false → lt a c = true) :
    ∀ (r : List α), r.reverse.Pairwise Q → (sortBy lt r).Pairwise (fun a b => Q a b ∨ lt a b = true) := by
  intro r
  induction r with
  | nil => intro _; simp [sortBy]
  | cons x r' ih =>
    intro h
    rw [List.reverse_cons, List.pairwise_append] at h
    unfold sortBy
    apply insertBy_rel lt Q hneg x _ (SortByAux.sortBy_sorted lt hirr htrans r') (ih h.1)
    intro y hy
    exact h.2.2 y (List.mem_reverse.mpr ((mem_sortBy lt r' y).mp hy)) x (by simp)

/-! ### entries of the view and of the table -/

/-- the view entry `x` shows the kernel entry `k` -/
def Rep (x : MountType) (k : KMnt) : Prop :=
  x.id = natBytes k.id ∧ x.parent = natBytes k.parent ∧ x.mountpoint = k.mp

theorem all2_of_map_eq : ∀ (V : List MountType) (T : List KMnt),
    V.map (fun x => (x.id, x.parent, x.mountpoint)) = T.map (fun m => (natBytes m.id, natBytes m.parent, m.mp)) →
    All2 Rep V T := by
  intro V
  induction V with
  | nil =>
    intro T h
    cases T with
    | nil => exact .nil
    | cons _ _ => simp at h
  | cons x xs ih =>
    intro T h
    cases T with
    | nil => simp at h
    | cons k ks =>
      simp only [List.map_cons, List.cons.injEq, Prod.mk.injEq] at h
      exact .cons ⟨h.1.1, h.1.2.1, h.1.2.2⟩ (ih ks h.2)

/-! ### what the table gives the view -/

theorem under_not_lt {a b : Bytes} (h : pathUnder a b = true) : bytesLt b a = false := by
  obtain ⟨t, rfl, _⟩ := (pathUnder_iff_append a b).mp h
  by_cases ht : t = []
  · rw [ht, List.append_nil]; exact bytesLt_irrefl _
  · exact bytesLt_asymm (prefix_lt a t ht)

theorem all2_map_eq {l1 : List MountType} {l2 : List KMnt} (h : All2 Rep l1 l2) :
    l1.map (·.mountpoint) = l2.map (·.mp) := by
  induction h with
  | nil => rfl
  | cons hr _ ih => simp only [List.map_cons, hr.2.2, ih]

theorem natBytes_ne_nil (n : Nat) : natBytes n ≠ [] := by
  rw [KernelProbe.natBytes_eq]; exact KernelProbe.digitBytes_ne_nil n

/-- the region test of the view and of the table -/
theorem regionOf_eq (V : Mounts) (bp : Bytes) :
    TreeOrder.regionOf V bp = V.list.filter (fun x => atOrBelow bp x.mountpoint) := rfl

/-- a mount of the region is not mounted on "/" -/
theorem region_ne_root {bp q : Bytes} (hbp : bp ≠ [47]) (hbp2 : bp ≠ []) (h : atOrBelow bp q = true) : q ≠ [47] := by
  intro hq
  subst hq
  unfold atOrBelow at h
  rcases Bool.or_eq_true_iff.mp h with h | h
  · exact hbp (beq_iff_eq.mp h).symm
  · obtain ⟨t, ht⟩ := (hasPrefix_iff _ _).mp h
    have := congrArg List.length ht
    simp at this
    exact hbp2 (List.eq_nil_of_length_eq_zero (by omega))

/-! ### the list is parents-first and covered-subtrees-first -/

section glue
variable (t : KTable) (V : Mounts) (bp : Bytes)

/-- what the table's tree discipline gives the view's region entries -/
theorem view_facts (ht : Tree t.mnts)
    (hv : All2 Rep (TreeOrder.regionOf V bp) (t.mnts.filter (fun m => atOrBelow bp m.mp))) :
    ((TreeOrder.regionOf V bp).map (·.id)).Nodup ∧
    (∀ x ∈ TreeOrder.regionOf V bp, x.id ≠ x.parent) ∧
    (TreeOrder.regionOf V bp).Pairwise (fun x y => y.id ≠ x.parent) ∧
    (∀ x ∈ TreeOrder.regionOf V bp, ∀ y ∈ TreeOrder.regionOf V bp, x.parent = y.id →
      pathUnder y.mountpoint x.mountpoint = true) := by
  have hsub : (t.mnts.filter (fun m => atOrBelow bp m.mp)).Sublist t.mnts := List.filter_sublist
  have htr := KWF.sublist hsub ht
  have hflip := all2_flip hv
  refine ⟨?_, ?_, ?_, ?_⟩
  · rw [List.Nodup, List.pairwise_map]
    have hn := htr.ids
    rw [List.Nodup, List.pairwise_map] at hn
    refine all2_pairwise hflip ?_ hn
    intro a b c d _ _ hac hbd hab he
    apply hab
    apply KernelProbe.natBytes_injective
    rw [← hac.1, ← hbd.1, he]
  · intro x hx
    obtain ⟨k, hk, hr⟩ := hv.mem_left x hx
    intro he
    apply htr.noSelf k hk
    apply KernelProbe.natBytes_injective
    rw [← hr.1, ← hr.2.1, he]
  · refine all2_pairwise hflip ?_ htr.parentFirst
    intro a b c d _ _ hac hbd hab he
    apply hab
    apply KernelProbe.natBytes_injective
    rw [← hac.2.1, ← hbd.1, he]
  · intro x hx y hy hpar
    obtain ⟨kx, hkx, hrx⟩ := hv.mem_left x hx
    obtain ⟨ky, hky, hry⟩ := hv.mem_left y hy
    have : kx.parent = ky.id := by
      apply KernelProbe.natBytes_injective
      rw [← hrx.2.1, ← hry.1, hpar]
    rw [hrx.2.2, hry.2.2]
    exact htr.under kx hkx ky hky this

theorem mem_sortedRegion (x : MountType) : x ∈ TreeOrder.sortedRegion V bp ↔ x ∈ TreeOrder.regionOf V bp := by
  unfold TreeOrder.sortedRegion
  rw [mem_sortBy, List.mem_reverse]

/-- the path-sorted list of the view's region -/
theorem sorted_facts (ht : Tree t.mnts)
    (hv : All2 Rep (TreeOrder.regionOf V bp) (t.mnts.filter (fun m => atOrBelow bp m.mp))) :
    ((TreeOrder.sortedRegion V bp).map (·.id)).Nodup ∧
    (∀ x ∈ TreeOrder.sortedRegion V bp, x.id ≠ x.parent) ∧
    (TreeOrder.sortedRegion V bp).Pairwise (fun x y => y.id ≠ x.parent) ∧
    (TreeOrder.sortedRegion V bp).Pairwise (fun a b => bytesLt b.mountpoint a.mountpoint = false) := by
  obtain ⟨v1, v2, v3, v4⟩ := view_facts t V bp ht hv
  have hperm : (TreeOrder.sortedRegion V bp).Perm (TreeOrder.regionOf V bp) :=
    (sortBy_perm _ _).trans (List.reverse_perm _)
  refine ⟨(hperm.map _).nodup_iff.mpr v1, fun x hx => v2 x ((mem_sortedRegion V bp x).mp hx), ?_, ?_⟩
  · have hst := sortBy_stable (fun a b : MountType => bytesLt a.mountpoint b.mountpoint)
      (fun x y => y.id ≠ x.parent) (fun a => bytesLt_irrefl _) (fun a b c h1 h2 => bytesLt_trans h1 h2)
      (fun a b c h1 h2 => bytesLt_neg _ _ _ h1 h2) (TreeOrder.regionOf V bp).reverse
      (by rw [List.reverse_reverse]; exact v3)
    refine List.Pairwise.imp_of_mem ?_ hst
    intro x y hx hy hor
    rcases hor with h | h
    · exact h
    · intro he
      have hu := v4 x ((mem_sortedRegion V bp x).mp hx) y ((mem_sortedRegion V bp y).mp hy) he.symm
      rw [under_not_lt hu] at h
      cases h
  · exact SortByAux.sortBy_sorted (fun a b : MountType => bytesLt a.mountpoint b.mountpoint)
      (fun a => bytesLt_irrefl _) (fun a b c h1 h2 => bytesLt_trans h1 h2) _

/-- **both branches of `getMountAndSubmounts`**: nothing is listed before the mount it hangs
    below, and nothing is listed after a mount that covers it or a mount it hangs below -/
theorem goodList (ht : Tree t.mnts)
    (hv : All2 Rep (TreeOrder.regionOf V bp) (t.mnts.filter (fun m => atOrBelow bp m.mp))) :
    (getMountAndSubmounts V bp).Pairwise (fun x y => y.id ≠ x.parent) ∧
    (getMountAndSubmounts V bp).Pairwise (fun x y => ¬ UBV (TreeOrder.sortedRegion V bp) x y) := by
  obtain ⟨s1, s2, s3, s4⟩ := sorted_facts t V bp ht hv
  rw [TreeOrder.getMountAndSubmounts_eq]
  cases hc : hasCoveredMount (TreeOrder.sortedRegion V bp) with
  | true =>
    simp only [if_true]
    exact ⟨TreeOrder.inTreeOrder_parent_first _ s1 s2 s3, TreeOrder.inTreeOrder_subtree_first _ s1 s2 s3 s4⟩
  | false =>
    simp only [Bool.false_eq_true, if_false]
    refine ⟨s3, List.pairwise_of_forall_mem_list ?_⟩
    rintro x hx y _ ⟨a, hca, hch⟩
    have : hasCoveredMount (TreeOrder.sortedRegion V bp) = true := by
      unfold hasCoveredMount
      exact List.any_eq_true.mpr ⟨x, hx, List.any_eq_true.mpr ⟨a, hch.mem_left, hca⟩⟩
    rw [hc] at this; cases this

/-- a chain of the table, inside the region, is a chain of the view -/
theorem chain_transfer (ht : Tree t.mnts) (hbp : bp ≠ [47])
    (hv : All2 Rep (TreeOrder.regionOf V bp) (t.mnts.filter (fun m => atOrBelow bp m.mp)))
    {a y : KMnt} (h : Chain t.mnts a y) :
    atOrBelow bp a.mp = true → ∀ y' ∈ TreeOrder.sortedRegion V bp, Rep y' y →
      ∃ a' ∈ TreeOrder.sortedRegion V bp, Rep a' a ∧ ChainV (TreeOrder.sortedRegion V bp) a' y' := by
  induction h with
  | refl _ => intro _ y' hy' hr; exact ⟨y', hy', hr, .refl hy'⟩
  | @step c a1 y hc ha1 hpar _ ih =>
    intro hcr y' hy' hr
    have ha1r : atOrBelow bp a1.mp = true := by
      rw [atOrBelow_eq_pathUnder hbp] at hcr ⊢
      exact pathUnder_trans hcr (ht.under a1 ha1 c hc hpar)
    obtain ⟨a1', ha1', hra1, hch⟩ := ih ha1r y' hy' hr
    obtain ⟨c', hc', hrc⟩ := forall₂_mem_right hv c (List.mem_filter.mpr ⟨hc, hcr⟩)
    have hc'S := (mem_sortedRegion V bp c').mpr hc'
    exact ⟨c', hc'S, hrc, .step hc'S ha1' (by rw [hra1.2.1, hrc.1, hpar]) hch⟩

/-- **the glue**: the list of a view that agrees with a strict-tree table whose region is closed,
    read from its end, is never refused by the kernel model -/
theorem issueOrder_tree_never_refused (ht : TreeS t.mnts) (hcl : ClosedRegion t.mnts bp)
    (hbp : bp ≠ [47]) (hbp2 : bp ≠ [])
    (hv : (V.list.filter (fun x => atOrBelow bp x.mountpoint)).map (fun x => (x.id, x.parent, x.mountpoint)) =
      (t.mnts.filter (fun m => atOrBelow bp m.mp)).map (fun m => (natBytes m.id, natBytes m.parent, m.mp))) :
    (kumountSeq t ((getMountAndSubmounts V bp).reverse.map (·.mountpoint))).2.2 = none := by
  have hv2 : All2 Rep (TreeOrder.regionOf V bp) (t.mnts.filter (fun m => atOrBelow bp m.mp)) :=
    all2_of_map_eq _ _ hv
  obtain ⟨g1, g2⟩ := goodList t V bp ht.toTree hv2
  -- the kernel entries in the order of the list
  obtain ⟨E, hEperm, hLE⟩ := all2_perm (TreeOrder.getMountAndSubmounts_perm_region V bp).symm hv2
  have hLE' := all2_with_mem hLE (t.mnts.filter (fun m => atOrBelow bp m.mp)) (fun b hb => hEperm.mem_iff.mp hb)
  have hLS : ∀ x ∈ getMountAndSubmounts V bp, x ∈ TreeOrder.sortedRegion V bp := by
    intro x hx
    exact (mem_sortedRegion V bp x).mpr ((TreeOrder.getMountAndSubmounts_perm_region V bp).mem_iff.mp hx)
  have hmap : (getMountAndSubmounts V bp).reverse.map (·.mountpoint) = E.reverse.map (·.mp) := by
    rw [List.map_reverse, List.map_reverse, all2_map_eq hLE]
  rw [hmap]
  apply kumountSeq_tree t.mnts bp hbp E.reverse t ht (fun m hm => hm) hcl
    ((List.reverse_perm E).trans hEperm)
  · -- (O1) of `kumountSeq_tree`
    rw [List.pairwise_reverse]
    refine all2_pairwise hLE' ?_ g1
    intro a b c d _ _ hac hbd hab he
    apply hab
    rw [hac.1.2.1, hbd.1.1, he]
  · -- (O2)
    rw [List.pairwise_reverse]
    refine all2_pairwise hLE' ?_ g2
    rintro x' y' x y hx' hy' ⟨hrx, hxT⟩ ⟨hry, _⟩ hnub ⟨a, ⟨hne, hpar, hu⟩, hch⟩
    apply hnub
    obtain ⟨hxm, hxr⟩ := List.mem_filter.mp hxT
    have ham := hch.mem_left
    have har : atOrBelow bp a.mp = true := by
      rw [atOrBelow_eq_pathUnder hbp] at hxr ⊢
      exact pathUnder_trans hxr hu
    obtain ⟨a', ha', hra, hchv⟩ := chain_transfer t V bp ht.toTree hbp hv2 hch har y' (hLS y' hy') hry
    refine ⟨a', ?_, hchv⟩
    -- x' covers a'
    have hidne : x.id ≠ a.id := fun e => hne (eq_of_id_eq ht.ids hxm ham e)
    have hmpne : x.mp ≠ a.mp := ht.noTwins x hxm a ham hne hpar
    have hxroot : x.mp ≠ [47] := region_ne_root hbp hbp2 hxr
    have hpre : ∃ tl, a.mp = x.mp ++ 47 :: tl := by
      rw [pathUnder_iff] at hu
      rcases hu with h | ⟨tl, h⟩
      · exact absurd h.symm hmpne
      · unfold sl at h
        have : (x.mp == [47]) = false := by simpa using hxroot
        rw [this] at h
        exact ⟨tl, by rw [h]; simp⟩
    rw [TreeOrder.covers_iff, hrx.1, hrx.2.1, hrx.2.2, hra.1, hra.2.1, hra.2.2, hpar]
    exact ⟨natBytes_ne_nil _, fun e => hidne (KernelProbe.natBytes_injective e), natBytes_ne_nil _,
      rfl, hpre⟩

end glue

end Lc.TreeGlue
