/-
  ProbeAllLayerstate, one layer at a time: for a fixed layer name, once the loop has visited
  it the record carries the mounts below its build root and a process flag if a process is
  attributed to it.  Helper lemmas for Props/C04 (end-to-end statement).
-/
import Lc.Lemmas.Busy
import Lc.Lemmas.ProbeLoop

namespace Lc.Probe
open Lc Lc.Mountinfo Lc.Layers Lc.RunM Lc.Hoare Lc.Forest Lc.StateProbe

theorem classifyUsers_busy (cfg : Config) (l : Layer) (users : List User) (hne : users ≠ []) :
    (classifyUsers cfg l users).mountBusy = true ∨ (classifyUsers cfg l users).nonMountBusy = true := by
  rw [classifyUsers_eq]
  cases users with
  | nil => exact absurd rfl hne
  | cons u rest =>
    by_cases hs : sameDirOrDesc u.file cfg.buildRoot = true
    · left; simp [hs]
    · right; simp [hs]

/-- the processes the in-use map attributes to a layer (the same function as
    `StateProbe.usersOf`) -/
def usersOf (inuse : List (Bytes × List User)) (name : Bytes) : List User :=
  match inuse.find? (·.1 == name) with
  | some (_, us) => us
  | none => []

/-- what the probe has established for a layer it has visited, whatever its state (the error
    state is no exception: fix e3cb7aa) -/
def Probed (cfg : Config) (m : Mounts) (us : List User) (l : Layer) : Prop :=
  l.mounts = getMountAndSubmounts m (buildPath cfg l) ∧
    (us ≠ [] → l.mountBusy = true ∨ l.nonMountBusy = true)

theorem probeAll_world (cfg : Config) (inuse : List (Bytes × List User)) (d0 : Defs) (w : World) :
    ((probeAll cfg inuse d0).run.run w).2 = w := by
  have h := extractBoth (· = w) (fun _ w' => w' = w) (fun _ w' => w' = w) _
    (probeAll_inv (fun _ h => h) cfg inuse d0) w rfl
  cases hr : ((probeAll cfg inuse d0).run.run w).1 <;> rw [hr] at h <;> exact h

/-- **the probe, for one layer**: ProbeAllLayerstate leaves the world alone and, when it
    returns, the layer `name` (present in the table, listed in the order) carries exactly the
    mounts at/below its build root, a process flag if any process is attributed to it, and
    Overlain iff a mounted overlay has its build root as lowerdir. -/
theorem probeAll_layer (cfg : Config) (inuse : List (Bytes × List User)) (d0 : Defs) (w : World)
    (m : Mounts) (name : Bytes) (l0 : Layer) (hm : Kernel.probe w.kt = .ok m)
    (hl0 : findLayer d0 name = some l0) (hord : name ∈ d0.order) :
    match (probeAll cfg inuse d0).run.run w with
    | (.ok d, w') => w' = w ∧ ∃ l, findLayer d name = some l ∧ l.layerPath = l0.layerPath ∧
        l.overlain = (overlayLowerdirs m).contains (buildPath cfg l0) ∧
        Probed cfg m (usersOf inuse name) l
    | (.error _, w') => w' = w := by
  have hworld := probeAll_world cfg inuse d0 w
  cases hrun : (probeAll cfg inuse d0).run.run w with
  | mk r w' =>
    rw [hrun] at hworld
    cases r with
    | error e => exact hworld
    | ok d =>
      refine ⟨hworld, ?_⟩
      obtain ⟨m', hm', hloop⟩ := probeAll_run cfg inuse d0 d w w' hrun
      cases hm.symm.trans hm'
      -- the record under `name` keeps path and `overlain`; the round on `name` makes it `Probed`
      refine (probeLoop_ind cfg inuse w.fs
        (fun done d => d.mounts = m ∧ ∃ l, findLayer d name = some l ∧ l.layerPath = l0.layerPath ∧
          l.overlain = (overlayLowerdirs m).contains (buildPath cfg l0) ∧
          (name ∈ done → Probed cfg m (usersOf inuse name) l))
        d0.order ?_ d0.order [] _ d w w' rfl
        ⟨rfl, { l0 with overlain := (overlayLowerdirs m).contains (buildPath cfg l0) },
          by rw [findLayer_refresh, hl0]; rfl, rfl, rfl, fun h => by cases h⟩ hloop).2.2.imp
        fun l ⟨hl, hlp, hov, hp⟩ => ⟨hl, hlp, hov, hp hord⟩
      intro done x _ d lx l' _ ⟨hdm, l, hl, hlp, hov, hp⟩ hf hr
      obtain ⟨s, hl'⟩ := probeRound_eq hr
      have hn : l'.name = x := by rw [hl', probeErr_eq]; exact (ForestInv.findLayer_mem hf).2
      rw [findLayer_setLayer_eq d lx l' (hn ▸ hf), hn]
      refine ⟨hdm, ?_⟩
      split
      · rename_i e
        subst e
        cases hl.symm.trans hf
        refine ⟨l', rfl, ?_, ?_, fun _ => ⟨?_, fun hne => ?_⟩⟩
        · rw [hl', probeErr_eq]; exact hlp
        · rw [hl', probeErr_eq]; exact hov
        · rw [hl', probeErr_eq, ← hdm]; rfl
        · rw [hl']
          exact classifyUsers_busy cfg _ _ hne
      · rename_i e
        exact ⟨l, hl, hlp, hov, fun h => hp (by simpa [e] using h)⟩

end Lc.Probe
