/-
  `renameLayer` as a whole, seen through `Fs.get` at every exit (normal return, error,
  injected fault, crash at any operation index).  Two phases:

  * before the directory move only the automatic export links may have been removed
    (`Same (exPaths cfg l) w0 w`, Lemmas/RemoveLayer);
  * from the move on (`MovedInv`): every admissible path holds what `getMoved` says — the
    initial tree seen through the move `old ↦ new` — or it is the layerconfig of one of the
    rewritten layers (a child with its base updated, the renamed layer at its new place) and
    holds that layer's complete new text.

  Helper lemmas for Props/C11 (crash_atomic_rename).
-/
import Lc.Lemmas.CrashAdd
import Lc.Lemmas.RemoveLayer
import Lc.Lemmas.LayerPaths
import Lc.Lemmas.PretendKeeps
import Lc.Lemmas.ExportsApart
import Lc.Lemmas.ForestCmd

set_option mvcgen.warning false

namespace Lc.CrashRename
open Std.Do Lc Lc.Layers Lc.Layerfile Lc.Hoare Lc.Lemmas.WriteLF Lc.FsMove Lc.RemoveLayer Lc.CrashAdd

/-- the renamed layer as it is written out -/
abbrev renamed (cfg : Config) (l : Layer) (newname : Bytes) : Layer :=
  { l with name := newname, layerPath := layerPath cfg newname }

/-- the layers `renameLayer` writes out: the children of `oldname` with the new base name,
    and the renamed layer itself -/
def Rewritten (cfg : Config) (d : Defs) (oldname newname : Bytes) (l : Layer) (k' : Layer) : Prop :=
  (∃ k, k ∈ d.layers ∧ k.base = oldname ∧ k' = { k with base := newname }) ∨ k' = renamed cfg l newname

/-- the paths the statement speaks about: not at or below an automatic export link (before
    and after the move), not at or below a temporary file, not strictly below a rewritten
    layerconfig -/
def Excl (ex : List Bytes) (Rw : Layer → Prop) (old new p : Bytes) : Prop :=
  (∀ m ∈ ex, Fs.under m p = false) ∧
  (Fs.under new p = true → ∀ m ∈ ex, Fs.under m (old ++ p.drop new.length) = false) ∧
  ∀ k, Rw k → Fs.under (tmpPath k) p = false ∧ (Fs.under (cfgPath k) p = false ∨ p = cfgPath k)

def MovedInv (ex : List Bytes) (Rw : Layer → Prop) (old new : Bytes) (w0 w : World) : Prop :=
  ∀ p, Excl ex Rw old new p →
    Fs.get w.fs p = getMoved w0.fs old new p ∨
    ∃ k, Rw k ∧ p = cfgPath k ∧ Fs.get w.fs p = some (newNode k)

theorem movedInv_of_get_eq (ex Rw old new) (w0 w1 w : World) (h1 : MovedInv ex Rw old new w0 w1)
    (h : ∀ p, Excl ex Rw old new p → Fs.get w.fs p = Fs.get w1.fs p) : MovedInv ex Rw old new w0 w := by
  intro p hp
  rw [h p hp]
  exact h1 p hp

/-- the directory move, started in a world that differs from the initial one only at the
    export links -/
theorem fsRename_same_moved (ex : List Bytes) (Rw : Layer → Prop) (old new : Bytes) (w0 : World)
    (hp : w0.pretend = false) (hold : old ≠ [47]) (hnew : new ≠ [47]) (hsep : Fs.under new old = false) :
    ⦃fun w => ⌜Same ex w0 w⌝⦄ fsRename old new
    ⦃post⟨fun _ w => ⌜MovedInv ex Rw old new w0 w⌝, fun _ w => ⌜Same ex w0 w⌝⟩⦄ := by
  apply lift_rel (fsRename old new) _ _ (fsStep_spec _ _) (Same ex w0)
  · rintro w1 _ w hs ⟨_, h⟩
    rcases h with ⟨ht, _⟩ | ⟨_, hok⟩
    · rw [hs.1, hp] at ht; cases ht
    · intro p hex
      left
      rw [rename_get _ _ old new hok hold hnew hsep p]
      unfold getMoved
      by_cases hn : Fs.under new p = true
      · simp only [hn, if_true]
        exact hs.2 _ (hex.2.1 hn)
      · simp only [hn, Bool.false_eq_true, if_false]
        by_cases ho : Fs.under old p = true
        · simp [ho]
        · simp only [ho, Bool.false_eq_true, if_false]
          exact hs.2 _ hex.1
  · rintro w1 w hs ⟨hfs, hpr⟩
    exact ⟨hpr.trans hs.1, fun p hex => by rw [hfs]; exact hs.2 p hex⟩

/-- one rewrite after the move -/
theorem writeLayerFile_moved (ex : List Bytes) (Rw : Layer → Prop) (old new : Bytes) (w0 : World)
    (k : Layer) (hk : Rw k) : Holds (MovedInv ex Rw old new w0) (writeLayerFile k) := by
  apply lift_rel (writeLayerFile k) _ _ (writeLayerFile_spec k) (MovedInv ex Rw old new w0)
  · rintro w1 _ w h1 ⟨_, h⟩
    rcases h with ⟨_, hfs⟩ | ⟨_, hwr⟩
    · exact movedInv_of_get_eq _ _ _ _ _ _ _ h1 (fun p _ => by rw [hfs])
    · intro p hex
      obtain ⟨hT, hC⟩ := hex.2.2 k hk
      rcases hC with hC | hC
      · rw [hwr.2 p hC hT]; exact h1 p hex
      · right; exact ⟨k, hk, hC, by rw [hC]; exact hwr.1⟩
  · rintro w1 w h1 hfr
    apply movedInv_of_get_eq _ _ _ _ _ _ _ h1
    intro p hex
    exact hfr.1 p (ne_of_under_false _ _ (hex.2.2 k hk).1)

/-- `renameLayer` of a layer found in the table, in two phases: `I` holds until the directory is
    moved and `J` from then on; an exit in either phase ends in `E` -/
theorem renameLayer_phases {I J E : World → Prop} (hI : ∀ w, I w → E w) (hJ : ∀ w, J w → E w)
    (cfg : Config) (d : Defs) (oldname newname : Bytes) (childOrder : List Bytes) (l : Layer)
    (hl : findLayer d oldname = some l) (hX : Holds I (removeLayerExportLinks cfg l))
    (hMv : ⦃fun w => ⌜I w⌝⦄ fsRename l.layerPath (layerPath cfg newname) ⦃post⟨fun _ w => ⌜J w⌝, fun _ w => ⌜I w⌝⟩⦄)
    (hW : ∀ k, Rewritten cfg d oldname newname l k → Holds J (writeLayerFile k)) :
    ⦃fun w => ⌜I w⌝⦄ renameLayer cfg d oldname newname childOrder ⦃post⟨fun _ w => ⌜E w⌝, fun _ w => ⌜E w⌝⟩⦄ := by
  have h1 := testName_inv hI d; have h2 := errorIfError_inv hI; have h3 := errorIfBusy_inv hI
  have h4 := reorder_inv hJ
  have hg : getL d oldname = pure l := by simp [getL, hl]
  unfold Holds Respects at *
  unfold renameLayer
  simp only [hg]
  mvcgen [h1, h2, h3, h4, hX, hMv, hW, fail] invariants
  · post⟨fun _ w => ⌜J w⌝, fun _ w => ⌜E w⌝⟩
  case vc7.a =>
    -- the layer file written in the loop is that of a child
    have hsplit := ‹_ = _ ++ _ :: _›
    have hm := ForestCmd.kidsOf_mem d oldname childOrder _
      (by unfold ForestCmd.kidsOf; rw [hsplit]; exact List.mem_append_right _ (List.mem_cons_self ..))
    exact Or.inl ⟨_, hm.1, hm.2, rfl⟩
  -- after the loop: the renamed layer itself
  case vc13.a => exact Or.inr rfl
  all_goals
    intros
    first | exact hI _ ‹_› | exact hJ _ ‹_›

open Lc.LayerPaths Lc.ExportPath Lc.FsRename

/-- a new name that is empty, illegal or in use is refused before anything happens -/
theorem renameLayer_rejected (cfg : Config) (d : Defs) (old new : Bytes) (co : List Bytes) (w : World)
    (h : testName1 d new NAME_FREE = false) :
    (renameLayer cfg d old new co).run.run w = (.error (.err "name"), w) := by
  unfold renameLayer
  exact RunM.testName_refuses d _ _ w (by simp only [List.all_cons, h, Bool.false_and, Bool.and_false])

theorem prefix_name_ne_root (D n : Bytes) (hn : CleanName n) : D ++ n ≠ [47] := by
  obtain ⟨x, xs, rfl, hx⟩ := clean_not_abs n hn
  cases D with
  | nil => intro h; simp only [List.nil_append, List.cons.injEq] at h; exact hx h.1
  | cons y ys => intro h; have := congrArg List.length h; simp at this

theorem sep_dir (D n m X : Bytes) (hn : CleanName n) (hm : CleanName m) (hne : n ≠ m) (hX : Tail X) :
    Fs.under (D ++ n) (D ++ (m ++ X)) = false := by
  simpa using sep_names D n m [] X hn hm hne tail_nil hX

/-- the final world of every run (pretending or not, refused or not); the directory is moved
    only when the new name is free -/
theorem renameLayer_post_free (cfg : Config) (d : Defs) (oldname newname : Bytes) (childOrder : List Bytes)
    (l : Layer) (w0 : World) (hl : findLayer d oldname = some l) (hpl : Placed cfg l) :
    let w := ((renameLayer cfg d oldname newname childOrder).run.run w0).2
    Same (exPaths cfg l) w0 w ∨ (testName1 d newname NAME_FREE = true ∧
      MovedInv (exPaths cfg l) (Rewritten cfg d oldname newname l) l.layerPath (layerPath cfg newname) w0 w) := by
  cases hp : w0.pretend with
  | true =>
    have := Hoare.extract (Pretend.PInv w0) _ (Pretend.renameLayer_keeps w0 cfg d oldname newname childOrder)
      w0 ⟨rfl, rfl, rfl, rfl, hp⟩
    left
    exact ⟨this.2.2.2.2.trans hp.symm, fun p _ => by rw [this.1]⟩
  | false =>
    cases ht : testName1 d newname NAME_FREE with
    | false =>
      left
      rw [renameLayer_rejected cfg d oldname newname childOrder w0 ht]
      exact same_refl _ _
    | true =>
      obtain ⟨hn1, hn2, hn3⟩ := (RunM.free_iff d newname).mp ht
      have hcn : CleanName newname := legal_clean newname hn1 hn2
      obtain ⟨hlm, hln⟩ := ForestInv.findLayer_mem hl
      have hco : CleanName l.name := placed_clean cfg l hpl
      have hne : newname ≠ l.name := fun e => findLayer_none d newname hn3 l hlm e.symm
      obtain ⟨D, hD⟩ := layer_paths cfg
      have hO := (placed_cfg cfg D hD l hpl).1
      have hN := (hD newname hcn).1
      have hold : l.layerPath ≠ [47] := by rw [hO]; exact prefix_name_ne_root D _ hco
      have hnew : layerPath cfg newname ≠ [47] := by rw [hN]; exact prefix_name_ne_root D _ hcn
      have hsep : Fs.under (layerPath cfg newname) l.layerPath = false := by
        rw [hO, hN]
        simpa using sep_dir D newname l.name [] hcn hco hne tail_nil
      have h := extractBoth _ _ _ _
        (renameLayer_phases (fun _ => Or.inl) (fun _ => Or.inr) cfg d oldname newname childOrder l hl
          (removeLayerExportLinks_same w0 cfg l)
          (fsRename_same_moved (exPaths cfg l) (Rewritten cfg d oldname newname l) l.layerPath
            (layerPath cfg newname) w0 hp hold hnew hsep)
          (writeLayerFile_moved (exPaths cfg l) (Rewritten cfg d oldname newname l) l.layerPath
            (layerPath cfg newname) w0)) w0 (same_refl _ w0)
      exact (by split at h <;> exact h : _ ∨ _).imp_right fun hm => ⟨rfl, hm⟩

/-- what is found after the move at the new place of a path below the old directory -/
theorem getMoved_new (fs : Fs.Tree) (old new rest : Bytes) (hr : Tail rest) :
    getMoved fs old new (new ++ rest) = Fs.get fs (old ++ rest) := by
  unfold getMoved
  rw [under_append new rest hr, List.drop_left]
  rfl

theorem getMoved_other (fs : Fs.Tree) (old new p : Bytes) (h1 : Fs.under new p = false)
    (h2 : Fs.under old p = false) : getMoved fs old new p = Fs.get fs p := by
  unfold getMoved
  simp [h1, h2]

open Lc.ExportsApart

/-- every layer `renameLayer` writes out lies where `findLayers` puts it -/
theorem rewritten_placed {cfg : Config} {d : Defs} {old new : Bytes} {l k : Layer}
    (hd : ∀ k ∈ d.layers, Placed cfg k) (h1 : new ≠ []) (h2 : isLegalLayerName new = true)
    (hk : Rewritten cfg d old new l k) : Placed cfg k := by
  rcases hk with ⟨k2, hk2, _, rfl⟩ | rfl
  · exact hd k2 hk2
  · exact placed_renamed cfg l new h1 h2

/-- the layerconfig of a placed layer is not below the layer directory of another name -/
theorem layerconfig_not_under (cfg : Config) (k : Layer) (hk : Placed cfg k) (n : Bytes) (hn : CleanName n)
    (hne : n ≠ k.name) : Fs.under (layerPath cfg n) (layerconfigPath k) = false := by
  obtain ⟨D, hD⟩ := layer_paths cfg
  rw [(hD n hn).1, (placed_cfg cfg D hD k hk).2]
  exact sep_dir D n k.name _ hn (placed_clean cfg k hk) hne tail_lc

/-- after the move, the layerconfig of a placed layer `k` holds what the moved tree holds there,
    or the complete new text of the rewritten layer of that name: layerconfigs of different
    names and their temporary files do not meet (`cfg_vs`, `cfg_inj`) -/
theorem movedInv_layerconfig {cfg : Config} {d : Defs} {old new : Bytes} {l : Layer} {w0 w : World}
    (hd : ∀ k ∈ d.layers, Placed cfg k) (h1 : new ≠ []) (h2 : isLegalLayerName new = true)
    (hm : MovedInv (exPaths cfg l) (Rewritten cfg d old new l) l.layerPath (layerPath cfg new) w0 w)
    (k : Layer) (hk : Placed cfg k) (hex : ∀ m ∈ exPaths cfg l, Fs.under m (layerconfigPath k) = false)
    (hex' : Fs.under (layerPath cfg new) (layerconfigPath k) = true → ∀ m ∈ exPaths cfg l,
      Fs.under m (l.layerPath ++ (layerconfigPath k).drop (layerPath cfg new).length) = false) :
    Fs.get w.fs (layerconfigPath k) = getMoved w0.fs l.layerPath (layerPath cfg new) (layerconfigPath k) ∨
    ∃ k', Rewritten cfg d old new l k' ∧ k'.name = k.name ∧
      Fs.get w.fs (layerconfigPath k) = some (newNode k') := by
  obtain ⟨D, hD⟩ := layer_paths cfg
  have hkc := (placed_cfg cfg D hD k hk).2
  have hc := placed_clean cfg k hk
  have hRw : ∀ k', Rewritten cfg d old new l k' →
      CleanName k'.name ∧ layerconfigPath k' = D ++ (k'.name ++ 47 :: lcName) :=
    fun k' hk' => ⟨placed_clean cfg k' (rewritten_placed hd h1 h2 hk'),
      (placed_cfg cfg D hD k' (rewritten_placed hd h1 h2 hk')).2⟩
  refine (hm _ ⟨hex, hex', fun k' hk' => ?_⟩).imp_right fun ⟨k', hk', he, hg⟩ => ⟨k', hk', ?_, hg⟩
  · show Fs.under (layerconfigPath k' ++ tmpSuffix) _ = false ∧
      (Fs.under (layerconfigPath k') _ = false ∨ _ = layerconfigPath k')
    rw [hkc, (hRw k' hk').2]
    exact cfg_vs D k.name k'.name hc (hRw k' hk').1
  · have he' : layerconfigPath k = layerconfigPath k' := he
    rw [hkc, (hRw k' hk').2] at he'
    exact (cfg_inj D _ _ hc (hRw k' hk').1 he').symm

theorem excl_of_apart (cfg : Config) (hA : ExportsApart cfg) (l : Layer) (hl : Placed cfg l)
    (Rw : Layer → Prop) (new p : Bytes) (hnew : new ≠ [47]) (hin : InLayerDirs cfg p)
    (hk : ∀ k, Rw k → Fs.under (tmpPath k) p = false ∧ (Fs.under (cfgPath k) p = false ∨ p = cfgPath k)) :
    Excl (exPaths cfg l) Rw l.layerPath new p := by
  refine ⟨exportsApart_exPaths cfg hA l hl p hin, ?_, hk⟩
  intro hu
  obtain ⟨rest, hr, e⟩ := (under_iff new p hnew).1 hu
  rw [e, List.drop_left]
  exact exportsApart_exPaths cfg hA l hl _
    (inLayerDirs_of_under cfg l hl _ (under_append l.layerPath rest hr))

end Lc.CrashRename
