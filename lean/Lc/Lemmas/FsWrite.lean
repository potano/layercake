/-
  Frame lemmas of the file-system model for the operations WriteLayerfile performs
  (open/truncate, append, rename of the temporary file).  Helper lemmas for Props/C11.
-/
import Lc.Lemmas.FsRename

namespace Lc.Lemmas.FsWrite
open Lc

theorem get_nil (p : Bytes) : Fs.get [] p = none := rfl

theorem any_eq_false_of_get_none (fs : Fs.Tree) (p : Bytes) (h : Fs.get fs p = none) :
    fs.any (·.1 == p) = false := by
  rw [Fs.any_key, h]; rfl

theorem get_appendFile_eq (fs : Fs.Tree) (q c chunk : Bytes) (h : Fs.get fs q = some (.file c)) :
    Fs.get (Fs.appendFile fs q chunk) q = some (.file (c ++ chunk)) := by
  unfold Fs.appendFile
  rw [h, Fs.get_set, if_pos rfl]

/-- open(O_CREATE|O_TRUNC): the path is an empty file afterwards, nothing else changed -/
theorem openWrite_trunc (fs fs' : Fs.Tree) (p : Bytes) (h : Fs.openWrite fs p true = .ok fs') :
    Fs.get fs' p = some (.file []) ∧ ∀ q, q ≠ p → Fs.get fs' q = Fs.get fs q := by
  obtain ⟨c, rfl, hc, _⟩ := Fs.openWrite_ok fs fs' p true h
  rw [hc rfl]
  exact ⟨by rw [Fs.get_set, if_pos rfl], fun q hq => by rw [Fs.get_set, if_neg hq]⟩

/-- after a successful rename of `old` to `new` (`old` is not `new` and not below it)
    the node that was at `old` is at `new` -/
theorem rename_get_target (fs fs' : Fs.Tree) (old new : Bytes) (n : Fs.Node) (h : Fs.rename fs old new = .ok fs')
    (hold : old ≠ [47]) (hne : Fs.under new old = false) (hn : Fs.get fs old = some n) :
    Fs.get fs' new = some n := by
  have e : old ≠ new := by
    intro e; rw [e, FsRename.under_self] at hne; cases hne
  have := FsRename.rename_get_new fs fs' old new h hold e [] FsRename.tail_nil
  rwa [List.append_nil, List.append_nil, hne, if_neg (by simp), hn] at this

end Lc.Lemmas.FsWrite
