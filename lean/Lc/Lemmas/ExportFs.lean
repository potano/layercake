/-
  Pure lemmas about the file-system model `Lc.Fs` used by the export-link theorems
  (Props/C16): `Fs.get` after `Fs.set` / `removeAll` / `mkdirAll` / `symlink` / `rename`,
  and the two frame relations `Added` (only new directories / new links appear) and
  `RemovedOnly` (only entries at/under symlinked roots disappear).
-/
import Lc.Lemmas.FsRename
import Lc.Lemmas.FsMkdir

namespace Lc.ExportFs
open Lc Lc.Fs

/-! ### Fs.get -/

theorem get_nil (p : Bytes) : Fs.get [] p = none := rfl

theorem get_set_ne (fs : Tree) (q : Bytes) (n : Node) (p : Bytes) (h : p ≠ q) :
    Fs.get (Fs.set fs q n) p = Fs.get fs p := by
  rw [get_set, if_neg h]

theorem get_removeAll_self (fs : Tree) (m : Bytes) : Fs.get (removeAll fs m) m = none := by
  simp [get_removeAll, FsRename.under_self]

theorem get_removeAll_not_under (fs : Tree) (m p : Bytes) (h : under m p = false) :
    Fs.get (removeAll fs m) p = Fs.get fs p :=
  FsRename.get_removeAll_not_under fs m p h

theorem get_removeAll_none (fs : Tree) (m p : Bytes) (h : Fs.get fs p = none) :
    Fs.get (removeAll fs m) p = none := by
  rw [get_removeAll]; split <;> simp [h]

theorem lexists_eq (fs : Tree) (p : Bytes) : lexists fs p = (Fs.get fs p).isSome := rfl

theorem lexists_false_iff (fs : Tree) (p : Bytes) : lexists fs p = false ↔ Fs.get fs p = none := by
  simp [lexists]

theorem isSymlink_iff (fs : Tree) (p : Bytes) : isSymlink fs p = true ↔ ∃ t, Fs.get fs p = some (.symlink t) := by
  unfold isSymlink
  split <;> simp_all

theorem isSymlink_lexists (fs : Tree) (p : Bytes) (h : isSymlink fs p = true) : lexists fs p = true := by
  obtain ⟨t, ht⟩ := (isSymlink_iff fs p).mp h
  simp [lexists, ht]

/-! ### `Added`: the only changes are new directories and new links from the list `L` -/

def Added (L : List (Bytes × Bytes)) (fs0 fs : Tree) : Prop :=
  ∀ q, Fs.get fs q = Fs.get fs0 q ∨
    (Fs.get fs0 q = none ∧ (Fs.get fs q = some .dir ∨ ∃ e ∈ L, e.1 = q ∧ Fs.get fs q = some (.symlink e.2)))

theorem Added.refl (L : List (Bytes × Bytes)) (fs : Tree) : Added L fs fs := fun _ => Or.inl rfl

theorem Added.trans {L : List (Bytes × Bytes)} {a b c : Tree} (h1 : Added L a b) (h2 : Added L b c) :
    Added L a c := by
  intro q
  rcases h2 q with h | ⟨hn, h⟩
  · rw [h]; exact h1 q
  · rcases h1 q with h' | ⟨hn', h'⟩
    · right; exact ⟨by rw [← h']; exact hn, h⟩
    · rcases h' with h' | ⟨e, _, _, h'⟩ <;> simp [hn] at h'

theorem Added.mono {L L' : List (Bytes × Bytes)} {a b : Tree} (hs : ∀ e ∈ L, e ∈ L') (h : Added L a b) :
    Added L' a b := by
  intro q
  rcases h q with h | ⟨hn, h | ⟨e, he, h⟩⟩
  · exact Or.inl h
  · exact Or.inr ⟨hn, Or.inl h⟩
  · exact Or.inr ⟨hn, Or.inr ⟨e, hs e he, h⟩⟩

/-- existing entries are never changed or removed -/
theorem Added.keeps {L : List (Bytes × Bytes)} {a b : Tree} (h : Added L a b) (q : Bytes) (n : Node)
    (hq : Fs.get a q = some n) : Fs.get b q = some n := by
  rcases h q with h | ⟨hn, _⟩
  · rw [h, hq]
  · simp [hq] at hn

theorem Added.lexists {L : List (Bytes × Bytes)} {a b : Tree} (h : Added L a b) (q : Bytes)
    (hq : lexists a q = true) : lexists b q = true := by
  unfold Fs.lexists at *
  cases hg : Fs.get a q with
  | none => simp [hg] at hq
  | some n => simp [h.keeps q n hg]

theorem Added.isSymlink {L : List (Bytes × Bytes)} {a b : Tree} (h : Added L a b) (q : Bytes)
    (hq : isSymlink a q = true) : isSymlink b q = true := by
  obtain ⟨t, ht⟩ := (isSymlink_iff a q).mp hq
  exact (isSymlink_iff b q).mpr ⟨t, h.keeps q _ ht⟩

theorem added_set_dir (L : List (Bytes × Bytes)) (fs : Tree) (d : Bytes) (h : Fs.get fs d = none) :
    Added L fs (Fs.set fs d .dir) := by
  intro q
  rw [get_set]
  by_cases hq : q = d
  · subst hq; right; exact ⟨h, Or.inl (by simp)⟩
  · left; simp [hq]

/-- os.MkdirAll only adds directories -/
theorem added_mkdirAll (L : List (Bytes × Bytes)) (fs fs' : Tree) (p : Bytes)
    (h : mkdirAll fs p = .ok fs') : Added L fs fs' := by
  refine foldlM_rel (Added L) (Added.refl L) (fun _ _ _ => Added.trans) mkStep ?_ _ fs fs' h
  intro a d a' hs
  rcases mkStep_ok a a' d hs with ⟨_, rfl⟩ | ⟨hg, rfl⟩
  · exact Added.refl L _
  · rw [← set_new a d .dir hg]
    exact added_set_dir L a d hg

theorem mkdirAll_keeps_get (fs fs' : Tree) (p q : Bytes) (n : Node) (h : mkdirAll fs p = .ok fs')
    (hq : Fs.get fs q = some n) : Fs.get fs' q = some n :=
  (added_mkdirAll [] fs fs' p h).keeps q n hq

theorem symlink_exists_err (fs : Tree) (t link : Bytes) (h : lexists fs link = true) :
    symlink fs t link = .error "EEXIST" := by
  simp [symlink, h]

theorem added_symlink (L : List (Bytes × Bytes)) (fs fs' : Tree) (t link : Bytes)
    (hm : (link, t) ∈ L) (h : symlink fs t link = .ok fs') : Added L fs fs' := by
  obtain ⟨hn, _, rfl⟩ := symlink_ok fs fs' t link h
  intro q
  rw [get_set]
  by_cases hq : q = link
  · subst hq
    right
    exact ⟨hn, Or.inr ⟨(q, t), hm, rfl, by simp⟩⟩
  · left; simp [hq]

theorem get_symlink (fs fs' : Tree) (t link : Bytes) (h : symlink fs t link = .ok fs') :
    Fs.get fs' link = some (.symlink t) := by
  obtain ⟨_, _, rfl⟩ := symlink_ok fs fs' t link h
  rw [get_set, if_pos rfl]

/-! ### `RemovedOnly`: entries only disappear, and only at/under roots from `S` that
    were symbolic links in the reference tree -/

def RemovedOnly (S : List Bytes) (fs0 fs : Tree) : Prop :=
  ∀ p, Fs.get fs p = Fs.get fs0 p ∨
    (Fs.get fs p = none ∧ ∃ m ∈ S, under m p = true ∧ isSymlink fs0 m = true)

theorem RemovedOnly.refl (S : List Bytes) (fs : Tree) : RemovedOnly S fs fs := fun _ => Or.inl rfl

theorem RemovedOnly.isSymlink_ref {S : List Bytes} {fs0 fs : Tree} (h : RemovedOnly S fs0 fs) (m : Bytes)
    (hm : isSymlink fs m = true) : isSymlink fs0 m = true := by
  obtain ⟨t, ht⟩ := (isSymlink_iff fs m).mp hm
  rcases h m with h | ⟨hn, _⟩
  · exact (isSymlink_iff fs0 m).mpr ⟨t, by rw [← h]; exact ht⟩
  · simp [ht] at hn

theorem RemovedOnly.step {S : List Bytes} {fs0 fs : Tree} (h : RemovedOnly S fs0 fs) (m : Bytes)
    (hmS : m ∈ S) (hm : isSymlink fs m = true) : RemovedOnly S fs0 (removeAll fs m) := by
  intro p
  rw [get_removeAll]
  by_cases hu : under m p = true
  · right
    exact ⟨by simp [hu], m, hmS, hu, h.isSymlink_ref m hm⟩
  · simp only [hu, Bool.false_eq_true, if_false]
    exact h p

/-- entries only disappear -/
theorem RemovedOnly.none {S : List Bytes} {fs0 fs : Tree} (h : RemovedOnly S fs0 fs) (p : Bytes)
    (hp : Fs.get fs0 p = none) : Fs.get fs p = none := by
  rcases h p with h | ⟨hn, _⟩
  · rw [h, hp]
  · exact hn

/-! ### rename -/

/-- os.Rename creates entries only at/under the new path -/
theorem rename_none (fs fs' : Tree) (old new p : Bytes) (h : rename fs old new = .ok fs')
    (ho : old ≠ [47]) (hu : under new p = false) (hp : Fs.get fs p = none) : Fs.get fs' p = none := by
  cases hg : Fs.get fs' p with
  | none => rfl
  | some n =>
    exfalso
    rcases FsRename.rename_mem fs fs' old new h ho p n (get_some_mem fs' p n hg) with ⟨hm, _⟩ | ⟨r, hr, e, _⟩
    · exact (get_eq_none_iff fs p).mp hp _ hm rfl
    · rw [e, FsRename.under_append new r hr] at hu; cases hu

/-! ### writes to one file -/

theorem openWrite_none (fs fs' : Tree) (f p : Bytes) (t : Bool) (h : openWrite fs f t = .ok fs')
    (hne : p ≠ f) (hp : Fs.get fs p = none) : Fs.get fs' p = none := by
  obtain ⟨c, rfl, _⟩ := openWrite_ok fs fs' f t h
  rw [get_set, if_neg hne, hp]

theorem appendFile_none (fs : Tree) (f p chunk : Bytes) (hne : p ≠ f) (hp : Fs.get fs p = none) :
    Fs.get (appendFile fs f chunk) p = none := by
  rw [get_appendFile_ne fs p f chunk hne, hp]

end Lc.ExportFs
