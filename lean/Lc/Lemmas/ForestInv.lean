/-
  The forest invariant of the layer table (`WF`) and its preservation by the four pure
  table updates behind add / remove / rename / rebase.  Helpers for Props/C02.

  `Chain L b c`: following base links from the name `b` through the table `L` (each link
  resolved by `find?` on the name, as the Go code does) one passes the names `c` and
  arrives at a root.  `chainOk_iff` / `checkInheritance_iff` say that the fuelled,
  visited-set walk of `checkInheritance` accepts exactly the tables in which every layer
  has such a chain that does not come back to the layer (the fuel `#layers + 1` is never
  the reason for a refusal: pigeonhole).
-/
import Lc.Lemmas.Forest

namespace Lc.ForestInv
open Lc Lc.Layers Lc.Forest

/-! ### chains -/

inductive Chain (L : List Layer) : Bytes → List Bytes → Prop where
  | root : Chain L [] []
  | up (b : Bytes) (p : Layer) (c : List Bytes) : b ≠ [] → L.find? (·.name == b) = some p →
      Chain L p.base c → Chain L b (b :: c)

theorem find_name {L : List Layer} {b : Bytes} {p : Layer}
    (h : L.find? (·.name == b) = some p) : p.name = b := by
  have := List.find?_some h
  simpa using this

/-- a chain that starts at a named base starts with that name -/
theorem chain_head {L : List Layer} {b : Bytes} {c : List Bytes} (h : Chain L b c) (hb : b ≠ []) :
    ∃ p c', L.find? (·.name == b) = some p ∧ c = b :: c' ∧ Chain L p.base c' := by
  cases h with
  | root => exact absurd rfl hb
  | up _ p c' _ hf hc => exact ⟨p, c', hf, rfl, hc⟩

/-- … and any chain from the base of the layer of that name continues it -/
theorem chain_from {L : List Layer} {b : Bytes} {p : Layer} (hb : b ≠ [])
    (hf : L.find? (·.name == b) = some p) (P : List Bytes → Prop) :
    (∃ c, Chain L b c ∧ P c) ↔ ∃ c', Chain L p.base c' ∧ P (b :: c') := by
  constructor
  · rintro ⟨c, hc, hP⟩
    obtain ⟨q, c', hq, rfl, hc'⟩ := chain_head hc hb
    rw [hf] at hq
    cases hq
    exact ⟨c', hc', hP⟩
  · rintro ⟨c', hc', hP⟩
    exact ⟨b :: c', Chain.up b p c' hb hf hc', hP⟩

theorem chainOk_iff (L : List Layer) :
    ∀ (fuel : Nat) (v : List Bytes) (b : Bytes),
      chainOk L fuel v b = true ↔
        ∃ c, Chain L b c ∧ c.length < fuel ∧ c.Nodup ∧ ∀ x ∈ c, x ∉ v := by
  intro fuel
  induction fuel with
  | zero =>
    intro v b
    simp [chainOk]
  | succ n ih =>
    intro v b
    unfold chainOk
    by_cases hb : b = []
    · subst hb
      simp only [List.length_nil, beq_self_eq_true, if_true, true_iff]
      exact ⟨[], Chain.root, by simp, List.nodup_nil, by simp⟩
    have hb' : ¬ (b.length == 0) = true := fun h => hb ((length_beq_zero b).mp h)
    simp only [hb', Bool.false_eq_true, if_false]
    cases hf : L.find? (·.name == b) with
    | none =>
      simp only [Bool.false_eq_true, false_iff]
      rintro ⟨c, hc, _⟩
      obtain ⟨p, _, hp, _⟩ := chain_head hc hb
      rw [hf] at hp
      cases hp
    | some p =>
      rw [chain_from hb hf (fun c => c.length < n + 1 ∧ c.Nodup ∧ ∀ x ∈ c, x ∉ v)]
      simp only [find_name hf]
      by_cases hv : b ∈ v
      · rw [if_pos (by simpa using hv)]
        simp only [Bool.false_eq_true, false_iff]
        rintro ⟨c', _, _, _, hd⟩
        exact hd b (by simp) hv
      · rw [if_neg (by simpa using hv), ih]
        -- the visited name `b` is kept off the rest of the chain by `Nodup` on the other side
        refine exists_congr fun c' => and_congr_right fun _ => ?_
        simp only [List.length_cons, List.nodup_cons, List.mem_cons, forall_eq_or_imp, not_or]
        constructor
        · rintro ⟨hl, hn, hd⟩
          exact ⟨by omega, ⟨fun hm => (hd b hm).1 rfl, hn⟩, hv, fun x hx => (hd x hx).2⟩
        · rintro ⟨hl, ⟨hbc, hn⟩, _, hd⟩
          exact ⟨by omega, hn, fun x hx => ⟨fun e => hbc (e ▸ hx), hd x hx⟩⟩

/-- every name on a chain is the name of a layer of the table -/
theorem chain_names {L : List Layer} {b : Bytes} {c : List Bytes} (h : Chain L b c) :
    ∀ x ∈ c, x ∈ L.map (·.name) := by
  induction h with
  | root => simp
  | up b p c _ hf _ ih =>
    intro x hx
    rcases List.mem_cons.mp hx with rfl | hx
    · exact List.mem_map.mpr ⟨p, List.mem_of_find?_eq_some hf, find_name hf⟩
    · exact ih x hx

/-- **the cycle check, without fuel and visited set**: `checkInheritance` accepts a table iff
    from every layer's base a chain of distinct names leads to a root without passing the
    layer's own name -/
theorem checkInheritance_iff (L : List Layer) :
    checkInheritance L = true ↔
      ∀ l ∈ L, ∃ c, Chain L l.base c ∧ c.Nodup ∧ l.name ∉ c := by
  unfold checkInheritance
  rw [List.all_eq_true]
  constructor
  · intro h l hl
    obtain ⟨c, hc, _, hn, hd⟩ := (chainOk_iff L _ _ _).mp (h l hl)
    refine ⟨c, hc, hn, ?_⟩
    intro hm
    exact hd _ hm (by simp)
  · intro h l hl
    obtain ⟨c, hc, hn, hd⟩ := h l hl
    rw [chainOk_iff]
    refine ⟨c, hc, ?_, hn, ?_⟩
    · have := List.Nodup.length_le_of_subset hn (fun x hx => chain_names hc x hx)
      simp at this
      omega
    · intro x hx hxv
      simp at hxv
      subst hxv
      exact hd hx

theorem self_base_ne (L : List Layer) (h : checkInheritance L = true) (l : Layer) (hl : l ∈ L)
    (hne : l.name ≠ []) : l.base ≠ l.name := by
  rw [checkInheritance_iff] at h
  intro e
  obtain ⟨c, hc, _, hd⟩ := h l hl
  obtain ⟨_, c', _, hcc, _⟩ := chain_head hc (by rw [e]; exact hne)
  apply hd; rw [hcc, e]; simp

/-! ### lookups in the updated tables -/

theorem find?_filter_ne (L : List Layer) (n b : Bytes) (hb : b ≠ n) :
    (L.filter (·.name != n)).find? (·.name == b) = L.find? (·.name == b) := by
  induction L with
  | nil => rfl
  | cons x xs ih =>
    by_cases hx : x.name = n
    · have h1 : (x.name != n) = false := by simp [hx]
      have h2 : (x.name == b) = false := by
        rw [hx]; simp; exact fun h => hb h.symm
      simp only [List.filter_cons, h1, List.find?_cons, h2]
      exact ih
    · have h1 : (x.name != n) = true := by simp [hx]
      simp only [List.filter_cons, h1, if_true, List.find?_cons]
      rw [ih]

theorem find?_none_iff (L : List Layer) (n : Bytes) :
    L.find? (·.name == n) = none ↔ n ∉ L.map (·.name) := by
  rw [List.find?_eq_none]
  simp only [List.mem_map, not_exists, not_and, beq_iff_eq]

/-- a map that keeps names keeps lookups, up to the map -/
theorem find?_map_keep (L : List Layer) (f : Layer → Layer) (hf : ∀ x, (f x).name = x.name) (b : Bytes) :
    (L.map f).find? (·.name == b) = (L.find? (·.name == b)).map f := by
  induction L with
  | nil => rfl
  | cons x xs ih =>
    simp only [List.map_cons, List.find?_cons, hf]
    by_cases hx : (x.name == b) = true
    · simp [hx]
    · simp only [hx]; exact ih

/-! ### add -/

theorem chain_append {L : List Layer} (x : Layer) {b : Bytes} {c : List Bytes} (h : Chain L b c) :
    Chain (L ++ [x]) b c := by
  induction h with
  | root => exact Chain.root
  | up b p c hb hf _ ih =>
    refine Chain.up b p c hb ?_ ih
    rw [List.find?_append, hf]; rfl

theorem check_add (L : List Layer) (x : Layer) (hfree : x.name ∉ L.map (·.name))
    (hbase : x.base ≠ [] → ∃ p, L.find? (·.name == x.base) = some p)
    (h : checkInheritance L = true) : checkInheritance (L ++ [x]) = true := by
  rw [checkInheritance_iff] at h ⊢
  intro l hl
  rcases List.mem_append.mp hl with hl | hl
  · obtain ⟨c, hc, hn, hd⟩ := h l hl
    exact ⟨c, chain_append x hc, hn, hd⟩
  · simp at hl
    subst hl
    by_cases hb : l.base = []
    · rw [hb]
      exact ⟨[], Chain.root, List.nodup_nil, by simp⟩
    · obtain ⟨p, hp⟩ := hbase hb
      have hpm : p ∈ L := List.mem_of_find?_eq_some hp
      have hpn : p.name = l.base := find_name hp
      obtain ⟨c, hc, hn, hd⟩ := h p hpm
      have hch : Chain L l.base (l.base :: c) := Chain.up l.base p c hb hp hc
      refine ⟨l.base :: c, chain_append l hch, ?_, ?_⟩
      · rw [List.nodup_cons]; exact ⟨by rw [← hpn]; exact hd, hn⟩
      · intro hm
        exact hfree (chain_names hch _ hm)

/-! ### remove -/

theorem chain_filter {L : List Layer} (n : Bytes) {b : Bytes} {c : List Bytes} (h : Chain L b c)
    (hn : n ∉ c) : Chain (L.filter (·.name != n)) b c := by
  induction h with
  | root => exact Chain.root
  | up b p c hb hf _ ih =>
    have hbn : b ≠ n := fun e => hn (by simp [e])
    refine Chain.up b p c hb ?_ (ih (fun hm => hn (List.mem_cons_of_mem _ hm)))
    rw [find?_filter_ne L n b hbn]; exact hf

/-- nobody's base is `n`: no chain that starts elsewhere passes `n` -/
theorem chain_avoid {L : List Layer} (n : Bytes) (hno : ∀ l ∈ L, l.base ≠ n) {b : Bytes}
    {c : List Bytes} (h : Chain L b c) (hb : b ≠ n) : n ∉ c := by
  induction h with
  | root => simp
  | up b p c _ hf _ ih =>
    intro hm
    rcases List.mem_cons.mp hm with e | hm
    · exact hb e.symm
    · exact ih (hno p (List.mem_of_find?_eq_some hf)) hm

theorem check_remove (L : List Layer) (n : Bytes) (hno : ∀ l ∈ L, l.base ≠ n)
    (h : checkInheritance L = true) : checkInheritance (L.filter (·.name != n)) = true := by
  rw [checkInheritance_iff] at h ⊢
  intro l hl
  have hlL := (List.mem_filter.mp hl).1
  obtain ⟨c, hc, hnd, hd⟩ := h l hlL
  exact ⟨c, chain_filter n hc (chain_avoid n hno hc (hno l hlL)), hnd, hd⟩

/-! ### rename -/

/-- the renaming of names: `old ↦ new`, everything else fixed -/
def rn (old new x : Bytes) : Bytes := if x = old then new else x

theorem rn_old (old new : Bytes) : rn old new old = new := if_pos rfl

theorem rn_ne {old x : Bytes} (new : Bytes) (h : x ≠ old) : rn old new x = x := if_neg h

/-- what rename does to a child record -/
def rebaseKid (old new : Bytes) (x : Layer) : Layer :=
  if x.base == old then { x with base := new } else x

theorem rebaseKid_name (old new : Bytes) (x : Layer) : (rebaseKid old new x).name = x.name := by
  unfold rebaseKid; split <;> rfl

theorem rebaseKid_base (old new : Bytes) (x : Layer) : (rebaseKid old new x).base = rn old new x.base := by
  unfold rebaseKid rn
  by_cases h : x.base = old <;> simp [h]

/-- the table after `rename old new`: children re-based, the old record dropped, the new
    record `l'` appended -/
def renamed (L : List Layer) (old new : Bytes) (l' : Layer) : List Layer :=
  (L.map (rebaseKid old new)).filter (·.name != old) ++ [l']

theorem rn_inj (L : List Layer) (old new : Bytes) (hnew : new ∉ L.map (·.name)) (a b : Bytes)
    (ha : a ∈ L.map (·.name)) (hb : b ∈ L.map (·.name)) (h : rn old new a = rn old new b) : a = b := by
  unfold rn at h
  by_cases h1 : a = old <;> by_cases h2 : b = old <;> simp only [h1, h2, if_true, if_false] at h
  · rw [h1, h2]
  · rw [h] at hnew; exact absurd hb hnew
  · rw [← h] at hnew; exact absurd ha hnew
  · exact h

theorem names_renamed_front (L : List Layer) (old new : Bytes) :
    ((L.map (rebaseKid old new)).filter (·.name != old)).map (·.name)
      = (L.map (·.name)).filter (· != old) := by
  induction L with
  | nil => rfl
  | cons x xs ih =>
    simp only [List.map_cons, List.filter_cons, rebaseKid_name]
    by_cases h : (x.name != old) = true
    · simp only [h, if_true, List.map_cons, rebaseKid_name, ih]
    · simp only [h, Bool.false_eq_true, if_false, ih]

theorem chain_rename (L : List Layer) (old new : Bytes) (l l' : Layer)
    (hnew : new ∉ L.map (·.name)) (hne : new ≠ []) (hoe : old ≠ [])
    (hl : L.find? (·.name == old) = some l) (hlb : l.base ≠ old)
    (hn' : l'.name = new) (hb' : l'.base = l.base)
    {b : Bytes} {c : List Bytes} (h : Chain L b c) :
    Chain (renamed L old new l') (rn old new b) (c.map (rn old new)) := by
  induction h with
  | root =>
    rw [rn_ne new (fun e => hoe e.symm)]; exact Chain.root
  | up b p c hb hf _ ih =>
    simp only [List.map_cons]
    by_cases hbo : b = old
    · -- the walk passes the renamed layer itself
      subst hbo
      rw [hl] at hf
      cases hf
      rw [rn_old]
      have hfront : ((L.map (rebaseKid b new)).filter (·.name != b)).find? (·.name == new) = none := by
        rw [find?_none_iff, names_renamed_front]
        intro hm
        exact hnew (List.mem_filter.mp hm).1
      have hfind : (renamed L b new l').find? (·.name == new) = some l' := by
        unfold renamed
        rw [List.find?_append, hfront]
        simp [hn']
      refine Chain.up new l' _ hne hfind ?_
      rw [hb', ← rn_ne new hlb]; exact ih
    · rw [rn_ne new hbo]
      have hfind : (renamed L old new l').find? (·.name == b) = some (rebaseKid old new p) := by
        unfold renamed
        rw [List.find?_append, find?_filter_ne _ old b hbo,
          find?_map_keep L _ (rebaseKid_name old new) b, hf]
        rfl
      refine Chain.up b _ _ hb hfind ?_
      rw [rebaseKid_base]; exact ih

theorem nodup_map_rn (L : List Layer) (old new : Bytes) (hnew : new ∉ L.map (·.name))
    (c : List Bytes) (hc : ∀ x ∈ c, x ∈ L.map (·.name)) (hn : c.Nodup) :
    (c.map (rn old new)).Nodup := by
  unfold List.Nodup
  rw [List.pairwise_map]
  exact List.Pairwise.imp_of_mem
    (fun ha hb hab e => hab (rn_inj L old new hnew _ _ (hc _ ha) (hc _ hb) e)) hn

/-- every record of the renamed table is a record of the old one with name and base renamed -/
theorem mem_renamed {L : List Layer} {old new : Bytes} {l l' y : Layer}
    (hl : L.find? (·.name == old) = some l) (hlb : l.base ≠ old)
    (hn' : l'.name = new) (hb' : l'.base = l.base) (hy : y ∈ renamed L old new l') :
    ∃ x ∈ L, y.name = rn old new x.name ∧ y.base = rn old new x.base := by
  unfold renamed at hy
  rcases List.mem_append.mp hy with hy | hy
  · obtain ⟨hy1, hy2⟩ := List.mem_filter.mp hy
    obtain ⟨x, hx, rfl⟩ := List.mem_map.mp hy1
    rw [rebaseKid_name] at hy2
    have hxo : x.name ≠ old := by simpa using hy2
    exact ⟨x, hx, by rw [rebaseKid_name, rn_ne new hxo], rebaseKid_base old new x⟩
  · obtain rfl := List.mem_singleton.mp hy
    exact ⟨l, List.mem_of_find?_eq_some hl, by rw [hn', find_name hl, rn_old],
      by rw [hb', rn_ne new hlb]⟩

theorem check_rename (L : List Layer) (old new : Bytes) (l l' : Layer)
    (hnew : new ∉ L.map (·.name)) (hne : new ≠ []) (hoe : old ≠ [])
    (hl : L.find? (·.name == old) = some l)
    (hn' : l'.name = new) (hb' : l'.base = l.base)
    (h : checkInheritance L = true) : checkInheritance (renamed L old new l') = true := by
  have hlm : l ∈ L := List.mem_of_find?_eq_some hl
  have hln : l.name = old := find_name hl
  have hlb : l.base ≠ old := hln ▸ self_base_ne L h l hlm (hln ▸ hoe)
  rw [checkInheritance_iff] at h
  -- every old layer, seen through the renaming, has its chain in the new table
  have key : ∀ x ∈ L, ∃ c, Chain (renamed L old new l') (rn old new x.base) c ∧ c.Nodup
      ∧ rn old new x.name ∉ c := by
    intro x hx
    obtain ⟨c, hc, hn, hd⟩ := h x hx
    refine ⟨c.map (rn old new), chain_rename L old new l l' hnew hne hoe hl hlb hn' hb' hc,
      nodup_map_rn L old new hnew c (chain_names hc) hn, ?_⟩
    intro hm
    obtain ⟨z, hz, e⟩ := List.mem_map.mp hm
    have := rn_inj L old new hnew z x.name (chain_names hc z hz) (List.mem_map.mpr ⟨x, hx, rfl⟩) e
    rw [this] at hz
    exact hd hz
  rw [checkInheritance_iff]
  intro y hy
  obtain ⟨x, hx, hyn, hyb⟩ := mem_renamed hl hlb hn' hb' hy
  rw [hyn, hyb]
  exact key x hx

/-! ### the invariant -/

/-- **well-formed layer table**: names pairwise distinct; every name non-empty and legal;
    every named base is the name of a layer; the cycle check of package manage accepts the
    table (`checkInheritance_iff`, `Props.C02.wf_no_self_ancestor`: from every layer the base
    links lead to a root and never back); and `order` is what `normalizeOrder` computes for
    the table (hence a permutation of the names with every ancestor before its descendants:
    `order_perm`, `ancestor_precedes`).  `parent` follows from `acyclic` (`parent_of_check`);
    it is a field so that users read it off without the chain argument. -/
structure WF (d : Defs) : Prop where
  nodup : (d.layers.map (·.name)).Nodup
  legal : ∀ l ∈ d.layers, l.name ≠ [] ∧ isLegalLayerName l.name = true
  parent : ∀ l ∈ d.layers, l.base ≠ [] → ∃ p ∈ d.layers, p.name = l.base
  acyclic : checkInheritance d.layers = true
  order : normalizeOrder d.layers = .ok d.order

/-- an accepted table has no dangling base -/
theorem parent_of_check (L : List Layer) (h : checkInheritance L = true) :
    ∀ l ∈ L, l.base ≠ [] → ∃ p ∈ L, p.name = l.base := by
  rw [checkInheritance_iff] at h
  intro l hl hb
  obtain ⟨c, hc, _, _⟩ := h l hl
  obtain ⟨p, _, hf, _, _⟩ := chain_head hc hb
  exact ⟨p, List.mem_of_find?_eq_some hf, find_name hf⟩

theorem findLayer_mem {d : Defs} {n : Bytes} {l : Layer} (h : findLayer d n = some l) :
    l ∈ d.layers ∧ l.name = n :=
  ⟨List.mem_of_find?_eq_some h, find_name h⟩

theorem findLayer_none_iff (d : Defs) (n : Bytes) :
    findLayer d n = none ↔ n ∉ d.layers.map (·.name) := find?_none_iff d.layers n

theorem wf_empty : WF {} :=
  ⟨List.nodup_nil, fun _ hl => absurd hl List.not_mem_nil, fun _ hl => absurd hl List.not_mem_nil, rfl, rfl⟩

/-- **add**: a record with a fresh legal name and an empty or existing base is appended -/
theorem wf_add (d : Defs) (x : Layer) (o : List Bytes) (h : WF d)
    (hne : x.name ≠ []) (hlegal : isLegalLayerName x.name = true) (hfree : findLayer d x.name = none)
    (hbase : x.base ≠ [] → (findLayer d x.base).isSome = true)
    (ho : normalizeOrder (d.layers ++ [x]) = .ok o) :
    WF { d with layers := d.layers ++ [x], order := o } := by
  have hfree' := (findLayer_none_iff d x.name).mp hfree
  have hbase' : x.base ≠ [] → ∃ p, d.layers.find? (·.name == x.base) = some p := by
    intro hb
    exact Option.isSome_iff_exists.mp (hbase hb)
  have hc := check_add d.layers x hfree' hbase' h.acyclic
  refine ⟨?_, ?_, parent_of_check _ hc, hc, ho⟩
  · show ((d.layers ++ [x]).map (·.name)).Nodup
    rw [List.map_append, List.nodup_append]
    refine ⟨h.nodup, by simp, ?_⟩
    intro a ha b hb e
    simp at hb
    rw [e, hb] at ha
    exact hfree' ha
  · intro l hl
    rcases List.mem_append.mp hl with hl | hl
    · exact h.legal l hl
    · simp at hl; subst hl; exact ⟨hne, hlegal⟩

theorem no_child {d : Defs} {n : Bytes} (h : hasChild d n = false) : ∀ l ∈ d.layers, l.base ≠ n := by
  intro l hl e
  unfold hasChild at h
  rw [List.any_eq_false] at h
  exact h l hl (by simp [e])

/-- **remove**: the record of a layer without children is dropped -/
theorem wf_remove (d : Defs) (n : Bytes) (o : List Bytes) (h : WF d)
    (hno : hasChild d n = false)
    (ho : normalizeOrder (d.layers.filter (·.name != n)) = .ok o) :
    WF { d with layers := d.layers.filter (·.name != n), order := o } := by
  have hc := check_remove d.layers n (no_child hno) h.acyclic
  refine ⟨?_, ?_, parent_of_check _ hc, hc, ho⟩
  · exact List.Nodup.sublist (List.Sublist.map _ List.filter_sublist) h.nodup
  · intro l hl
    exact h.legal l (List.mem_filter.mp hl).1

theorem map_setLayer {β} (f : Layer → β) (d : Defs) (l' : Layer)
    (h : ∀ x ∈ d.layers, x.name = l'.name → f l' = f x) :
    (setLayer d l').layers.map f = d.layers.map f := by
  unfold setLayer
  simp only [List.map_map]
  apply List.map_congr_left
  intro x hx
  simp only [Function.comp]
  split
  · rename_i hxn; exact h x hx (by simpa using hxn)
  · rfl

/-- **rebase** (and every other in-place update of a record): a record is replaced by one
    of the same name and the cycle check accepts the result -/
theorem wf_setLayer (d : Defs) (l' : Layer) (o : List Bytes) (h : WF d)
    (hc : checkInheritance (setLayer d l').layers = true)
    (ho : normalizeOrder (setLayer d l').layers = .ok o) :
    WF { setLayer d l' with order := o } := by
  have hnames := map_setLayer (·.name) d l' (fun _ _ e => e.symm)
  refine ⟨?_, ?_, parent_of_check _ hc, hc, ho⟩
  · show ((setLayer d l').layers.map (·.name)).Nodup
    rw [hnames]; exact h.nodup
  · intro x hx
    have hxn : x.name ∈ (setLayer d l').layers.map (·.name) :=
      List.mem_map.mpr ⟨x, hx, rfl⟩
    rw [hnames] at hxn
    obtain ⟨y, hy, e⟩ := List.mem_map.mp hxn
    rw [← e]; exact h.legal y hy

/-- **rename**: children re-based, the old record replaced by one with the new name -/
theorem wf_rename (d : Defs) (old new : Bytes) (l l' : Layer) (o : List Bytes) (h : WF d)
    (hl : findLayer d old = some l) (hne : new ≠ []) (hlegal : isLegalLayerName new = true)
    (hfree : findLayer d new = none) (hn' : l'.name = new) (hb' : l'.base = l.base)
    (ho : normalizeOrder (renamed d.layers old new l') = .ok o) :
    WF { d with layers := renamed d.layers old new l', order := o } := by
  have hnew := (findLayer_none_iff d new).mp hfree
  have hoe : old ≠ [] := by
    have := h.legal l (findLayer_mem hl).1
    rw [(findLayer_mem hl).2] at this
    exact this.1
  have hc := check_rename d.layers old new l l' hnew hne hoe hl hn' hb' h.acyclic
  refine ⟨?_, ?_, parent_of_check _ hc, hc, ho⟩
  · show ((renamed d.layers old new l').map (·.name)).Nodup
    unfold renamed
    rw [List.map_append, names_renamed_front, List.nodup_append]
    refine ⟨List.Nodup.sublist List.filter_sublist h.nodup, by simp, ?_⟩
    intro a ha b hb e
    simp at hb
    rw [e, hb, hn'] at ha
    exact hnew (List.mem_filter.mp ha).1
  · intro x hx
    unfold renamed at hx
    rcases List.mem_append.mp hx with hx | hx
    · obtain ⟨hx1, _⟩ := List.mem_filter.mp hx
      obtain ⟨y, hy, rfl⟩ := List.mem_map.mp hx1
      rw [rebaseKid_name]; exact h.legal y hy
    · simp at hx; subst hx; rw [hn']; exact ⟨hne, hlegal⟩

/-! ### the (name, base) view: all the invariant depends on -/

def nb (l : Layer) : Bytes × Bytes := (l.name, l.base)

theorem find?_view {L L' : List Layer} (h : L.map nb = L'.map nb) (b : Bytes) :
    (L.find? (·.name == b)).map nb = (L'.find? (·.name == b)).map nb := by
  induction L generalizing L' with
  | nil =>
    cases L' with
    | nil => rfl
    | cons y ys => simp at h
  | cons x xs ih =>
    cases L' with
    | nil => simp at h
    | cons y ys =>
      simp only [List.map_cons, List.cons.injEq] at h
      obtain ⟨hxy, ht⟩ := h
      have hn : x.name = y.name := congrArg Prod.fst hxy
      simp only [List.find?_cons, hn]
      by_cases hy : (y.name == b) = true
      · simp [hy, hxy]
      · simp only [hy]; exact ih ht

theorem chainOk_view {L L' : List Layer} (h : L.map nb = L'.map nb) :
    ∀ (fuel : Nat) (v : List Bytes) (b : Bytes), chainOk L fuel v b = chainOk L' fuel v b := by
  intro fuel
  induction fuel with
  | zero => intro v b; rfl
  | succ n ih =>
    intro v b
    unfold chainOk
    have hf := find?_view h b
    cases h1 : L.find? (·.name == b) <;> cases h2 : L'.find? (·.name == b) <;>
      rw [h1, h2] at hf <;> simp at hf
    all_goals first
      | rfl
      | (rename_i a a'
         have e1 : a.name = a'.name := congrArg Prod.fst hf
         have e2 : a.base = a'.base := congrArg Prod.snd hf
         simp only [e1, e2, ih])

theorem sortKey_view {L L' : List Layer} (h : L.map nb = L'.map nb) :
    ∀ (fuel : Nat) (b acc : Bytes), sortKey L fuel b acc = sortKey L' fuel b acc := by
  intro fuel
  induction fuel with
  | zero => intro b acc; rfl
  | succ n ih =>
    intro b acc
    unfold sortKey
    have hf := find?_view h b
    cases h1 : L.find? (·.name == b) <;> cases h2 : L'.find? (·.name == b) <;>
      rw [h1, h2] at hf <;> simp at hf
    all_goals first
      | rfl
      | (rename_i a a'
         have e2 : a.base = a'.base := congrArg Prod.snd hf
         simp only [e2, ih])

theorem length_view {L L' : List Layer} (h : L.map nb = L'.map nb) : L.length = L'.length := by
  have := congrArg List.length h
  simpa using this

theorem checkInheritance_view {L L' : List Layer} (h : L.map nb = L'.map nb) :
    checkInheritance L = checkInheritance L' := by
  have e : ∀ M : List Layer, checkInheritance M
      = (M.map nb).all (fun p => chainOk M (M.length + 1) [p.1] p.2) := by
    intro M; unfold checkInheritance; rw [List.all_map]; rfl
  rw [e L, e L', h, length_view h]
  congr 1
  funext p
  exact chainOk_view h _ _ _

theorem normalizeOrder_view {L L' : List Layer} (h : L.map nb = L'.map nb) :
    normalizeOrder L = normalizeOrder L' := by
  have e : ∀ M : List Layer,
      (M.map fun l => (l.name, sortKey M (M.length + 1) l.base l.name))
        = (M.map nb).map (fun p => (p.1, sortKey M (M.length + 1) p.2 p.1)) := by
    intro M; rw [List.map_map]; rfl
  have hk : (L.map fun l => (l.name, sortKey L (L.length + 1) l.base l.name))
      = (L'.map fun l => (l.name, sortKey L' (L'.length + 1) l.base l.name)) := by
    rw [e L, e L', h, length_view h]
    congr 1
    funext p
    rw [sortKey_view h]
  unfold normalizeOrder
  simp only [hk]

theorem names_of_view (L : List Layer) : L.map (·.name) = (L.map nb).map Prod.fst := by
  rw [List.map_map]; rfl

/-- a table with the same (name, base) view and the same order is as well-formed -/
theorem wf_of_view {d d' : Defs} (h : WF d) (hv : d'.layers.map nb = d.layers.map nb)
    (ho : d'.order = d.order) : WF d' := by
  have hc : checkInheritance d'.layers = true := by rw [checkInheritance_view hv]; exact h.acyclic
  refine ⟨?_, ?_, parent_of_check _ hc, hc, ?_⟩
  · rw [names_of_view, hv, ← names_of_view]; exact h.nodup
  · intro l hl
    have : nb l ∈ d.layers.map nb := by rw [← hv]; exact List.mem_map.mpr ⟨l, hl, rfl⟩
    obtain ⟨y, hy, e⟩ := List.mem_map.mp this
    have e1 : y.name = l.name := congrArg Prod.fst e
    rw [← e1]; exact h.legal y hy
  · rw [normalizeOrder_view hv, ho]; exact h.order

theorem nodup_name_inj {L : List Layer} (hnd : (L.map (·.name)).Nodup) {x y : Layer}
    (hx : x ∈ L) (hy : y ∈ L) (e : x.name = y.name) : x = y := by
  induction L with
  | nil => cases hx
  | cons a t ih =>
    rw [List.map_cons, List.nodup_cons] at hnd
    rcases List.mem_cons.mp hx with hxa | hxt <;> rcases List.mem_cons.mp hy with hya | hyt
    · rw [hxa, hya]
    · exact (hnd.1 (List.mem_map.mpr ⟨y, hyt, by rw [← e, hxa]⟩)).elim
    · exact (hnd.1 (List.mem_map.mpr ⟨x, hxt, by rw [e, hya]⟩)).elim
    · exact ih hnd.2 hxt hyt

theorem find?_of_mem {L : List Layer} (hnd : (L.map (·.name)).Nodup) {p : Layer} (hp : p ∈ L) :
    L.find? (·.name == p.name) = some p := by
  cases hf : L.find? (·.name == p.name) with
  | none =>
    rw [List.find?_eq_none] at hf
    exact absurd (by simp) (hf p hp)
  | some q =>
    have := nodup_name_inj hnd (List.mem_of_find?_eq_some hf) hp (find_name hf)
    rw [this]

theorem wf_setLayer_same {d : Defs} (h : WF d) (l l' : Layer) (hl : findLayer d l'.name = some l)
    (hb : l'.base = l.base) : WF (setLayer d l') := by
  refine wf_of_view h (map_setLayer nb d l' fun x hx hxn => ?_) rfl
  have := nodup_name_inj h.nodup hx (findLayer_mem hl).1 (hxn.trans (findLayer_mem hl).2.symm)
  exact Prod.ext hxn.symm (this ▸ hb)

/-! ### what rebase, remove and add do to the view -/

theorem mem_view_setLayer (d : Defs) (l l' : Layer) (hfl : findLayer d l'.name = some l) (a b : Bytes) :
    (a, b) ∈ (setLayer d l').layers.map nb ↔
      (a = l'.name ∧ l'.base = b) ∨ (a ≠ l'.name ∧ (a, b) ∈ d.layers.map nb) := by
  unfold setLayer
  simp only [List.map_map, List.mem_map, Function.comp, nb, Prod.mk.injEq]
  constructor
  · rintro ⟨x, hx, e⟩
    by_cases hxn : x.name = l'.name
    · rw [if_pos (by simpa using hxn)] at e
      exact Or.inl ⟨e.1.symm, e.2⟩
    · rw [if_neg (by simpa using hxn)] at e
      exact Or.inr ⟨e.1 ▸ hxn, x, hx, e⟩
  · rintro (⟨rfl, rfl⟩ | ⟨hne, x, hx, e⟩)
    · exact ⟨l, (findLayer_mem hfl).1, by simp [(findLayer_mem hfl).2]⟩
    · exact ⟨x, hx, by rw [if_neg (by simpa [e.1] using hne)]; exact e⟩

theorem mem_view_filter (L : List Layer) (n a b : Bytes) :
    (a, b) ∈ (L.filter (·.name != n)).map nb ↔ a ≠ n ∧ (a, b) ∈ L.map nb := by
  simp only [List.mem_map, List.mem_filter, nb, Prod.mk.injEq, bne_iff_ne]
  constructor
  · rintro ⟨x, ⟨hx, hn⟩, e⟩
    exact ⟨e.1 ▸ hn, x, hx, e⟩
  · rintro ⟨hn, x, hx, e⟩
    exact ⟨x, ⟨hx, e.1.symm ▸ hn⟩, e⟩

theorem mem_view_append (L : List Layer) (x : Layer) (hfree : x.name ∉ L.map (·.name)) (a b : Bytes) :
    (a, b) ∈ (L ++ [x]).map nb ↔ (a = x.name ∧ x.base = b) ∨ (a ≠ x.name ∧ (a, b) ∈ L.map nb) := by
  rw [List.map_append, List.mem_append]
  constructor
  · rintro (hm | hm)
    · refine Or.inr ⟨?_, hm⟩
      rintro rfl
      obtain ⟨y, hy, e⟩ := List.mem_map.mp hm
      exact hfree (List.mem_map.mpr ⟨y, hy, congrArg Prod.fst e⟩)
    · rw [List.map_singleton, List.mem_singleton] at hm
      exact Or.inl ⟨congrArg Prod.fst hm, (congrArg Prod.snd hm).symm⟩
  · rintro (⟨rfl, rfl⟩ | ⟨_, hm⟩)
    · exact Or.inr (List.mem_singleton.mpr rfl)
    · exact Or.inl hm

/-! ### what rename does to the view -/

theorem mem_view_renamed (L : List Layer) (old new : Bytes) (l l' : Layer)
    (hnd : (L.map (·.name)).Nodup) (hl : L.find? (·.name == old) = some l) (hlb : l.base ≠ old)
    (hn' : l'.name = new) (hb' : l'.base = l.base) (a b : Bytes) :
    (a, b) ∈ (renamed L old new l').map nb ↔
      ∃ x ∈ L, a = rn old new x.name ∧ b = rn old new x.base := by
  have hlm : l ∈ L := List.mem_of_find?_eq_some hl
  have hln : l.name = old := find_name hl
  constructor
  · intro hm
    obtain ⟨y, hy, e⟩ := List.mem_map.mp hm
    obtain ⟨x, hx, hyn, hyb⟩ := mem_renamed hl hlb hn' hb' hy
    have e' : (y.name, y.base) = (a, b) := e
    cases e'
    exact ⟨x, hx, hyn, hyb⟩
  · rintro ⟨x, hx, rfl, rfl⟩
    unfold renamed
    rw [List.map_append, List.mem_append]
    by_cases hxo : x.name = old
    · right
      have : x = l := nodup_name_inj hnd hx hlm (hxo.trans hln.symm)
      subst this
      simp only [List.map_cons, List.map_nil, List.mem_singleton]
      unfold nb
      rw [hxo, rn_old, rn_ne new hlb, hn', hb']
    · left
      refine List.mem_map.mpr ⟨rebaseKid old new x, List.mem_filter.mpr
        ⟨List.mem_map.mpr ⟨x, hx, rfl⟩, by rw [rebaseKid_name]; simpa using hxo⟩, ?_⟩
      unfold nb
      rw [rebaseKid_name, rebaseKid_base, rn_ne new hxo]

theorem length_filter_ne (L : List Layer) (old : Bytes) (hnd : (L.map (·.name)).Nodup)
    (hm : old ∈ L.map (·.name)) : (L.filter (·.name != old)).length + 1 = L.length := by
  induction L with
  | nil => simp at hm
  | cons x xs ih =>
    rw [List.map_cons, List.nodup_cons] at hnd
    by_cases hx : x.name = old
    · have h1 : (x.name != old) = false := by simp [hx]
      have hall : xs.filter (·.name != old) = xs := by
        rw [List.filter_eq_self]
        intro y hy
        have : y.name ≠ old := by
          intro e; apply hnd.1; rw [hx, ← e]; exact List.mem_map.mpr ⟨y, hy, rfl⟩
        simpa using this
      simp only [List.filter_cons, h1, Bool.false_eq_true, if_false, hall, List.length_cons]
    · have h1 : (x.name != old) = true := by simpa using hx
      have hm' : old ∈ xs.map (·.name) := by
        rw [List.map_cons, List.mem_cons] at hm
        rcases hm with e | hm
        · exact absurd e.symm hx
        · exact hm
      simp only [List.filter_cons, h1, if_true, List.length_cons]
      rw [ih hnd.2 hm']

theorem length_renamed (L : List Layer) (old new : Bytes) (l l' : Layer)
    (hnd : (L.map (·.name)).Nodup) (hl : L.find? (·.name == old) = some l) :
    (renamed L old new l').length = L.length := by
  have hm : old ∈ L.map (·.name) :=
    List.mem_map.mpr ⟨l, List.mem_of_find?_eq_some hl, find_name hl⟩
  have e : ((L.map (rebaseKid old new)).filter (·.name != old)).length
      = (L.filter (·.name != old)).length := by
    have := congrArg List.length (names_renamed_front L old new)
    simp only [List.length_map] at this
    rw [this]
    have h2 : (L.filter (·.name != old)).map (·.name) = (L.map (·.name)).filter (· != old) := by
      rw [List.filter_map]; rfl
    have := congrArg List.length h2
    simp only [List.length_map] at this
    rw [this]
  unfold renamed
  rw [List.length_append, e]
  simp only [List.length_cons, List.length_nil]
  exact length_filter_ne L old hnd hm

end Lc.ForestInv
