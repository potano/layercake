/-
  Bridge between the model's per-import predicates (`impMissing`, `impMounted`, `impWrong`
  over the `Mounts` view) and the per-import code of the documented classification
  (`Spec.World.stateOf`, over the kernel table).  Helper lemmas for
  Props/C08 `state_eq_spec_partial`.
-/
import Lc.Lemmas.StateProbe
import Lc.Spec.World

namespace Lc.StateProbe
open Lc Lc.Layers Lc.Mountinfo Lc.Spec.World

/-- the per-import code of `stateOf`: 0 = directory or host source missing, 1 = not mounted,
    2 = mounted as configured, 3 = something else mounted -/
def specCode (i : Inst) (e : Expanded) : Nat :=
  if !Fs.lexists i.fs e.mount then 0
  else if !Fs.lexists i.fs e.source && !underLayers i e.source then 0
  else match topAt i.mnts e.mount with
    | none => 1
    | some m => if importAsConfigured i m e.fstype e.source then 2 else 3

/-- what is assumed per import about the two views of the mount table -/
structure ImportBridge (i : Inst) (m : Mounts) (e : Expanded) : Prop where
  /-- the resolved source is an absolute path (the expansion rejects relative ones; an
      empty source is not produced by the layerconfig reader) -/
  abs : isAbs e.source = true
  /-- "inside the layers directory": walking up with path.Dir (code) = prefix test (manual) -/
  inLayers : inAnyLayerDirectory i.cfg (e.source.length + 1) e.source = underLayers i e.source
  /-- ProbeMounts shows a mount on the mountpoint iff the kernel table has one -/
  mounted : (getMount m e.mount).isSome = (topAt i.mnts e.mount).isSome
  /-- `MountSourceIsExpected` answers what the documented comparison answers (this is where
      the finding nonbind-import-fstype-not-compared is excluded) -/
  expected : ∀ mnt km, getMount m e.mount = some mnt → topAt i.mnts e.mount = some km →
    mountSourceIsExpected m mnt e.source = .ok (importAsConfigured i km e.fstype e.source)

theorem isSome_eq_cases {α β : Type} {a : Option α} {b : Option β} (h : a.isSome = b.isSome) :
    (a = none ∧ b = none) ∨ ∃ x y, a = some x ∧ b = some y := by
  cases a with
  | none =>
    cases b with
    | none => exact .inl ⟨rfl, rfl⟩
    | some y => cases h
  | some x =>
    cases b with
    | none => cases h
    | some y => exact .inr ⟨x, y, rfl, rfl⟩

theorem specCode_eq (i : Inst) (m : Mounts) (e : Expanded) (h : ImportBridge i m e) :
    specCode i e = if impMissing i.cfg i.fs e then 0 else
      match topAt i.mnts e.mount with
      | none => 1
      | some km => if importAsConfigured i km e.fstype e.source then 2 else 3 := by
  unfold specCode impMissing
  rw [h.abs, h.inLayers, Bool.true_and]
  cases Fs.lexists i.fs e.mount <;> rfl

theorem bridge_missing (i : Inst) (m : Mounts) (e : Expanded) (h : ImportBridge i m e) :
    (specCode i e == 0) = impMissing i.cfg i.fs e := by
  rw [specCode_eq i m e h]
  cases impMissing i.cfg i.fs e
  · cases topAt i.mnts e.mount with
    | none => rfl
    | some km =>
      dsimp only
      cases importAsConfigured i km e.fstype e.source <;> rfl
  · rfl

theorem bridge_wrong (i : Inst) (m : Mounts) (e : Expanded) (h : ImportBridge i m e) :
    (specCode i e == 3) = impWrong i.cfg i.fs m e := by
  rw [specCode_eq i m e h]
  unfold impWrong
  cases impMissing i.cfg i.fs e
  · rcases isSome_eq_cases h.mounted with ⟨hg, ht⟩ | ⟨mnt, km, hg, ht⟩
    · rw [hg, ht]
      rfl
    · rw [hg, ht]
      simp only [h.expected mnt km hg ht]
      cases importAsConfigured i km e.fstype e.source <;> rfl
  · rfl

theorem bridge_panic (i : Inst) (m : Mounts) (e : Expanded) (h : ImportBridge i m e) :
    impPanic i.cfg i.fs m e = false := by
  unfold impPanic
  rcases isSome_eq_cases h.mounted with ⟨hg, -⟩ | ⟨mnt, km, hg, ht⟩
  · simp [hg]
  · simp [hg, h.expected mnt km hg ht]

theorem bridge_mounted (i : Inst) (m : Mounts) (e : Expanded) (h : ImportBridge i m e)
    (hw : impWrong i.cfg i.fs m e = false) :
    (specCode i e == 2) = impMounted i.cfg i.fs m e := by
  unfold impMounted
  rw [specCode_eq i m e h]
  unfold impWrong at hw
  revert hw
  cases impMissing i.cfg i.fs e
  · rcases isSome_eq_cases h.mounted with ⟨hg, ht⟩ | ⟨mnt, km, hg, ht⟩
    · rw [hg, ht]
      exact fun _ => rfl
    · rw [hg, ht]
      simp only [h.expected mnt km hg ht]
      -- a mount that is not as configured would be `impWrong`
      cases importAsConfigured i km e.fstype e.source
      · exact fun hw => nomatch hw
      · exact fun _ => rfl
  · exact fun _ => rfl

theorem any_map_congr {α β} (f : α → β) (p : β → Bool) (q : α → Bool) (xs : List α)
    (h : ∀ e ∈ xs, p (f e) = q e) : (xs.map f).any p = xs.any q := by
  induction xs with
  | nil => rfl
  | cons x xs ih =>
    simp only [List.map_cons, List.any_cons]
    rw [h x (List.mem_cons_self ..), ih (fun e he => h e (List.mem_cons_of_mem _ he))]

theorem filter_map_length {α β} (f : α → β) (p : β → Bool) (q : α → Bool) (xs : List α)
    (h : ∀ e ∈ xs, p (f e) = q e) : ((xs.map f).filter p).length = xs.countP q := by
  induction xs with
  | nil => rfl
  | cons x xs ih =>
    simp only [List.map_cons, List.filter_cons, List.countP_cons]
    rw [h x (List.mem_cons_self ..)]
    have := ih (fun e he => h e (List.mem_cons_of_mem _ he))
    cases q x <;> simp [this]

end Lc.StateProbe
