/-
  `ExportsApart cfg`: a decidable condition on the configuration (exportdirs, exportBinPkg,
  exportGenerated, layerdirs) under which no automatic export link
  `<exportdirs>/<exportBinPkg|exportGenerated>/<name>` of a legal layer name lies at, above or
  below a layer directory `<layerdirs>/<name'>` or `<layerdirs>/<name'>~removed`.

  With `L` = what precedes the name in a link path and `D` = what precedes the name in a layer
  directory (both computed by `path.Join` with a probe name, so `..`, empty components, `//`,
  relative and absolute values are all covered), the condition is
    * `L ≠ D` (else the link of `n` IS the layer directory `n`);
    * if `D = L ++ c` (links live above the layer directories): the first component of `c` is not
      a legal layer name (else the link of the layer so named is an ancestor of EVERY layer);
    * if `L = D ++ c` (links live inside `<layerdirs>`): the first component of `c` is neither a
      legal layer name nor one followed by `~removed` (else the links live inside that layer).
  This is the exact boundary for the statement `exportsApart_hexp` over all legal names; the
  examples in Props/C09 show the per-path side condition failing in each excluded case.

  Helper lemmas for Props/C09, C11, C16.  Core Lean only.
-/
import Lc.Lemmas.LayerPaths
import Lc.Lemmas.FsMove
import Lc.Lemmas.RemoveLayer
import Lc.Lemmas.ExportLinks
import Lc.Lemmas.RunM

namespace Lc.ExportsApart
open Lc Lc.Layers Lc.Lemmas.Path Lc.ExportPath Lc.FsRename Lc.LayerPaths Lc.FsMove Lc.Lemmas.WriteLF

/-! ### the prefixes -/

/-- a clean probe name ("x") -/
def probe : Bytes := [120]

theorem probe_clean : CleanName probe := by decide

/-- what precedes the layer name in the automatic export links below `<exportdirs>/<sub>` -/
def linkPrefix (cfg : Config) (sub : Bytes) : Bytes := (pathJoin [cfg.exportdirs, sub, probe]).dropLast

/-- what precedes the layer name in a layer directory -/
def layerPrefix (cfg : Config) : Bytes := (layerPath cfg probe).dropLast

theorem dropLast_probe (B : Bytes) : (B ++ probe).dropLast = B := by
  unfold probe
  exact List.dropLast_concat

/-- the link prefix: shape, and every link path of a clean name -/
theorem linkPrefix_spec (cfg : Config) (sub : Bytes) :
    Shape (linkPrefix cfg sub) ∧
    ∀ n, CleanName n → pathJoin [cfg.exportdirs, sub, n] = linkPrefix cfg sub ++ n := by
  obtain ⟨B, hs, hB⟩ := pathJoin3_prefix_shape cfg.exportdirs sub
  have : linkPrefix cfg sub = B := by
    unfold linkPrefix
    rw [hB probe probe_clean, dropLast_probe]
  rw [this]
  exact ⟨hs, hB⟩

/-- the layer prefix: shape, every layer directory and layerconfig of a clean name -/
theorem layerPrefix_spec (cfg : Config) :
    Shape (layerPrefix cfg) ∧
    ∀ n, CleanName n → layerPath cfg n = layerPrefix cfg ++ n ∧
      pathJoin [layerPath cfg n, lcName] = layerPrefix cfg ++ (n ++ 47 :: lcName) := by
  obtain ⟨D, hD⟩ := layer_paths cfg
  obtain ⟨B, hs, hB⟩ := pathJoin3_prefix_shape [] cfg.layerdirs
  have h1 : layerPrefix cfg = D := by
    unfold layerPrefix
    rw [(hD probe probe_clean).1, dropLast_probe]
  have h2 : D = B := by
    have e1 := (hD probe probe_clean).1
    have e2 : layerPath cfg probe = B ++ probe := hB probe probe_clean
    rw [e1] at e2
    exact List.append_cancel_right e2
  rw [h1]
  exact ⟨h2 ▸ hs, hD⟩

/-! ### the condition -/

/-- a legal, non-empty layer name -/
def legalNE (a : Bytes) : Bool := !a.isEmpty && isLegalLayerName a

/-- a legal non-empty name, possibly followed by `~removed` -/
def layerDirName (a : Bytes) : Bool :=
  legalNE a ||
    (decide (removedSuffix.length ≤ a.length) && a.drop (a.length - removedSuffix.length) == removedSuffix
      && legalNE (a.take (a.length - removedSuffix.length)))

/-- the first path component of `c` -/
def firstComp (c : Bytes) : Bytes := c.takeWhile (· != 47)

def apart (L D : Bytes) : Bool :=
  if L == D then false
  else if hasPrefix D L then !legalNE (firstComp (D.drop L.length))
  else if hasPrefix L D then !layerDirName (firstComp (L.drop D.length))
  else true

/-- no automatic export link of a legal name lies at, above or below a layer directory or a
    `~removed` directory of a legal name (see the file header for the three clauses) -/
def ExportsApart (cfg : Config) : Prop :=
  apart (linkPrefix cfg cfg.exportBinPkg) (layerPrefix cfg) = true ∧
  apart (linkPrefix cfg cfg.exportGenerated) (layerPrefix cfg) = true

instance (cfg : Config) : Decidable (ExportsApart cfg) := by
  unfold ExportsApart; infer_instance

/-! ### facts about names -/

theorem legalNE_iff (a : Bytes) : legalNE a = true ↔ a ≠ [] ∧ isLegalLayerName a = true := by
  unfold legalNE
  cases a <;> simp

theorem legalNE_clean (a : Bytes) (h : legalNE a = true) : CleanName a :=
  legal_clean a ((legalNE_iff a).mp h).1 ((legalNE_iff a).mp h).2

theorem layerDirName_of_legal (a : Bytes) (h : legalNE a = true) : layerDirName a = true := by
  unfold layerDirName; simp [h]

theorem layerDirName_removed (a : Bytes) (h : legalNE a = true) :
    layerDirName (a ++ removedSuffix) = true := by
  unfold layerDirName
  have h1 : (a ++ removedSuffix).length - removedSuffix.length = a.length := by simp
  rw [h1, List.drop_left, List.take_left]
  simp [h]

theorem removedSuffix_noslash : (47 : Nat) ∉ removedSuffix := by decide

theorem layerDirName_noslash (a : Bytes) (h : layerDirName a = true) : (47 : Nat) ∉ a ∧ a ≠ [] := by
  unfold layerDirName at h
  rcases (Bool.or_eq_true _ _).mp h with h | h
  · have hc := legalNE_clean a h
    exact ⟨hc.1.2.2, hc.1.1⟩
  · simp only [Bool.and_eq_true, decide_eq_true_eq, beq_iff_eq] at h
    obtain ⟨⟨hlen, hdrop⟩, hleg⟩ := h
    have hc := legalNE_clean _ hleg
    have hsplit : a = a.take (a.length - removedSuffix.length) ++ removedSuffix := by
      conv => lhs; rw [← List.take_append_drop (a.length - removedSuffix.length) a]
      rw [hdrop]
    constructor
    · intro hm
      rw [hsplit] at hm
      rcases List.mem_append.mp hm with h1 | h1
      · exact hc.1.2.2 h1
      · exact removedSuffix_noslash h1
    · intro e
      rw [e] at hlen
      simp [removedSuffix] at hlen

theorem firstComp_split (c : Bytes) (h : (47 : Nat) ∈ c) :
    ∃ rest, c = firstComp c ++ 47 :: rest ∧ (47 : Nat) ∉ firstComp c := by
  unfold firstComp
  induction c with
  | nil => cases h
  | cons x xs ih =>
    by_cases hx : x = 47
    · subst hx
      exact ⟨xs, by simp [List.takeWhile], by simp [List.takeWhile]⟩
    · have hm : (47 : Nat) ∈ xs := by
        rcases List.mem_cons.mp h with e | e
        · exact absurd e.symm hx
        · exact e
      obtain ⟨rest, h1, h2⟩ := ih hm
      have hb : (x != 47) = true := by simpa using hx
      refine ⟨rest, ?_, ?_⟩
      · rw [List.takeWhile_cons, hb]
        simp only [if_true, List.cons_append]
        rw [← h1]
      · rw [List.takeWhile_cons, hb]
        simp only [if_true]
        intro hm2
        rcases List.mem_cons.mp hm2 with e | e
        · exact hx e.symm
        · exact h2 e

theorem suffix_has_slash (B D c : Bytes) (hB : Shape B) (h : B = D ++ c) (hc : c ≠ []) : (47 : Nat) ∈ c := by
  rcases List.eq_nil_or_concat c with rfl | ⟨c', x, rfl⟩
  · exact absurd rfl hc
  · rcases hB with e | ⟨B', e⟩
    · rw [e] at h; simp at h
    · -- both sides end in their last byte
      rw [e, List.concat_eq_append, ← List.append_assoc] at h
      have := (List.append_inj' h rfl).2
      simp at this
      simp [this]

theorem hasPrefix_longer_false (p r : Bytes) (hr : r ≠ []) : hasPrefix p (p ++ r) = false := by
  cases h : hasPrefix p (p ++ r) with
  | false => rfl
  | true =>
    obtain ⟨t, ht⟩ := (hasPrefix_iff _ _).mp h
    have hlen := congrArg List.length ht
    cases r with
    | nil => exact absurd rfl hr
    | cons x xs => simp at hlen

/-! ### the core: the two kinds of path never share a component boundary -/

theorem firstComp_eq (B D c n T r : Bytes) (hB : Shape B) (hBc : B = D ++ c) (hc : c ≠ [])
    (hn : (47 : Nat) ∉ n) (hT : Tail T) (hr : n ++ T = c ++ r) : firstComp c = n := by
  obtain ⟨rest, hsplit, hfs⟩ := firstComp_split c (suffix_has_slash B D c hB hBc hc)
  rw [hsplit, List.append_assoc] at hr
  exact (no_slash_tail_inj n (firstComp c) T _ hn hfs hT (tail_slash _) (by simpa using hr)).symm

/-- `D/N/…` is never `L/n/…` when `L`, `D` are apart (`n` a legal name, `N` a legal name or one
    followed by `~removed`, `T`, `T'` empty or starting with '/') -/
theorem apart_core (L D : Bytes) (hL : Shape L) (hD : Shape D) (h : apart L D = true)
    (n N T T' : Bytes) (hn : legalNE n = true) (hN : layerDirName N = true) (hT : Tail T) (hT' : Tail T') :
    D ++ (N ++ T') ≠ L ++ (n ++ T) := by
  intro he
  have hns : (47 : Nat) ∉ n := (legalNE_clean n hn).1.2.2
  obtain ⟨hNs, _⟩ := layerDirName_noslash N hN
  have hne : L ≠ D := by
    intro e
    rw [apart, e, beq_self_eq_true, if_pos rfl] at h
    cases h
  rw [apart, if_neg (by simpa using hne)] at h
  rcases List.append_eq_append_iff.mp he with ⟨c, hLc, hr⟩ | ⟨c, hDc, hr⟩
  · -- links inside `<layerdirs>`: L = D ++ c, N ++ T' = c ++ (n ++ T)
    have hc : c ≠ [] := fun e => hne (by rw [hLc, e, List.append_nil])
    rw [if_neg (by rw [hLc, hasPrefix_longer_false D c hc]; simp),
      if_pos (by rw [hLc]; exact hasPrefix_self_append D c), hLc, List.drop_left,
      firstComp_eq L D c N T' _ hL hLc hc hNs hT' hr, hN] at h
    cases h
  · -- links above the layer directories: D = L ++ c, n ++ T = c ++ (N ++ T')
    have hc : c ≠ [] := fun e => hne (by rw [hDc, e, List.append_nil])
    rw [if_pos (by rw [hDc]; exact hasPrefix_self_append L c), hDc, List.drop_left,
      firstComp_eq D L c n T _ hD hDc hc hns hT hr, hn] at h
    cases h

theorem name_ne_root (D N : Bytes) (hs : (47 : Nat) ∉ N) (hne : N ≠ []) : D ++ N ≠ [47] := by
  cases N with
  | nil => exact absurd rfl hne
  | cons x xs =>
    have hx : x ≠ 47 := fun e => hs (by simp [e])
    cases D with
    | nil => intro h; simp only [List.nil_append, List.cons.injEq] at h; exact hx h.1
    | cons y ys => intro h; have := congrArg List.length h; simp at this

/-- the link `L/n` is not at or above `D/N/…` -/
theorem apart_link_above (L D : Bytes) (hL : Shape L) (hD : Shape D) (h : apart L D = true)
    (n N T' : Bytes) (hn : legalNE n = true) (hN : layerDirName N = true) (hT' : Tail T') :
    Fs.under (L ++ n) (D ++ (N ++ T')) = false := by
  cases hu : Fs.under (L ++ n) (D ++ (N ++ T')) with
  | false => rfl
  | true =>
    have hnc := legalNE_clean n hn
    obtain ⟨T, hT, e⟩ := (under_iff _ _ (name_ne_root L n hnc.1.2.2 hnc.1.1)).1 hu
    rw [List.append_assoc] at e
    exact absurd e (apart_core L D hL hD h n N T T' hn hN hT hT')

/-- the link `L/n` is not at or below `D/N` -/
theorem apart_link_below (L D : Bytes) (hL : Shape L) (hD : Shape D) (h : apart L D = true)
    (n N : Bytes) (hn : legalNE n = true) (hN : layerDirName N = true) :
    Fs.under (D ++ N) (L ++ n) = false := by
  cases hu : Fs.under (D ++ N) (L ++ n) with
  | false => rfl
  | true =>
    obtain ⟨hNs, hNe⟩ := layerDirName_noslash N hN
    obtain ⟨T', hT', e⟩ := (under_iff _ _ (name_ne_root D N hNs hNe)).1 hu
    rw [List.append_assoc] at e
    have := apart_core L D hL hD h n N [] T' hn hN tail_nil hT'
    rw [List.append_nil] at this
    exact absurd e.symm this

/-! ### in the words of the command model -/

/-- `p` lies at or below a layer directory `<layerdirs>/<n>` or `<layerdirs>/<n>~removed` of
    a legal non-empty name -/
def InLayerDirs (cfg : Config) (p : Bytes) : Prop :=
  ∃ n, n ≠ [] ∧ isLegalLayerName n = true ∧
    (Fs.under (layerPath cfg n) p = true ∨ Fs.under (layerPath cfg n ++ removedSuffix) p = true)

theorem mem_auto (cfg : Config) (l : Layer) (m : Bytes) (h : m ∈ RemoveLayer.exPaths cfg l) :
    m = pathJoin [cfg.exportdirs, cfg.exportBinPkg, l.name] ∨
    m = pathJoin [cfg.exportdirs, cfg.exportGenerated, l.name] := by
  simpa [RemoveLayer.exPaths, autoExportPaths] using h

theorem exPaths_eq_autoMounts (cfg : Config) (l : Layer) :
    RemoveLayer.exPaths cfg l = ExportLinks.autoMounts cfg l := rfl

/-- every automatic export link of a placed layer, as prefix ++ name with an apart prefix -/
theorem link_form (cfg : Config) (hA : ExportsApart cfg) (l : Layer) (hl : Placed cfg l) (m : Bytes)
    (hm : m ∈ RemoveLayer.exPaths cfg l) :
    ∃ L, Shape L ∧ apart L (layerPrefix cfg) = true ∧ m = L ++ l.name := by
  have hc := placed_clean cfg l hl
  rcases mem_auto cfg l m hm with e | e
  · exact ⟨_, (linkPrefix_spec cfg _).1, hA.1, e.trans ((linkPrefix_spec cfg _).2 _ hc)⟩
  · exact ⟨_, (linkPrefix_spec cfg _).1, hA.2, e.trans ((linkPrefix_spec cfg _).2 _ hc)⟩

theorem placed_legalNE (cfg : Config) (l : Layer) (hl : Placed cfg l) : legalNE l.name = true :=
  (legalNE_iff _).mpr ⟨hl.2.1, hl.2.2⟩

theorem inLayerDirs_form (cfg : Config) (p : Bytes) (hp : InLayerDirs cfg p) :
    ∃ N T, layerDirName N = true ∧ Tail T ∧ p = layerPrefix cfg ++ (N ++ T) := by
  obtain ⟨n, hn1, hn2, hu⟩ := hp
  have hln : legalNE n = true := (legalNE_iff n).mpr ⟨hn1, hn2⟩
  have key : ∀ N, layerDirName N = true → Fs.under (layerPrefix cfg ++ N) p = true →
      ∃ N T, layerDirName N = true ∧ Tail T ∧ p = layerPrefix cfg ++ (N ++ T) := by
    intro N hN hu
    obtain ⟨hNs, hNe⟩ := layerDirName_noslash N hN
    obtain ⟨T, hT, e⟩ := (under_iff _ _ (name_ne_root _ N hNs hNe)).1 hu
    exact ⟨N, T, hN, hT, by rw [e, List.append_assoc]⟩
  rw [((layerPrefix_spec cfg).2 n (legalNE_clean n hln)).1, List.append_assoc] at hu
  exact hu.elim (key n (layerDirName_of_legal n hln)) (key _ (layerDirName_removed n hln))

/-- **the side condition of C09 / C11, from the configuration**: no automatic export link of a
    placed layer lies at or above a path in a layer directory or a `~removed` directory -/
theorem exportsApart_exPaths (cfg : Config) (hA : ExportsApart cfg) (l : Layer) (hl : Placed cfg l)
    (p : Bytes) (hp : InLayerDirs cfg p) : ∀ m ∈ RemoveLayer.exPaths cfg l, Fs.under m p = false := by
  intro m hm
  obtain ⟨L, hL, hap, rfl⟩ := link_form cfg hA l hl m hm
  obtain ⟨N, T, hN, hT, rfl⟩ := inLayerDirs_form cfg p hp
  exact apart_link_above L _ hL (layerPrefix_spec cfg).1 hap l.name N T (placed_legalNE cfg l hl) hN hT

/-- the same over `autoExportPaths` (the form of the C09 hypotheses `hexp`, `hpe`) -/
theorem exportsApart_hexp (cfg : Config) (hA : ExportsApart cfg) (l : Layer) (hl : Placed cfg l)
    (p : Bytes) (hp : InLayerDirs cfg p) : ∀ m ∈ autoExportPaths cfg l, Fs.under m.1 p = false :=
  fun m hm => exportsApart_exPaths cfg hA l hl p hp m.1 (List.mem_map.mpr ⟨m, hm, rfl⟩)

/-- the other direction: no link lies at or below a layer directory or `~removed` directory -/
theorem exportsApart_below (cfg : Config) (hA : ExportsApart cfg) (l : Layer) (hl : Placed cfg l)
    (n : Bytes) (hn1 : n ≠ []) (hn2 : isLegalLayerName n = true) :
    ∀ m ∈ RemoveLayer.exPaths cfg l,
      Fs.under (layerPath cfg n) m = false ∧ Fs.under (layerPath cfg n ++ removedSuffix) m = false := by
  intro m hm
  obtain ⟨L, hL, hap, rfl⟩ := link_form cfg hA l hl m hm
  obtain ⟨hD, hDn⟩ := layerPrefix_spec cfg
  have hln : legalNE n = true := (legalNE_iff n).mpr ⟨hn1, hn2⟩
  have hcn := legalNE_clean n hln
  rw [(hDn n hcn).1]
  refine ⟨apart_link_below L _ hL hD hap l.name n (placed_legalNE cfg l hl) (layerDirName_of_legal n hln), ?_⟩
  rw [List.append_assoc]
  exact apart_link_below L _ hL hD hap l.name _ (placed_legalNE cfg l hl) (layerDirName_removed n hln)

/-! ### ways of being in the layer directories -/

theorem inLayerDirs_of_under (cfg : Config) (l : Layer) (hl : Placed cfg l) (p : Bytes)
    (hu : Fs.under l.layerPath p = true) : InLayerDirs cfg p :=
  ⟨l.name, hl.2.1, hl.2.2, Or.inl (hl.1 ▸ hu)⟩

theorem inLayerDirs_of_removed (cfg : Config) (l : Layer) (hl : Placed cfg l) (p : Bytes)
    (hu : Fs.under (l.layerPath ++ removedSuffix) p = true) : InLayerDirs cfg p :=
  ⟨l.name, hl.2.1, hl.2.2, Or.inr (hl.1 ▸ hu)⟩

theorem placed_ne_root (cfg : Config) (l : Layer) (hl : Placed cfg l) : l.layerPath ≠ [47] := by
  obtain ⟨_, hDn⟩ := layerPrefix_spec cfg
  have hc := placed_clean cfg l hl
  rw [hl.1, (hDn _ hc).1]
  exact name_ne_root _ _ hc.1.2.2 hc.1.1

theorem layerconfigPath_eq (cfg : Config) (k : Layer) (hk : Placed cfg k) :
    layerconfigPath k = k.layerPath ++ 47 :: lcName := by
  obtain ⟨h1, h2⟩ := placed_cfg cfg _ (layerPrefix_spec cfg).2 k hk
  rw [h1, h2, List.append_assoc]

theorem inLayerDirs_layerconfig (cfg : Config) (k : Layer) (hk : Placed cfg k) :
    InLayerDirs cfg (layerconfigPath k) := by
  apply inLayerDirs_of_under cfg k hk
  rw [layerconfigPath_eq cfg k hk]
  exact under_append _ _ (tail_slash _)

/-! ### the layout hypotheses of C16 (`no_old_name_after_remove` / `_rename`) -/

/-- a layer as `renameLayer` writes it out under a legal new name is placed -/
theorem placed_renamed (cfg : Config) (l : Layer) (newname : Bytes) (h1 : newname ≠ [])
    (h2 : isLegalLayerName newname = true) :
    Placed cfg { l with name := newname, layerPath := layerPath cfg newname } :=
  ⟨rfl, h1, h2⟩

/-- the export links of a placed layer are clear of the layerconfig (and its temporary file)
    of every placed layer -/
theorem clearOfConfig_of_apart (cfg : Config) (hA : ExportsApart cfg) (l : Layer) (hl : Placed cfg l)
    (k : Layer) (hk : Placed cfg k) : ExportLinks.ClearOfConfig (ExportLinks.autoMounts cfg l) k := by
  intro m hm
  have hb := (exportsApart_below cfg hA l hl k.name hk.2.1 hk.2.2 m hm).1
  rw [← hk.1] at hb
  have h2 := layerconfigPath_eq cfg k hk
  -- whatever continues the layerconfig path lies below the layer directory
  have hbelow : ∀ r, m ≠ layerconfigPath k ++ r := by
    intro r e
    rw [e, h2, List.append_assoc, List.cons_append, under_append _ _ (tail_slash _)] at hb
    cases hb
  refine ⟨hbelow _, ?_⟩
  cases hu : Fs.under (layerconfigPath k) m with
  | false => rfl
  | true =>
    obtain ⟨r, _, e⟩ := (under_iff _ m (layerconfigPath_ne_root k)).1 hu
    exact absurd e (hbelow r)

open Lc.RunM in
/-- a `renameLayer` that returns normally was given a legal, non-empty, unused new name -/
theorem renameLayer_ok_newname (cfg : Config) (d : Defs) (old new : Bytes) (co : List Bytes) (w : World)
    (d' : Defs) (hok : ((renameLayer cfg d old new co).run.run w).1 = .ok d') :
    new ≠ [] ∧ isLegalLayerName new = true ∧ findLayer d new = none := by
  cases ht : testName1 d new NAME_FREE with
  | true => exact (RunM.free_iff d new).mp ht
  | false =>
    have : (renameLayer cfg d old new co).run.run w = (.error (.err "name"), w) := by
      unfold renameLayer
      exact testName_refuses d _ _ w (by simp only [List.all_cons, ht, Bool.false_and, Bool.and_false])
    rw [this] at hok
    cases hok

end Lc.ExportsApart
