/-
  The documented classification `Spec.World.stateOf` against the closed form of
  `findLayerstate` (Lemmas/StateProbe): resolution of import and export lists on both
  sides, the export tallies, the tail of the classification (imports, exports, final
  if-chain) for base and derived layers.  Helper lemmas for Props/C08
  (`state_eq_spec_base`, `state_eq_spec_derived`).
-/
import Lc.Lemmas.SpecBridge
import Lc.Lemmas.Path
import Lc.Lemmas.Expand

namespace Lc.StateProbe
open Lc Lc.Layers Lc.Mountinfo Lc.Layerfile Lc.Spec.World Lc.Expand

/-! ### the documented classification, cut into named pieces -/

/-- what `layerOfFile` makes of a layer found on disk (the state and the probe's fields aside) -/
structure Corr (i : Inst) (dl : DLayer) (l : Layer) : Prop where
  name : l.name = dl.name
  base : l.base = dl.file.base
  cmounts : l.cmounts = dl.file.mounts
  cexports : l.cexports = dl.file.exports
  layerPath : l.layerPath = layerDir i dl.name

theorem Corr.buildPath {i : Inst} {dl : DLayer} {l : Layer} (hc : Corr i dl l) :
    buildPath i.cfg l = buildDir i dl.name :=
  congrArg (fun p => pathJoin [p, i.cfg.buildRoot]) hc.layerPath

theorem Corr.workPath {i : Inst} {dl : DLayer} {l : Layer} (hc : Corr i dl l) :
    workPath i.cfg l = workDir i dl.name :=
  congrArg (fun p => pathJoin [p, i.cfg.workdir]) hc.layerPath

theorem Corr.upperPath {i : Inst} {dl : DLayer} {l : Layer} (hc : Corr i dl l) :
    upperPath i.cfg l = upperDir i dl.name :=
  congrArg (fun p => pathJoin [p, i.cfg.upperdir]) hc.layerPath

/-- the root of the chain of `n` (the layer `$$base` refers to), as the manual has it -/
def rootOf (ls : List DLayer) (n : Bytes) : Bytes :=
  ((ancestorsOf ls (ls.length + 1) n).getLast?).getD n

/-- the import list as the classification resolves it -/
def specImports (i : Inst) (ls : List DLayer) (dl : DLayer) : List (Bytes × Option Bytes × Bytes) :=
  dl.file.mounts.map fun imp =>
    (pathJoin [buildDir i dl.name, imp.mount], resolveSource i ls dl.name imp.source, imp.fstype)

/-- per-import code of the classification on a resolved triple (`specCode` when the source
    resolves: `specClassify_code`) -/
def specClassify (i : Inst) (x : Bytes × Option Bytes × Bytes) : Nat :=
  let (mp, src, fstype) := x
  let src := src.getD []
  if !Fs.lexists i.fs mp then 0
  else if !Fs.lexists i.fs src && !underLayers i src then 0
  else match topAt i.mnts mp with
    | none => 1
    | some m => if importAsConfigured i m fstype src then 2 else 3

def specExportLink (i : Inst) (n : Bytes) (e : NeededMount) : Option Bytes :=
  match adjustPrefixedPath e.mount (fun sym =>
      if sym == b!"package_export" then some (pathJoin [i.cfg.exportdirs, i.cfg.exportBinPkg, n])
      else if sym == b!"file_export" then some (pathJoin [i.cfg.exportdirs, i.cfg.exportGenerated, n])
      else none) with
  | .ok p => some p
  | .error _ => none

def specExportBad (i : Inst) (n : Bytes) (e : NeededMount) : Bool :=
  let src := pathJoin [layerDir i n, i.cfg.buildRoot, e.source]
  match specExportLink i n e with
  | none => true
  | some lk =>
    !(atOrBelow (buildDir i n) src) ||
    (Fs.lexists i.fs src && match Fs.get i.fs lk with
      | some (.symlink t) => t != src
      | _ => false)

def specExportMissing (i : Inst) (n : Bytes) (e : NeededMount) : Bool :=
  !Fs.lexists i.fs (pathJoin [layerDir i n, i.cfg.buildRoot, e.source])

/-- the tail of the classification: imports coded `cls`, exports, the final chain -/
def specTail (i : Inst) (users : List (Bytes × List User)) (dl : DLayer) (derived : Bool)
    (cls : List Nat) : St :=
  if cls.any (· == 3) || dl.file.exports.any (specExportBad i dl.name) then .error
  else if cls.any (· == 0) || dl.file.exports.any (specExportMissing i dl.name) then .inhabited
  else
    let nMounted := (cls.filter (· == 2)).length + (if derived then 1 else 0)
    let nExpected := cls.length + (if derived then 1 else 0)
    if nMounted == 0 then .mountable
    else if nMounted < nExpected then .partialmount
    else if mountBusy i users dl.name || overlain i dl.name then .mountedBusy
    else .mounted

def specParentMountable (ps : Option St) : Bool :=
  match ps with
  | some s => s.toNat ≥ 5
  | none => true

def specOvlOk (i : Inst) (dl : DLayer) : Bool :=
  match topAt i.mnts (buildDir i dl.name) with
  | some m => m.fstype == b!"overlay" && m.lower == buildDir i dl.file.base
              && m.upper == upperDir i dl.name && m.work == workDir i dl.name
  | none => true

def specFhs (i : Inst) (dl : DLayer) : Bool :=
  fhsDirs.all fun d => Fs.isDir i.fs (pathJoin [buildDir i dl.name, d])

/-- `stateOf`, with its pieces named -/
theorem stateOf_unfold (i : Inst) (ls : List DLayer) (users : List (Bytes × List User)) (dl : DLayer)
    (ps : Option St) :
    stateOf i ls users dl ps =
      (let derived := !dl.file.base.isEmpty
       if dl.file.nmsgs > 0 then .error else
       if !Fs.isDir i.fs (buildDir i dl.name) then .incomplete else
       if derived && (!Fs.isDir i.fs (workDir i dl.name) || !Fs.isDir i.fs (upperDir i dl.name)) then .incomplete else
       if derived && !specParentMountable ps then .complete else
       if derived && !specOvlOk i dl then .error else
       if derived && (topAt i.mnts (buildDir i dl.name)).isNone then
         (if mountedAtOrBelow i dl.name then .error else .mountable)
       else
       if !specFhs i dl then .complete else
       if (specImports i ls dl).any (fun x => x.2.1.isNone) then .inhabited else
       specTail i users dl derived ((specImports i ls dl).map (specClassify i))) := by
  rfl

/-- a layer read without messages that lacks its build directory — or, derived, its work or
    upper directory — is `incomplete`, whatever is mounted -/
theorem stateOf_incomplete (i : Inst) (ls : List DLayer) (users : List (Bytes × List User))
    (dl : DLayer) (ps : Option St) (hn : dl.file.nmsgs = 0)
    (h : Fs.isDir i.fs (buildDir i dl.name) = false ∨ dl.file.base ≠ [] ∧
      (Fs.isDir i.fs (workDir i dl.name) = false ∨ Fs.isDir i.fs (upperDir i dl.name) = false)) :
    stateOf i ls users dl ps = .incomplete := by
  rw [stateOf_unfold]
  rcases h with h | ⟨hb, h | h⟩
  · simp [hn, h]
  · simp [hn, h, List.isEmpty_eq_false_iff.mpr hb]
  · simp [hn, h, List.isEmpty_eq_false_iff.mpr hb]

/-- `AdjustPrefixedPath` answers with an error value (it never panics), with the path itself,
    or with a `$$name` prefix resolved and joined with the rest; an answer that is not empty
    is an absolute path -/
theorem adjustPrefixedPath_cases (p : Bytes) (r : Bytes → Option Bytes) :
    (∃ c, adjustPrefixedPath p r = .error (.err c)) ∨
    ∃ np, adjustPrefixedPath p r = .ok np ∧ (np ≠ [] → isAbs np = true) ∧
      (np = p ∨ ∃ s pre tail, r s = some pre ∧ np = pathJoin [pre, tail]) := by
  unfold adjustPrefixedPath
  by_cases hp : p.length < 1
  · rw [if_pos hp]
    exact .inr ⟨[], rfl, fun h => absurd rfl h, .inl (List.length_eq_zero_iff.mp (by omega)).symm⟩
  rw [if_neg hp]
  generalize decomposePrefix p = dp
  obtain ⟨sigil, name, tail⟩ := dp
  dsimp only
  -- the path before the check at the end
  generalize hm : @ite (Res Bytes) ((sigil == [126]) = true) _ _ _ = mid
  have hmid : (∃ c, mid = .error (.err c)) ∨
      ∃ np, mid = .ok np ∧ (np = p ∨ ∃ s pre tail, r s = some pre ∧ np = pathJoin [pre, tail]) := by
    subst hm
    by_cases h1 : (sigil == [126]) = true
    · rw [if_pos h1]; exact .inl ⟨_, rfl⟩
    rw [if_neg h1]
    by_cases h2 : (sigil == [36, 36]) = true
    · rw [if_pos h2]
      cases hr : r name with
      | none => exact .inl ⟨_, rfl⟩
      | some pre => exact .inr ⟨_, rfl, .inr ⟨_, _, _, hr, rfl⟩⟩
    rw [if_neg h2]
    by_cases h3 : sigil.length > 0
    · rw [if_pos h3]; exact .inl ⟨_, rfl⟩
    · rw [if_neg h3]; exact .inr ⟨_, rfl, .inl rfl⟩
  rcases hmid with ⟨c, rfl⟩ | ⟨np, rfl, hq⟩
  · exact .inl ⟨c, rfl⟩
  dsimp only
  by_cases habs : (np.length > 0 && np.head? != some 47) = true
  · rw [if_pos habs]; exact .inl ⟨_, rfl⟩
  rw [if_neg habs]
  refine .inr ⟨np, rfl, fun hne => ?_, hq⟩
  cases np with
  | nil => exact absurd rfl hne
  | cons a as => simpa [Lc.Lemmas.Path.isAbs_cons] using habs

theorem adjustPrefixedPath_ok {p np : Bytes} {r : Bytes → Option Bytes}
    (h : adjustPrefixedPath p r = .ok np) :
    (np ≠ [] → isAbs np = true) ∧
      (np = p ∨ ∃ s pre tail, r s = some pre ∧ np = pathJoin [pre, tail]) := by
  rcases adjustPrefixedPath_cases p r with ⟨c, hc⟩ | ⟨np', hnp, hq⟩
  · rw [hc] at h; cases h
  · rw [hnp] at h; cases h; exact hq

theorem expandConfigMounts_no_panic (cfg : Config) (d : Defs) (l : Layer) :
    expandConfigMounts cfg d l ≠ .error .panic := by
  intro h
  obtain ⟨m, -, hm⟩ := expand_err h
  rcases adjustPrefixedPath_cases m.source (resolver d l) with ⟨c, hc⟩ | ⟨np, hnp, -⟩
  · rw [hc] at hm; cases hm
  · rw [hnp] at hm; cases hm

def exportResolve (cfg : Config) (name : Bytes) (sym : Bytes) : Option Bytes :=
  if sym == b!"package_export" then some (pathJoin [cfg.exportdirs, cfg.exportBinPkg, name])
  else if sym == b!"file_export" then some (pathJoin [cfg.exportdirs, cfg.exportGenerated, name])
  else none

def exportOf (cfg : Config) (l : Layer) (m : NeededMount) : Res Expanded :=
  match adjustPrefixedPath m.mount (exportResolve cfg l.name) with
  | .ok tgt => .ok ⟨tgt, pathJoin [l.layerPath, cfg.buildRoot, m.source], m.fstype, m.mount, m.source⟩
  | .error e => .error e

theorem expandConfigExports_mapM (cfg : Config) (l : Layer) :
    expandConfigExports cfg l = l.cexports.mapM (exportOf cfg l) := rfl

/-- the specification's resolver is the model's, once `$$base` names the same directory -/
theorem resolveSource_eq (i : Inst) (ls : List DLayer) (dl : DLayer) (d : Defs) (l : Layer)
    (hc : Corr i dl l)
    (hroot : (findLayerBase d (d.layers.length + 1) l).map (·.layerPath)
      = some (layerDir i (rootOf ls dl.name)))
    (src : Bytes) :
    resolveSource i ls dl.name src =
      match adjustPrefixedPath src (resolver d l) with
      | .ok p => some p
      | .error _ => none := by
  have hr : resolver d l = (fun sym =>
      if sym == b!"base" then some (layerDir i (rootOf ls dl.name))
      else if sym == b!"self" then some (layerDir i dl.name) else none) := by
    funext sym
    unfold resolver
    rw [hroot, hc.layerPath]
  rw [hr]
  rfl

/-- the import list, as resolved by the classification, is the model's expansion -/
theorem specImports_ok (i : Inst) (ls : List DLayer) (dl : DLayer) (d : Defs) (l : Layer)
    (imports : List Expanded) (hc : Corr i dl l)
    (hroot : (findLayerBase d (d.layers.length + 1) l).map (·.layerPath)
      = some (layerDir i (rootOf ls dl.name)))
    (hexp : expandConfigMounts i.cfg d l = .ok imports) :
    specImports i ls dl = imports.map (fun e => (e.mount, some e.source, e.fstype)) := by
  unfold specImports
  rw [← hc.cmounts]
  refine forall2_map _ _ _ ?_ _ _ (expand_forall₂ hexp)
  rintro m e ⟨hmp, hft, -, -, hsrc⟩
  rw [resolveSource_eq i ls dl d l hc hroot, hsrc, hmp, hft, hc.buildPath]

/-- … and when the model's expansion fails, some import does not resolve -/
theorem specImports_err (i : Inst) (ls : List DLayer) (dl : DLayer) (d : Defs) (l : Layer)
    (e : Fault) (hc : Corr i dl l)
    (hroot : (findLayerBase d (d.layers.length + 1) l).map (·.layerPath)
      = some (layerDir i (rootOf ls dl.name)))
    (hexp : expandConfigMounts i.cfg d l = .error e) :
    (specImports i ls dl).any (fun x => x.2.1.isNone) = true := by
  obtain ⟨m, hm, hf⟩ := expand_err hexp
  unfold specImports
  rw [List.any_map, List.any_eq_true]
  refine ⟨m, hc.cmounts ▸ hm, ?_⟩
  simp only [Function.comp]
  rw [resolveSource_eq i ls dl d l hc hroot, hf]
  rfl

theorem specClassify_code (i : Inst) (e : Expanded) :
    specClassify i (e.mount, some e.source, e.fstype) = specCode i e := rfl

/-! ### exports -/

/-- the two "inside the build directory" tests agree on an export source: the code's
    `IsDescendant` (filepath.Rel, the relative path not ".", ".." or "../…") or equality, and
    the manual's "the build directory or below it" -/
def ExportSrcAgree (i : Inst) (n : Bytes) (e : NeededMount) : Prop :=
  (isDescendant (buildDir i n) (pathJoin [layerDir i n, i.cfg.buildRoot, e.source])
      || buildDir i n == pathJoin [layerDir i n, i.cfg.buildRoot, e.source])
    = atOrBelow (buildDir i n) (pathJoin [layerDir i n, i.cfg.buildRoot, e.source])

instance (i : Inst) (n : Bytes) (e : NeededMount) : Decidable (ExportSrcAgree i n e) := by
  unfold ExportSrcAgree; exact inferInstance

theorem forall2_any_cond {α β : Type} (R : α → β → Prop) (p : α → Bool) (q c : β → Bool)
    (h : ∀ x y, R x y → c y = false → p x = q y) :
    ∀ (xs : List α) (ys : List β), All2 R xs ys → ys.any c = false → xs.any p = ys.any q := by
  intro xs ys hf
  induction hf with
  | nil => intro _; rfl
  | cons hxy _ ih =>
    intro hc
    simp only [List.any_cons, Bool.or_eq_false_iff] at hc
    simp only [List.any_cons, h _ _ hxy hc.1, ih hc.2]

theorem specExportLink_eq (i : Inst) (dl : DLayer) (l : Layer) (hc : Corr i dl l) (m : NeededMount) :
    specExportLink i dl.name m =
      match adjustPrefixedPath m.mount (exportResolve i.cfg l.name) with
      | .ok p => some p
      | .error _ => none := by
  rw [hc.name]
  rfl

/-- per export: the classification's "bad" is the code's "incorrect", its "missing" the
    code's "missing" once nothing is incorrect -/
theorem export_elem (i : Inst) (dl : DLayer) (l : Layer) (hc : Corr i dl l) (m : NeededMount)
    (e : Expanded) (ha : ExportSrcAgree i dl.name m) (hme : exportOf i.cfg l m = .ok e) :
    specExportBad i dl.name m = expWrong i.fs (buildPath i.cfg l) e ∧
    (expWrong i.fs (buildPath i.cfg l) e = false →
      specExportMissing i dl.name m = expMissing i.fs (buildPath i.cfg l) e) := by
  unfold ExportSrcAgree at ha
  unfold specExportBad specExportMissing expWrong expMissing
  rw [specExportLink_eq i dl l hc, hc.buildPath]
  unfold exportOf at hme
  split at hme
  · rename_i tgt htgt
    cases hme
    simp only [hc.layerPath]
    generalize pathJoin [layerDir i dl.name, i.cfg.buildRoot, m.source] = src at ha ⊢
    have ha' : (!isDescendant (buildDir i dl.name) src && buildDir i dl.name != src)
        = !atOrBelow (buildDir i dl.name) src := by
      rw [← ha]
      cases isDescendant (buildDir i dl.name) src <;> cases hq : (buildDir i dl.name == src) <;>
        simp [bne, hq]
    rw [ha']
    have hsl : (Fs.isSymlink i.fs tgt && readlink i.fs tgt != some src)
        = (match Fs.get i.fs tgt with
           | some (.symlink t) => t != src
           | _ => false) := by
      unfold Fs.isSymlink readlink
      cases hg : Fs.get i.fs tgt with
      | none => rfl
      | some nd =>
        cases nd with
        | dir => rfl
        | file c => rfl
        | symlink t =>
          simp only [Bool.true_and]
          by_cases ht : t = src
          · subst ht; simp
          · simp [bne]
    rw [Bool.and_assoc, hsl]
    constructor
    · rfl
    · intro hw
      simp only [Bool.or_eq_false_iff] at hw
      rw [hw.1]
      rfl
  · cases hme

/-- the export tallies of the classification and of the code -/
theorem exports_bridge (i : Inst) (dl : DLayer) (l : Layer) (hc : Corr i dl l)
    (hex : ∀ e ∈ dl.file.exports, ExportSrcAgree i dl.name e) :
    dl.file.exports.any (specExportBad i dl.name) =
      ((exportsOf i.cfg l).1.any (expWrong i.fs (buildPath i.cfg l)) || (exportsOf i.cfg l).2) ∧
    (((exportsOf i.cfg l).1.any (expWrong i.fs (buildPath i.cfg l)) || (exportsOf i.cfg l).2) = false →
      dl.file.exports.any (specExportMissing i dl.name) =
        (exportsOf i.cfg l).1.any (expMissing i.fs (buildPath i.cfg l))) := by
  unfold exportsOf
  cases hexp : expandConfigExports i.cfg l with
  | error e =>
    simp only [List.any_nil, Bool.or_true, Bool.true_eq_false, false_implies, and_true]
    rw [expandConfigExports_mapM, hc.cexports] at hexp
    obtain ⟨m, hm, hf⟩ := mapM_err_exists _ _ _ hexp
    rw [List.any_eq_true]
    refine ⟨m, hm, ?_⟩
    unfold specExportBad
    rw [specExportLink_eq i dl l hc]
    unfold exportOf at hf
    split at hf
    · cases hf
    · simp
  | ok exports =>
    simp only [Bool.or_false]
    rw [expandConfigExports_mapM, hc.cexports] at hexp
    have hz := mapM_ok _ _ _ hexp
    -- strengthen the relation with membership on the left
    have hz' : All2 (fun m e => ExportSrcAgree i dl.name m ∧ exportOf i.cfg l m = .ok e)
        dl.file.exports exports := by
      clear hexp
      revert hex
      generalize dl.file.exports = xs at hz
      intro hex
      induction hz with
      | nil => exact All2.nil
      | cons hxy _ ih =>
        exact All2.cons ⟨hex _ (List.mem_cons_self ..), hxy⟩
          (ih (fun e he => hex e (List.mem_cons_of_mem _ he)))
    constructor
    · exact forall2_any _ _ _ (fun m e h => (export_elem i dl l hc m e h.1 h.2).1) _ _ hz'
    · intro hw
      exact forall2_any_cond _ _ _ _ (fun m e h hc' => (export_elem i dl l hc m e h.1 h.2).2 hc') _ _ hz' hw

/-! ### the tail of the classification = `classify` -/

/-- the classification's tail is the code's final chain, on the classification's tallies -/
theorem specTail_toNat (i : Inst) (users : List (Bytes × List User)) (dl : DLayer) (derived : Bool)
    (cls : List Nat) :
    (specTail i users dl derived cls).toNat =
      finishState S_inhabited (mountBusy i users dl.name || overlain i dl.name)
        (cls.length + (if derived then 1 else 0))
        ((cls.filter (· == 2)).length + (if derived then 1 else 0))
        (cls.any (· == 0) || dl.file.exports.any (specExportMissing i dl.name))
        (cls.any (· == 3)) (dl.file.exports.any (specExportBad i dl.name)) := by
  simp only [specTail, finishState, apply_ite St.toNat]
  rfl

/-- After the overlay pre-check the code and the classification agree: `classify` started
    with the overlay counted (`n0`) reports the state the tail of `stateOf` names — given that
    the two sides resolve the import list alike (`hsi`), see the same mounts on the imports
    (`hbr`) and tally the exports alike (`hxb`, `hxm`). -/
theorem classify_eq_specTail (i : Inst) (ls : List DLayer) (users : List (Bytes × List User))
    (dl : DLayer) (d : Defs) (bd : Bytes) (lc : Layer) (n0 : Nat)
    (hsi : match expandConfigMounts i.cfg d lc with
      | .ok imports => specImports i ls dl = imports.map (fun e => (e.mount, some e.source, e.fstype))
      | .error _ => (specImports i ls dl).any (fun x => x.2.1.isNone) = true)
    (hbr : ∀ imports, expandConfigMounts i.cfg d lc = .ok imports →
      ∀ e ∈ imports, ImportBridge i d.mounts e)
    (hxb : dl.file.exports.any (specExportBad i dl.name) =
      ((exportsOf i.cfg lc).1.any (expWrong i.fs bd) || (exportsOf i.cfg lc).2))
    (hxm : ((exportsOf i.cfg lc).1.any (expWrong i.fs bd) || (exportsOf i.cfg lc).2) = false →
      dl.file.exports.any (specExportMissing i dl.name) = (exportsOf i.cfg lc).1.any (expMissing i.fs bd))
    (hbase : lc.base = dl.file.base)
    (hbusy : (lc.mountBusy || lc.overlain) = (mountBusy i users dl.name || overlain i dl.name))
    (hn0 : n0 = if !dl.file.base.isEmpty then 1 else 0) :
    ∃ l', classify i.cfg i.fs d bd lc n0 = .ok l' ∧
      l'.state = (if (specImports i ls dl).any (fun x => x.2.1.isNone) then St.inhabited
                  else specTail i users dl (!dl.file.base.isEmpty)
                    ((specImports i ls dl).map (specClassify i))).toNat := by
  rw [classify_eq]
  cases hexp : expandConfigMounts i.cfg d lc with
  | error e =>
    rw [hexp] at hsi
    cases e with
    | panic => exact absurd hexp (expandConfigMounts_no_panic _ _ _)
    | err c =>
      rw [hsi]
      exact ⟨_, rfl, rfl⟩
  | ok imports =>
    rw [hexp] at hsi
    have hbr' := hbr imports hexp
    have hnone : ((List.map (fun e : Expanded => (e.mount, some e.source, e.fstype)) imports).any
        fun x => x.snd.fst.isNone) = false := by
      rw [List.any_map]
      simp
    have hcls : (imports.map (fun e : Expanded => (e.mount, some e.source, e.fstype))).map (specClassify i)
        = imports.map (specCode i) := by
      rw [List.map_map]
      rfl
    rw [hsi, hnone, hcls]
    have h3 : (imports.map (specCode i)).any (fun x => x == 3) = imports.any (impWrong i.cfg i.fs d.mounts) :=
      any_map_congr _ _ _ _ (fun e he => bridge_wrong i d.mounts e (hbr' e he))
    have h0 : (imports.map (specCode i)).any (fun x => x == 0) = imports.any (impMissing i.cfg i.fs) :=
      any_map_congr _ _ _ _ (fun e he => bridge_missing i d.mounts e (hbr' e he))
    have hpn : imports.any (impPanic i.cfg i.fs d.mounts) = false := by
      rw [List.any_eq_false]
      intro e he
      simp [bridge_panic i d.mounts e (hbr' e he)]
    have hlen := expand_length hexp
    simp only [hpn, Bool.false_eq_true, ↓reduceIte]
    refine ⟨_, rfl, ?_⟩
    have hder : (lc.base.length > 0) = ((!dl.file.base.isEmpty) = true) := by
      rw [hbase]
      cases dl.file.base <;> simp
    have hne : numExpected lc = imports.length + (if (!dl.file.base.isEmpty) = true then 1 else 0) := by
      unfold numExpected
      rw [hlen]
      simp only [hder]
    rw [specTail_toNat, h3, h0, hxb, List.length_map, ← finishState_or, hne, hbusy, hn0]
    -- missing exports and mounted imports are compared only where nothing is incorrect
    refine finishState_congr _ _ _ _ _ _ _ _ _ fun hbc => ?_
    simp only [Bool.or_eq_false_iff] at hbc
    have h2 : ((imports.map (specCode i)).filter (fun x => x == 2)).length
        = imports.countP (impMounted i.cfg i.fs d.mounts) :=
      filter_map_length _ _ _ _ fun e he => bridge_mounted i d.mounts e (hbr' e he)
        (by simpa using List.any_eq_false.mp hbc.1.1 e he)
    rw [hxm (by simp [hbc.1.2, hbc.2]), h2, Nat.add_comm]
    exact ⟨rfl, rfl⟩

/-- the same for the record `findLayerstate` works on (fresh `mounts`, state reset) of a layer
    read from its layerconfig, `$$base` naming the same directory on both sides -/
theorem classify_eq_specTail_of (i : Inst) (ls : List DLayer) (users : List (Bytes × List User))
    (dl : DLayer) (d : Defs) (l : Layer) (ms : List MountType) (s n0 : Nat)
    (hc : Corr i dl l)
    (hroot : (findLayerBase d (d.layers.length + 1) l).map (·.layerPath)
      = some (layerDir i (rootOf ls dl.name)))
    (hbr : ∀ imports, expandConfigMounts i.cfg d l = .ok imports →
      ∀ e ∈ imports, ImportBridge i d.mounts e)
    (hex : ∀ e ∈ dl.file.exports, ExportSrcAgree i dl.name e)
    (hbusy : (l.mountBusy || l.overlain) = (mountBusy i users dl.name || overlain i dl.name))
    (hn0 : n0 = if !dl.file.base.isEmpty then 1 else 0) :
    ∃ l', classify i.cfg i.fs d (buildPath i.cfg l) { l with mounts := ms, state := s } n0 = .ok l' ∧
      l'.state = (if (specImports i ls dl).any (fun x => x.2.1.isNone) then St.inhabited
                  else specTail i users dl (!dl.file.base.isEmpty)
                    ((specImports i ls dl).map (specClassify i))).toNat := by
  obtain ⟨hxb, hxm⟩ := exports_bridge i dl l hc hex
  refine classify_eq_specTail i ls users dl d _ _ n0 ?_
    (fun imports himp => hbr imports ((expandConfigMounts_state ..).symm.trans himp))
    hxb hxm hc.base hbusy hn0
  rw [expandConfigMounts_state]
  cases hexp : expandConfigMounts i.cfg d l with
  | ok imports => exact specImports_ok i ls dl d l imports hc hroot hexp
  | error e => exact specImports_err i ls dl d l e hc hroot hexp

/-! ### `findLayerstate` on a derived layer, in closed form -/

/-- what is assumed about the two views of the mount table at the build directory of a
    derived layer: both see a mount there or neither does, and the one `ProbeMounts` shows
    has the type and (for an overlay) the lower/upper/work directories of the kernel's -/
structure OverlayBridge (i : Inst) (m : Mounts) (bd : Bytes) : Prop where
  mounted : (getMount m bd).isSome = (topAt i.mnts bd).isSome
  /-- "something is mounted at or below the build directory": `GetMountAndSubmounts` is not
      empty iff the kernel table has such a mount -/
  below : decide ((getMountAndSubmounts m bd).length > 0) = i.mnts.any (fun k => atOrBelow bd k.mp)
  fields : ∀ mnt km, getMount m bd = some mnt → topAt i.mnts bd = some km →
    mnt.fstype = km.fstype ∧
    (km.fstype = b!"overlay" → mnt.source = km.lower ∧ mnt.source2 = km.upper ∧ mnt.workdir = km.work)

/-- through the bridge the code's "not the configured overlay" is the classification's -/
theorem OverlayBridge.not_configured {i : Inst} {m : Mounts} {bd : Bytes} (hov : OverlayBridge i m bd)
    {mnt : MountType} {km : Kernel.KMnt} (hg : getMount m bd = some mnt) (ht : topAt i.mnts bd = some km)
    (lower upper work : Bytes) :
    (mnt.fstype != b!"overlay" || (mnt.source != lower || mnt.source2 != upper || mnt.workdir != work))
      = !(km.fstype == b!"overlay" && km.lower == lower && km.upper == upper && km.work == work) := by
  obtain ⟨hf1, hf2⟩ := hov.fields mnt km hg ht
  rw [hf1]
  by_cases hovl : km.fstype = b!"overlay"
  · obtain ⟨h1, h2, h3⟩ := hf2 hovl
    rw [h1, h2, h3]
    simp only [bne, Bool.not_and, Bool.or_assoc]
  · have hne : (km.fstype == b!"overlay") = false := beq_eq_false_iff_ne.mpr hovl
    simp only [bne, hne, Bool.not_false, Bool.true_or, Bool.false_and]

theorem findLayerstate_derived (cfg : Config) (fs : Fs.Tree) (d : Defs) (l bl : Layer)
    (hs : ¬ l.state < S_complete) (hb : l.base.length > 0) (hbl : findLayer d l.base = some bl) :
    findLayerstate cfg fs d l =
      if bl.state < S_mountable then
        .ok { l with mounts := getMountAndSubmounts d.mounts (buildPath cfg l), state := S_complete }
      else match getMount d.mounts (buildPath cfg l) with
        | none =>
          if (getMountAndSubmounts d.mounts (buildPath cfg l)).length > 0 then
            .ok { l with mounts := getMountAndSubmounts d.mounts (buildPath cfg l), state := S_error }
          else
            .ok { l with mounts := getMountAndSubmounts d.mounts (buildPath cfg l), state := S_mountable }
        | some mnt =>
          if mnt.fstype != b!"overlay" || (mnt.source != buildPath cfg bl || mnt.source2 != upperPath cfg l
                || mnt.workdir != workPath cfg l) then
            .ok { l with mounts := getMountAndSubmounts d.mounts (buildPath cfg l), state := S_error }
          else if !minimalBuildDirsPresent fs (buildPath cfg l) then
            .ok { l with mounts := getMountAndSubmounts d.mounts (buildPath cfg l), state := S_complete }
          else classify cfg fs d (buildPath cfg l)
            { l with mounts := getMountAndSubmounts d.mounts (buildPath cfg l), state := S_complete } 1 := by
  rw [findLayerstate_eq]
  unfold findLayerstate2 preCheck
  simp only [hs, hb, hbl, ↓reduceIte]
  -- `afterPre` is applied to a tree of `if`s with closed leaves: push it to the leaves
  by_cases hst : bl.state < S_mountable
  · simp only [hst, ↓reduceIte]
    rfl
  simp only [hst, ↓reduceIte]
  show afterPre cfg fs d (buildPath cfg l) _
    (match getMount d.mounts (buildPath cfg l) with | none => _ | some mnt => _) = _
  cases getMount d.mounts (buildPath cfg l) with
  | none =>
    simp only [apply_ite (afterPre cfg fs d (buildPath cfg l) _)]
    rfl
  | some mnt =>
    cases hft : (mnt.fstype != b!"overlay")
    · simp only [hft, Bool.false_eq_true, ↓reduceIte, Bool.false_or,
        apply_ite (afterPre cfg fs d (buildPath cfg l) _)]
      rfl
    · simp only [hft, ↓reduceIte, Bool.true_or]
      rfl

/-! ### when the two "inside the build directory" tests agree -/

/-- `p` is not below `dir`, or its path relative to `dir` is a proper relative path: not
    empty, not ".", not "..", not beginning with "../" -/
def relProper (dir p : Bytes) : Bool :=
  !hasPrefix p (dir ++ [47]) ||
    ((p.drop (dir.length + 1)).length > 0 && p.drop (dir.length + 1) != [46]
      && p.drop (dir.length + 1) != [46, 46] && !hasPrefix (p.drop (dir.length + 1)) [46, 46, 47])

theorem descendant_or_eq_iff (dir p : Bytes) (hd : dir ≠ [47]) :
    ((isDescendant dir p || dir == p) = atOrBelow dir p) ↔ relProper dir p = true := by
  unfold isDescendant atOrBelow relProper Fs.under
  have hd' : (dir == [47]) = false := by simpa using hd
  simp only [hd', Bool.false_eq_true, ↓reduceIte]
  by_cases he : p = dir
  · subst he
    have hnp : hasPrefix p (p ++ [47]) = false := by
      clear hd hd'
      induction p with
      | nil => rfl
      | cons a as ih => simp [hasPrefix, ih]
    simp [hnp]
  · have he1 : (p == dir) = false := by simpa using he
    have he2 : (dir == p) = false := by simpa using fun h : dir = p => he h.symm
    simp only [he1, he2, Bool.false_or, Bool.or_false, Bool.false_eq_true, ↓reduceIte]
    cases hp : hasPrefix p (dir ++ [47]) with
    | false => simp
    | true =>
      simp only [↓reduceIte, Bool.not_true, Bool.false_or]

/-- the hypothesis `ExportSrcAgree` of the classification theorems, in plain terms (with
    fix eeedaf2): the export source is outside the build directory, the build directory
    itself, or a path below it that is not "", ".", ".." or "../…" relative to it — which
    every clean path is (`Lc.InLayers.relProper_clean`) -/
theorem export_src_agree_iff (i : Inst) (n : Bytes) (e : NeededMount) (hd : buildDir i n ≠ [47]) :
    ExportSrcAgree i n e ↔
      relProper (buildDir i n) (pathJoin [layerDir i n, i.cfg.buildRoot, e.source]) = true := by
  unfold ExportSrcAgree
  exact descendant_or_eq_iff _ _ hd

/-! ### the bridge hypotheses are decidable -/

def importBridgeB (i : Inst) (m : Mounts) (e : Expanded) : Bool :=
  isAbs e.source &&
  decide (inAnyLayerDirectory i.cfg (e.source.length + 1) e.source = underLayers i e.source) &&
  decide ((getMount m e.mount).isSome = (topAt i.mnts e.mount).isSome) &&
  match getMount m e.mount, topAt i.mnts e.mount with
  | some mnt, some km =>
    decide (mountSourceIsExpected m mnt e.source = .ok (importAsConfigured i km e.fstype e.source))
  | _, _ => true

theorem importBridge_iff (i : Inst) (m : Mounts) (e : Expanded) :
    importBridgeB i m e = true ↔ ImportBridge i m e := by
  unfold importBridgeB
  simp only [Bool.and_eq_true, decide_eq_true_eq]
  constructor
  · rintro ⟨⟨⟨h1, h2⟩, h3⟩, h4⟩
    refine ⟨h1, h2, h3, ?_⟩
    intro mnt km hg ht
    rw [hg, ht] at h4
    simpa using h4
  · intro h
    refine ⟨⟨⟨h.abs, h.inLayers⟩, h.mounted⟩, ?_⟩
    cases hg : getMount m e.mount with
    | none => rfl
    | some mnt =>
      cases ht : topAt i.mnts e.mount with
      | none => rfl
      | some km => simpa using h.expected mnt km hg ht

instance (i : Inst) (m : Mounts) (e : Expanded) : Decidable (ImportBridge i m e) :=
  decidable_of_iff _ (importBridge_iff i m e)

def overlayBridgeB (i : Inst) (m : Mounts) (bd : Bytes) : Bool :=
  decide ((getMount m bd).isSome = (topAt i.mnts bd).isSome) &&
  decide (decide ((getMountAndSubmounts m bd).length > 0) = i.mnts.any (fun k => atOrBelow bd k.mp)) &&
  match getMount m bd, topAt i.mnts bd with
  | some mnt, some km =>
    decide (mnt.fstype = km.fstype) &&
    (km.fstype != b!"overlay" ||
      (decide (mnt.source = km.lower) && decide (mnt.source2 = km.upper) && decide (mnt.workdir = km.work)))
  | _, _ => true

theorem overlayBridge_iff (i : Inst) (m : Mounts) (bd : Bytes) :
    overlayBridgeB i m bd = true ↔ OverlayBridge i m bd := by
  unfold overlayBridgeB
  simp only [Bool.and_eq_true, decide_eq_true_eq]
  constructor
  · rintro ⟨⟨h1, hb⟩, h2⟩
    refine ⟨h1, hb, ?_⟩
    intro mnt km hg ht
    rw [hg, ht] at h2
    simp only [Bool.and_eq_true, decide_eq_true_eq, Bool.or_eq_true, bne_iff_ne, ne_eq] at h2
    refine ⟨h2.1, fun hov => ?_⟩
    rcases h2.2 with h | h
    · exact absurd hov h
    · exact ⟨h.1.1, h.1.2, h.2⟩
  · intro h
    refine ⟨⟨h.mounted, h.below⟩, ?_⟩
    cases hg : getMount m bd with
    | none => rfl
    | some mnt =>
      cases ht : topAt i.mnts bd with
      | none => rfl
      | some km =>
        obtain ⟨hf1, hf2⟩ := h.fields mnt km hg ht
        simp only [Bool.and_eq_true, decide_eq_true_eq, Bool.or_eq_true, bne_iff_ne, ne_eq]
        refine ⟨hf1, ?_⟩
        by_cases hov : km.fstype = b!"overlay"
        · right
          obtain ⟨a, b, c⟩ := hf2 hov
          exact ⟨⟨a, b⟩, c⟩
        · left; exact hov

instance (i : Inst) (m : Mounts) (bd : Bytes) : Decidable (OverlayBridge i m bd) :=
  decidable_of_iff _ (overlayBridge_iff i m bd)

instance (i : Inst) (dl : DLayer) (l : Layer) : Decidable (Corr i dl l) :=
  decidable_of_iff (l.name = dl.name ∧ l.base = dl.file.base ∧ l.cmounts = dl.file.mounts ∧
      l.cexports = dl.file.exports ∧ l.layerPath = layerDir i dl.name)
    ⟨fun ⟨a, b, c, d, e⟩ => ⟨a, b, c, d, e⟩, fun h => ⟨h.name, h.base, h.cmounts, h.cexports, h.layerPath⟩⟩

end Lc.StateProbe
