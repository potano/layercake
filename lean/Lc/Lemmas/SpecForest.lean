/-
  Correspondence between the model's table of layers (`Defs.layers`, as `FindLayers` builds
  it) and the forest the specification reads from the disk (`Spec.World.diskLayers`):
  `ForestCorr`, proved of `readLayerFiles`; from it the agreement of `$$base` on both sides
  (`root_agree`) and the parent's paths.  Helper lemmas for Props/C08 section 8.
-/
import Lc.Lemmas.StateSpec
import Lc.Lemmas.ForestInv

namespace Lc.StateProbe
open Lc Lc.Layers Lc.Mountinfo Lc.Layerfile Lc.Spec.World

/-- every record of the model's table is the model's record (`Corr`) of the disk layer the
    specification finds under the same name; both tables have the same number of entries
    (the fuel of the two chain walks) -/
structure ForestCorr (i : Inst) (ls : List DLayer) (d : Defs) : Prop where
  len : d.layers.length = ls.length
  find : ∀ n l, findLayer d n = some l → ∃ dl, findD ls n = some dl ∧ Corr i dl l

theorem findD_name (ls : List DLayer) (n : Bytes) (dl : DLayer) (h : findD ls n = some dl) :
    dl.name = n := by
  unfold findD at h
  have := List.find?_some h
  simpa using this

/-- walking up to the root of the chain: the model's walk, when it ends, ends at the layer
    the specification's ancestor list ends with -/
theorem root_agree_aux (i : Inst) (ls : List DLayer) (d : Defs) (hf : ForestCorr i ls d) :
    ∀ (f : Nat) (l r : Layer) (dl : DLayer), Corr i dl l → findD ls dl.name = some dl →
      findLayerBase d f l = some r →
      ((ancestorsOf ls f dl.name).getLast?).getD dl.name = r.name ∧ r.layerPath = layerDir i r.name := by
  intro f
  induction f with
  | zero =>
    intro l r dl _ _ h
    simp [findLayerBase] at h
  | succ f ih =>
    intro l r dl hc hd h
    unfold findLayerBase at h
    unfold ancestorsOf
    rw [hd]
    simp only []
    by_cases hb : l.base.length > 0
    · simp only [hb, ↓reduceIte] at h
      have hne : dl.file.base.isEmpty = false := by
        rw [← hc.base]
        cases hx : l.base with
        | nil => rw [hx] at hb; simp at hb
        | cons a as => rfl
      simp only [hne, Bool.false_eq_true, ↓reduceIte]
      cases hp : findLayer d l.base with
      | none => rw [hp] at h; cases h
      | some p =>
        rw [hp] at h
        simp only [] at h
        obtain ⟨dlp, hdp, hcp⟩ := hf.find _ _ hp
        have hnm : dlp.name = dl.file.base := (findD_name ls _ dlp hdp).trans hc.base
        have hdp' : findD ls dlp.name = some dlp := by rw [hnm, ← hc.base]; exact hdp
        obtain ⟨h1, h2⟩ := ih p r dlp hcp hdp' h
        refine ⟨?_, h2⟩
        rw [List.getLast?_cons]
        simp only [Option.getD_some]
        rw [← hnm]
        exact h1
    · simp only [hb, ↓reduceIte, Option.some.injEq] at h
      subst h
      have he : dl.file.base.isEmpty = true := by
        rw [← hc.base]
        cases hx : l.base with
        | nil => rfl
        | cons a as => rw [hx] at hb; simp at hb
      simp only [he, ↓reduceIte, List.getLast?_nil, Option.getD_none]
      exact ⟨hc.name.symm, by rw [hc.layerPath, hc.name]⟩

/-- **`$$base` names the same directory on both sides**: under the forest correspondence,
    whenever the model's walk to the root of the chain ends (no cycle, no missing parent),
    the directory it finds is the one the classification resolves `$$base` to -/
theorem root_agree (i : Inst) (ls : List DLayer) (d : Defs) (hf : ForestCorr i ls d)
    (l : Layer) (dl : DLayer) (hc : Corr i dl l) (hd : findD ls dl.name = some dl)
    (hsome : (findLayerBase d (d.layers.length + 1) l).isSome = true) :
    (findLayerBase d (d.layers.length + 1) l).map (·.layerPath)
      = some (layerDir i (rootOf ls dl.name)) := by
  cases hr : findLayerBase d (d.layers.length + 1) l with
  | none => rw [hr] at hsome; cases hsome
  | some r =>
    obtain ⟨h1, h2⟩ := root_agree_aux i ls d hf _ l r dl hc hd hr
    unfold rootOf
    rw [← hf.len, h1]
    simp [h2]

/-- the parent's record is the parent's disk layer -/
theorem parent_path (i : Inst) (ls : List DLayer) (d : Defs) (hf : ForestCorr i ls d)
    (l bl : Layer) (dl : DLayer) (hc : Corr i dl l) (hbl : findLayer d l.base = some bl) :
    bl.layerPath = layerDir i dl.file.base := by
  obtain ⟨dlp, hdp, hcp⟩ := hf.find _ _ hbl
  rw [hcp.layerPath, findD_name ls _ dlp hdp, hc.base]

/-- a decidable sufficient condition: same length, and every record of the table is the
    record of the disk layer found under its name -/
def forestCorrB (i : Inst) (ls : List DLayer) (d : Defs) : Bool :=
  decide (d.layers.length = ls.length) &&
  d.layers.all fun l => match findD ls l.name with
    | some dl => decide (Corr i dl l)
    | none => false

theorem forestCorr_of_list (i : Inst) (ls : List DLayer) (d : Defs) (h : forestCorrB i ls d = true) :
    ForestCorr i ls d := by
  unfold forestCorrB at h
  simp only [Bool.and_eq_true, decide_eq_true_eq, List.all_eq_true] at h
  refine ⟨h.1, ?_⟩
  intro n l hl
  obtain ⟨hmem, hname⟩ := ForestInv.findLayer_mem hl
  have := h.2 l hmem
  rw [hname] at this
  cases hf : findD ls n with
  | none => rw [hf] at this; cases this
  | some dl =>
    rw [hf] at this
    exact ⟨dl, rfl, by simpa using this⟩

/-! ### `FindLayers` builds a corresponding table -/

/-- the table `FindLayers` reads from the tree of an installation is, record by record, the
    forest the specification reads from the same tree -/
theorem readLayerFiles_diskLayers (i : Inst) :
    readLayerFiles i.cfg i.fs (Fs.children i.fs i.cfg.layerdirs) =
      (diskLayers i).map fun dl => layerOfFile i.cfg dl.name dl.file := by
  unfold readLayerFiles diskLayers
  rw [List.map_filterMap]
  congr 1
  funext n
  cases isLegalLayerName n with
  | false => rfl
  | true =>
    show (match Fs.readFile i.fs (pathJoin [layerDir i n, b!"layerconfig"]) with
      | some c => some (layerOfFile i.cfg n (readLayerFile c))
      | none => none) = _
    cases Fs.readFile i.fs (pathJoin [layerDir i n, b!"layerconfig"]) <;> rfl

theorem find_read (i : Inst) (n : Bytes) :
    (readLayerFiles i.cfg i.fs (Fs.children i.fs i.cfg.layerdirs)).find? (·.name == n) =
      (findD (diskLayers i) n).map fun dl => layerOfFile i.cfg dl.name dl.file := by
  rw [readLayerFiles_diskLayers, List.find?_map]
  rfl

theorem forestCorr_diskLayers (i : Inst) (order : List Bytes) (m : Mounts) :
    ForestCorr i (diskLayers i)
      { layers := readLayerFiles i.cfg i.fs (Fs.children i.fs i.cfg.layerdirs), order := order, mounts := m } := by
  refine ⟨by simp only [readLayerFiles_diskLayers, List.length_map], fun n l hl => ?_⟩
  obtain ⟨dl, hd, rfl⟩ := Option.map_eq_some_iff.mp ((find_read i n).symm.trans hl)
  exact ⟨dl, hd, ⟨rfl, rfl, rfl, rfl, rfl⟩⟩

end Lc.StateProbe
