/-
  Lemmas about the file-system model (Lc/Model/Fs.lean): `under`, `removeAll` and
  `rename` seen through the first-match lookup `get`.  Helper lemmas for Props/C09.
  Core Lean only.
-/
import Lc.Lemmas.Fs
import Lc.Lemmas.Prefix

namespace Lc.FsRename
open Lc Lc.Fs

theorem hasPrefix_self_append (p r : Bytes) : hasPrefix (p ++ r) p = true :=
  (hasPrefix_iff _ _).mpr ⟨r, rfl⟩

/-- the remainder of a path at or below a directory: empty or starting with a slash -/
def Tail (rest : Bytes) : Prop := rest = [] ∨ ∃ r, rest = 47 :: r

theorem tail_nil : Tail [] := Or.inl rfl
theorem tail_slash (r : Bytes) : Tail (47 :: r) := Or.inr ⟨r, rfl⟩

theorem Tail.append {a b : Bytes} (ha : Tail a) (hb : Tail b) : Tail (a ++ b) := by
  rcases ha with rfl | ⟨r, rfl⟩
  · exact hb
  · exact tail_slash _

theorem under_self (p : Bytes) : under p p = true := by
  simp [under]

/-- for a directory other than "/": `q` is at or below `p` iff `q = p` or `q = p/…` -/
theorem under_iff (p q : Bytes) (hp : p ≠ [47]) :
    under p q = true ↔ ∃ rest, Tail rest ∧ q = p ++ rest := by
  unfold under
  have hp' : (p == [47]) = false := by simpa using hp
  simp only [hp', Bool.false_eq_true, if_false, Bool.or_eq_true, beq_iff_eq, hasPrefix_iff]
  constructor
  · rintro (e | ⟨r, hr⟩)
    · exact ⟨[], tail_nil, by simp [e]⟩
    · exact ⟨47 :: r, tail_slash r, by simp [hr]⟩
  · rintro ⟨rest, (e | ⟨r, e⟩), hq⟩
    · left; simp [hq, e]
    · right; exact ⟨r, by simp [hq, e]⟩

/-- also for `p = "/"` -/
theorem under_append (p rest : Bytes) (h : Tail rest) : under p (p ++ rest) = true := by
  by_cases hp : p = [47]
  · subst hp
    rcases h with e | ⟨r, e⟩ <;> subst e <;> simp [under, hasPrefix]
  · exact (under_iff p _ hp).2 ⟨rest, h, rfl⟩

/-- a sibling whose name extends the directory's name by a non-slash byte (`<dir>~removed`)
    shares no path with the directory -/
theorem under_sibling_disjoint (p s q : Bytes) (c : Nat) (hc : c ≠ 47) (hp : p ≠ [47])
    (h : under (p ++ c :: s) q = true) : under p q = false := by
  have hne : p ++ c :: s ≠ [47] := by
    cases p with
    | nil => simp [hc]
    | cons x xs => simp
  obtain ⟨rest, _, hq⟩ := (under_iff _ _ hne).1 h
  cases hu : under p q with
  | false => rfl
  | true =>
    obtain ⟨rest', ht, hq'⟩ := (under_iff _ _ hp).1 hu
    rw [hq, List.append_assoc, List.append_right_inj] at hq'
    rcases ht with e | ⟨r, e⟩
    · subst e; simp at hq'
    · subst e
      simp only [List.cons_append, List.cons.injEq] at hq'
      exact absurd hq'.1 hc

theorem get_removeAll_not_under (fs : Tree) (m p : Bytes) (h : under m p = false) :
    Fs.get (removeAll fs m) p = Fs.get fs p := by
  simp [Fs.get_removeAll, h]

theorem get_removeAll_under (fs : Tree) (m p : Bytes) (h : under m p = true) :
    Fs.get (removeAll fs m) p = none := by
  simp [Fs.get_removeAll, h]

theorem under_prefix (p q : Bytes) (h : under p q = true) : ∃ t, q = p ++ t := by
  unfold under at h
  rcases (Bool.or_eq_true _ _).mp h with h | h
  · exact ⟨[], by rw [List.append_nil]; exact beq_iff_eq.mp h⟩
  · split at h
    · rename_i hp
      rw [beq_iff_eq.mp hp]
      exact (hasPrefix_iff _ _).mp h
    · obtain ⟨t, ht⟩ := (hasPrefix_iff _ _).mp h
      exact ⟨47 :: t, by rw [ht, List.append_assoc]; rfl⟩

theorem mv_self (p : Bytes) (e : Bytes × Node) : mv p p e = e := by
  unfold mv
  split
  · rename_i h
    rw [← beq_iff_eq.mp h]
  · split
    · rename_i hu
      obtain ⟨t, ht⟩ := under_prefix p e.1 hu
      rw [ht, List.drop_left, ← ht]
    · rfl

theorem mv_cases (old new : Bytes) (e : Bytes × Node) (ho : old ≠ [47]) :
    (under old e.1 = false ∧ mv old new e = e) ∨
      ∃ rest, Tail rest ∧ e.1 = old ++ rest ∧ mv old new e = (new ++ rest, e.2) := by
  unfold mv
  cases h2 : under old e.1 with
  | false =>
    have h1 : (e.1 == old) = false := by
      cases hb : e.1 == old with
      | false => rfl
      | true => rw [beq_iff_eq.mp hb, under_self] at h2; cases h2
    exact Or.inl ⟨rfl, by simp [h1]⟩
  | true =>
    obtain ⟨rest, hr, he⟩ := (under_iff old e.1 ho).1 h2
    refine Or.inr ⟨rest, hr, he, ?_⟩
    rw [he, List.drop_left]
    split
    · rename_i h1
      have : rest = [] := by simpa using h1
      simp [this]
    · rfl

theorem mv_snd (old new : Bytes) (e : Bytes × Node) : (mv old new e).2 = e.2 := by
  unfold mv; split
  · rfl
  · split <;> rfl

theorem rename_get_new (fs fs' : Tree) (old new : Bytes) (h : rename fs old new = .ok fs')
    (hold : old ≠ [47]) (hne : old ≠ new) (rest : Bytes) (hr : Tail rest) :
    Fs.get fs' (new ++ rest) = if under new (old ++ rest) then none else Fs.get fs (old ++ rest) := by
  obtain ⟨_, hfs, _, _⟩ := rename_ok fs fs' old new h
  have hne' : (old == new) = false := by simpa using hne
  rw [hfs, hne', ← Fs.get_removeAll]
  apply get_map_key _ _ _ _ (fun e _ => mv_snd old new e)
  intro e he
  have hun := (mem_removeAll fs new e he).2
  rcases mv_cases old new e hold with ⟨huo, hm⟩ | ⟨r, _, he1, hm⟩
  · rw [hm]
    constructor
    · intro e1; rw [e1, under_append new rest hr] at hun; cases hun
    · intro e1; rw [e1, under_append old rest hr] at huo; cases huo
  · rw [hm, he1, List.append_right_inj, List.append_right_inj]

/-- entries at or below `old` are found, node unchanged, at the same relative path below
    `new`; lookups below `new` see nothing else.  Hypothesis `hdisj`: no entry lies at or
    below both names (true e.g. when nothing exists at or below `new`, or when `new` is a
    sibling `old ++ "~…"`). -/
theorem rename_moves (fs fs' : Tree) (old new : Bytes) (h : rename fs old new = .ok fs')
    (hold : old ≠ [47]) (hdisj : ∀ e ∈ fs, under new e.1 = true → under old e.1 = false)
    (rest : Bytes) (hr : Tail rest) : Fs.get fs' (new ++ rest) = Fs.get fs (old ++ rest) := by
  have hfree : ∀ r, Tail r → under new (old ++ r) = true → Fs.get fs (old ++ r) = none := by
    intro r hr hu
    cases hg : Fs.get fs (old ++ r) with
    | none => rfl
    | some n =>
      have := hdisj _ (get_some_mem fs _ n hg) hu
      rw [under_append old r hr] at this; cases this
  have hne : old ≠ new := by
    intro e
    have hn := hfree [] tail_nil (by rw [List.append_nil, e]; exact under_self new)
    have hs := (rename_ok fs fs' old new h).1
    rw [List.append_nil] at hn
    rw [hn] at hs
    cases hs
  rw [rename_get_new fs fs' old new h hold hne rest hr]
  split
  · rename_i hu; exact (hfree rest hr hu).symm
  · rfl

/-- paths neither at/below `old` nor at/below `new` are untouched by a successful rename -/
theorem rename_keeps (fs fs' : Tree) (old new : Bytes) (h : rename fs old new = .ok fs')
    (hold : old ≠ [47]) (p : Bytes) (hpo : under old p = false) (hpn : under new p = false) :
    Fs.get fs' p = Fs.get fs p := by
  obtain ⟨_, hfs, _, _⟩ := rename_ok fs fs' old new h
  have hmap : ∀ l : Tree, Fs.get (l.map (mv old new)) p = Fs.get l p := by
    intro l
    apply get_map_key _ _ _ _ (fun e _ => mv_snd old new e)
    intro e _
    rcases mv_cases old new e hold with ⟨_, hm⟩ | ⟨r, hr, he1, hm⟩
    · rw [hm]
    · rw [hm, he1]
      constructor
      · intro e1; rw [← e1, under_append new r hr] at hpn; cases hpn
      · intro e1; rw [← e1, under_append old r hr] at hpo; cases hpo
  rw [hfs, hmap]
  split
  · rfl
  · exact get_removeAll_not_under fs new p hpn

theorem rename_mem (fs fs' : Tree) (old new : Bytes) (h : rename fs old new = .ok fs')
    (hold : old ≠ [47]) (k : Bytes) (n : Node) (hk : (k, n) ∈ fs') :
    ((k, n) ∈ fs ∧ under old k = false) ∨
      ∃ rest, Tail rest ∧ k = new ++ rest ∧ (old ++ rest, n) ∈ fs := by
  obtain ⟨_, hfs, _, _⟩ := rename_ok fs fs' old new h
  rw [hfs] at hk
  obtain ⟨e, he, hm⟩ := List.mem_map.mp hk
  have hef : e ∈ fs := by
    split at he
    · exact he
    · exact (mem_removeAll fs new e he).1
  rcases mv_cases old new e hold with ⟨huo, hm'⟩ | ⟨r, hr, he1, hm'⟩
  · rw [hm'] at hm; subst hm; exact Or.inl ⟨hef, huo⟩
  · rw [hm'] at hm
    cases hm
    exact Or.inr ⟨r, hr, rfl, by rw [← he1]; exact hef⟩

end Lc.FsRename
