import Lc.Base.Res

namespace Lc

def Res.FaultsIn {α : Type} (S : Fault → Prop) (r : Res α) : Prop := ∀ f, r = .error f → S f

namespace Res.FaultsIn
variable {α β : Type} {S : Fault → Prop} {r : Res α} {f : Fault}

theorem ok {a : α} : FaultsIn S (.ok a) := nofun

theorem error (h : S f) : FaultsIn S (.error f : Res α) := fun _ e => Except.error.inj e ▸ h

theorem err {c : String} (h : S (.err c)) : FaultsIn S (Res.err c : Res α) := error h

/-- a fault passed on unchanged, as in `| .error e => .error e` -/
theorem pass (h : FaultsIn S r) (e : r = .error f) : FaultsIn S (.error f : Res β) := error (h f e)

theorem ne (h : FaultsIn S r) (hf : ¬ S f) : r ≠ .error f := fun e => hf (h f e)

end Res.FaultsIn

/-- a Go `error` return at worst, never a run-time panic -/
abbrev Res.NoPanic {α : Type} (r : Res α) : Prop := r.FaultsIn (· ≠ .panic)

theorem Res.NoPanic.ne {α : Type} {r : Res α} (h : r.NoPanic) : r ≠ .error .panic :=
  Res.FaultsIn.ne h (fun n => n rfl)

theorem Res.isPanic_eq_false {α : Type} {r : Res α} : r.isPanic = false ↔ r.NoPanic := by
  constructor
  · rintro h _ rfl rfl; cases h
  · intro h
    match r, h with
    | .ok _, _ => rfl
    | .error (.err _), _ => rfl
    | .error .panic, h => exact absurd rfl (h _ rfl)

def Res.Returns {α : Type} (Q : α → Prop) (r : Res α) : Prop := ∀ a, r = .ok a → Q a

namespace Res.Returns
variable {α : Type} {Q : α → Prop}

theorem ok {a : α} (h : Q a) : Returns Q (.ok a) := fun _ e => Except.ok.inj e ▸ h

theorem error {f : Fault} : Returns Q (.error f) := nofun

end Res.Returns

namespace StateProbe

/-- decidable equality of results (for the `decide`d examples) -/
instance exceptDecEq {ε α : Type} [DecidableEq ε] [DecidableEq α] : DecidableEq (Except ε α) :=
  fun a b => match a, b with
    | .ok x, .ok y => if h : x = y then isTrue (by rw [h]) else isFalse (fun e => h (Except.ok.inj e))
    | .error x, .error y =>
      if h : x = y then isTrue (by rw [h]) else isFalse (fun e => h (Except.error.inj e))
    | .ok _, .error _ => isFalse (fun e => by cases e)
    | .error _, .ok _ => isFalse (fun e => by cases e)

end StateProbe
end Lc
