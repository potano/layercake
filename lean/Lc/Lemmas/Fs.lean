/-
  The file-system model `Lc/Model/Fs.lean` seen through its first-match lookup: what
  `Fs.get` returns after `set`, `removeAll`, `appendFile`, `overwriteFile`; what a
  successful `openWrite`, `symlink`, `rename` did to the tree; `stat` on a tree that
  was extended at the end.  Core Lean only.
-/
import Lc.Model.Fs

namespace Lc.Fs
open Lc

theorem get_cons (x : Bytes × Node) (xs : Tree) (p : Bytes) :
    get (x :: xs) p = if x.1 = p then some x.2 else get xs p := by
  unfold get
  by_cases h : x.1 = p <;> simp [h]

theorem get_eq_none_iff (fs : Tree) (p : Bytes) : get fs p = none ↔ ∀ e ∈ fs, e.1 ≠ p := by
  induction fs with
  | nil => exact ⟨fun _ _ h => absurd h List.not_mem_nil, fun _ => rfl⟩
  | cons x xs ih =>
    rw [get_cons, List.forall_mem_cons, ← ih]
    by_cases h : x.1 = p <;> simp [h]

theorem get_some_mem (fs : Tree) (p : Bytes) (n : Node) (h : get fs p = some n) : (p, n) ∈ fs := by
  induction fs with
  | nil => cases h
  | cons x xs ih =>
    rw [get_cons] at h
    split at h
    · rename_i e; cases h; rw [← e]; exact List.mem_cons_self
    · exact List.mem_cons_of_mem _ (ih h)

theorem get_isSome_iff (fs : Tree) (p : Bytes) : (get fs p).isSome = true ↔ p ∈ fs.map (·.1) := by
  induction fs with
  | nil => simp [get]
  | cons x xs ih =>
    rw [get_cons, List.map_cons, List.mem_cons, ← ih]
    by_cases h : x.1 = p
    · simp [h]
    · have : ¬ p = x.1 := fun e => h e.symm
      simp [h, this]

theorem any_key (fs : Tree) (p : Bytes) : fs.any (·.1 == p) = (get fs p).isSome := by
  induction fs with
  | nil => rfl
  | cons x xs ih =>
    rw [List.any_cons, get_cons, ih]
    by_cases h : x.1 = p <;> simp [h]

theorem get_append (a b : Tree) (p : Bytes) : get (a ++ b) p = (get a p).or (get b p) := by
  induction a with
  | nil => rfl
  | cons x xs ih =>
    rw [List.cons_append, get_cons, get_cons, ih]
    split <;> rfl

theorem get_map_key (l : Tree) (f : Bytes × Node → Bytes × Node) (p p' : Bytes)
    (hf : ∀ e ∈ l, (f e).2 = e.2) (hk : ∀ e ∈ l, ((f e).1 = p' ↔ e.1 = p)) :
    get (l.map f) p' = get l p := by
  induction l with
  | nil => rfl
  | cons x xs ih =>
    rw [List.map_cons, get_cons, get_cons, hf x List.mem_cons_self,
      ih (fun e he => hf e (List.mem_cons_of_mem _ he)) (fun e he => hk e (List.mem_cons_of_mem _ he))]
    simp only [hk x List.mem_cons_self]

theorem set_new (fs : Tree) (d : Bytes) (n : Node) (h : get fs d = none) :
    set fs d n = fs ++ [(d, n)] := by
  unfold set
  rw [any_key, h]
  rfl

theorem get_map_set (fs : Tree) (q : Bytes) (n : Node) (p : Bytes) :
    get (fs.map (fun e => if e.1 == q then (q, n) else e)) p =
      if p = q then (get fs q).map (fun _ => n) else get fs p := by
  induction fs with
  | nil => simp [get]
  | cons x xs ih =>
    rw [List.map_cons, get_cons, get_cons, get_cons, ih]
    by_cases hx : x.1 = q
    · by_cases hp : p = q
      · simp [hx, hp]
      · have : ¬ q = p := fun e => hp e.symm
        simp [hx, hp, this]
    · by_cases hp : p = q
      · subst hp; simp [hx]
      · simp [hx, hp]

theorem get_set (fs : Tree) (q : Bytes) (n : Node) (p : Bytes) :
    get (set fs q n) p = if p = q then some n else get fs p := by
  unfold set
  rw [any_key]
  cases hq : get fs q with
  | some x => rw [Option.isSome_some, if_pos rfl, get_map_set, hq]; rfl
  | none =>
    rw [Option.isSome_none, if_neg (by simp), get_append, get_cons]
    by_cases hp : p = q
    · simp [hp, hq]
    · have : ¬ q = p := fun e => hp e.symm
      cases get fs p <;> simp [hp, this, get]

theorem get_removeAll (fs : Tree) (m p : Bytes) :
    get (removeAll fs m) p = if under m p then none else get fs p := by
  unfold removeAll
  induction fs with
  | nil => simp [get]
  | cons x xs ih =>
    rw [List.filter_cons]
    by_cases hp : x.1 = p
    · subst hp
      cases hx : under m x.1 <;> simp [hx, get_cons, ih]
    · cases under m x.1 <;> simp [get_cons, ih, hp]

theorem mem_removeAll (fs : Tree) (m : Bytes) (e : Bytes × Node) (h : e ∈ removeAll fs m) :
    e ∈ fs ∧ under m e.1 = false := by
  simpa [removeAll] using h

theorem get_appendFile_ne (fs : Tree) (p q chunk : Bytes) (h : p ≠ q) :
    get (appendFile fs q chunk) p = get fs p := by
  unfold appendFile
  split
  · simp [get_set, h]
  · rfl

theorem get_overwriteFile_ne (fs : Tree) (p q data : Bytes) (h : p ≠ q) :
    get (overwriteFile fs q data) p = get fs p := by
  unfold overwriteFile
  split
  · simp [get_set, h]
  · rfl

theorem isDir_iff (fs : Tree) (p : Bytes) : isDir fs p = true ↔ stat fs p = some .dir := by
  unfold isDir
  cases stat fs p with
  | none => simp
  | some n => cases n <;> simp <;> rfl

theorem stat_isSome_get (fs : Tree) (p : Bytes) (x : Node) (h : stat fs p = some x) :
    (get fs p).isSome = true := by
  unfold stat statAux at h
  cases hg : get fs p with
  | none => rw [hg] at h; cases h
  | some n => rfl

theorem isDir_of_get_dir (fs : Tree) (p : Bytes) (h : Fs.get fs p = some .dir) : Fs.isDir fs p = true := by
  rw [isDir_iff]
  unfold Fs.stat Fs.statAux
  rw [h]

theorem readFile_of_get_file (fs : Tree) (p c : Bytes) (h : Fs.get fs p = some (.file c)) :
    Fs.readFile fs p = some c := by
  unfold Fs.readFile Fs.stat Fs.statAux
  rw [h]

theorem readFile_nolink (fs : Tree) (p c : Bytes) (hn : ∀ t, Fs.get fs p ≠ some (.symlink t))
    (h : Fs.readFile fs p = some c) : Fs.get fs p = some (.file c) := by
  unfold Fs.readFile Fs.stat Fs.statAux at h
  cases hg : Fs.get fs p with
  | none => rw [hg] at h; simp at h
  | some x =>
    cases x with
    | symlink t => exact absurd hg (hn t)
    | dir => rw [hg] at h; simp at h
    | file c' => rw [hg] at h; simp at h; rw [h]

theorem statAux_append (fs extra : Tree) : ∀ (k : Nat) (q : Bytes) (x : Node),
    statAux k fs q = some x → statAux k (fs ++ extra) q = some x := by
  intro k
  induction k with
  | zero => intro q x hs; cases hs
  | succ k ih =>
    intro q x hs
    unfold statAux at hs ⊢
    cases hg : get fs q with
    | none => rw [hg] at hs; cases hs
    | some y =>
      rw [get_append, hg, Option.some_or]
      rw [hg] at hs
      cases y with
      | symlink t => exact ih _ _ hs
      | dir => exact hs
      | file c => exact hs

theorem openWrite_ok (fs fs' : Tree) (p : Bytes) (t : Bool) (h : openWrite fs p t = .ok fs') :
    ∃ c, fs' = set fs p (.file c) ∧ (t = true → c = []) ∧
      ((get fs p).isSome = true ∨ parentIsDir fs p = true) := by
  unfold openWrite at h
  split at h
  · cases h
  · rename_i c hs
    cases h
    cases t
    · exact ⟨c, rfl, nofun, Or.inl (stat_isSome_get fs p _ hs)⟩
    · exact ⟨[], rfl, fun _ => rfl, Or.inl (stat_isSome_get fs p _ hs)⟩
  · cases h
  · split at h
    · cases h
    · split at h
      · cases h
      · rename_i hpar
        cases h
        exact ⟨[], rfl, fun _ => rfl, Or.inr (by simpa using hpar)⟩

theorem symlink_ok (fs fs' : Tree) (t link : Bytes) (h : symlink fs t link = .ok fs') :
    get fs link = none ∧ parentIsDir fs link = true ∧ fs' = set fs link (.symlink t) := by
  unfold symlink at h
  split at h
  · cases h
  · rename_i hl
    split at h
    · cases h
    · rename_i hpar
      cases h
      exact ⟨by simpa [lexists] using hl, by simpa using hpar, rfl⟩

theorem ok_of_ite_error {ε α} (c : Prop) [Decidable c] (e : ε) (x y : α)
    (h : (if c then Except.error e else Except.ok x) = Except.ok y) : x = y := by
  split at h
  · cases h
  · cases h; rfl

/-- where `rename` puts an entry -/
def mv (old new : Bytes) (e : Bytes × Node) : Bytes × Node :=
  if e.1 == old then (new, e.2)
  else if under old e.1 then (new ++ e.1.drop old.length, e.2) else e

theorem rename_ok (fs fs' : Tree) (old new : Bytes) (h : rename fs old new = .ok fs') :
    (get fs old).isSome = true ∧
    fs' = ((if old == new then fs else removeAll fs new).map (mv old new)) ∧
    ¬ (under old new = true ∧ old ≠ new) ∧ parentIsDir fs new = true := by
  unfold rename at h
  cases hn : get fs old with
  | none => rw [hn] at h; cases h
  | some n =>
    rw [hn] at h
    cases hpar : parentIsDir fs new with
    | false => rw [hpar] at h; cases h
    | true =>
      cases hinv : (under old new && old != new) with
      | true => rw [hpar, hinv] at h; cases h
      | false =>
        rw [hpar, hinv] at h
        cases ok_of_ite_error _ _ _ _ h
        exact ⟨rfl, rfl, by simpa using hinv, rfl⟩

end Lc.Fs
