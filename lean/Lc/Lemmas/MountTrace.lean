/-
  The trace grammar of `mountOne` / `mountCmd` (helper lemmas for Props/C01).

  `mountOne` is the sequence (`mountOne_eq`)
  overlay block ; expansion ; one block per expanded import ; refresh, and each block
  gets its own trace specification:
    OvSeg      the overlay block issues nothing or exactly the overlay mount,
    ItemSeg    an import issues (mkdir of a missing source inside the layer tree)? then
               nothing or the complete `fs.Mount` sequence, only when the cache has no
               mount on its mountpoint,
    MountOneTrace = OvSeg ++ ItemSeg … ItemSeg (imports in configuration order).
  A run that ends with an error has issued a prefix of such a trace.

  `mountCmd` (`mountCmd_eq`) issues file-system operations only (`NoSys`: directory creation,
  export links) around one `mountOne` segment per layer of the base chain (`BaseChain`, root
  first): `MountCmdN` / `MountCmdE`.  What `makedirs` and the directory pass return
  (`makedirs_ret`, `mkChainDirs_rel`).
-/
import Lc.Lemmas.Trace

namespace Lc.MountTrace
open Std.Do Lc Lc.Layers Lc.Hoare Lc.Mountinfo Lc.Trace

set_option mvcgen.warning false

/-! ### the grammar -/

/-- the overlay mount call of layer `l` on parent `bl` -/
def overlayOp (cfg : Config) (bl l : Layer) : Op :=
  mountOp b!"overlay" (buildPath cfg l) b!"overlay" (ovData cfg bl l)

/-- what the overlay block issues -/
def OvSeg (cfg : Config) (d : Defs) (l : Layer) (s : List Op) : Prop :=
  s = [] ∨ (l.base.length > 0 ∧ getMount d.mounts (buildPath cfg l) = none ∧
    ∃ bl, findLayer d l.base = some bl ∧ s = [overlayOp cfg bl l])

/-- what one expanded import issues -/
def ItemSeg (d : Defs) (m : Expanded) (s : List Op) : Prop :=
  ∃ mk mt, s = mk ++ mt ∧ (mk = [] ∨ mk = [Op.mkdir m.source]) ∧
    (mt = [] ∨ (getMount d.mounts m.mount = none ∧ mt = fsMountOps m.source m.mount m.fstype []))

inductive ItemSegs (d : Defs) : List Expanded → List Op → Prop
  | nil : ItemSegs d [] []
  | snoc {ms a m b} : ItemSegs d ms a → ItemSeg d m b → ItemSegs d (ms ++ [m]) (a ++ b)

def MountOneTrace (cfg : Config) (d : Defs) (l : Layer) (s : List Op) : Prop :=
  ∃ ov it, s = ov ++ it ∧ OvSeg cfg d l ov ∧
    (it = [] ∨ ∃ ex, expandConfigMounts cfg d l = .ok ex ∧ ItemSegs d ex it)

/-- normal exit of `mountOne cfg d name` -/
def MountOneN (cfg : Config) (d : Defs) (name : Bytes) (s : List Op) : Prop :=
  ∃ l, findLayer d name = some l ∧ MountOneTrace cfg d l s

/-- any exit: a prefix of a normal-exit trace (nothing at all when the layer is unknown) -/
def MountOneE (cfg : Config) (d : Defs) (name : Bytes) (s : List Op) : Prop :=
  s = [] ∨ ∃ s', MountOneN cfg d name (s ++ s')

theorem MountOneN.toE {cfg d name s} (h : MountOneN cfg d name s) : MountOneE cfg d name s :=
  .inr ⟨[], by simpa using h⟩

theorem ItemSeg.nil (d : Defs) (m : Expanded) : ItemSeg d m [] :=
  ⟨[], [], rfl, .inl rfl, .inl rfl⟩

theorem ItemSegs.extend {d : Defs} {ms : List Expanded} {a : List Op} (h : ItemSegs d ms a)
    (rest : List Expanded) : ItemSegs d (ms ++ rest) a := by
  induction rest generalizing ms a with
  | nil => simpa using h
  | cons r rest ih =>
    have h1 : ItemSegs d (ms ++ [r]) (a ++ []) := ItemSegs.snoc h (ItemSeg.nil d r)
    rw [List.append_nil] at h1
    have := ih h1
    simpa [List.append_assoc] using this

/-! ### block specifications -/

theorem liftRes_ret {α} (r : Res α) : Ret (liftRes r) (fun a => r = .ok a) :=
  ret_intro _ _ fun _ _ _ hr => (RunM.liftRes_run_ok hr).2

theorem fsMountOps_overlay (cfg : Config) (bl l : Layer) :
    fsMountOps b!"overlay" (buildPath cfg l) b!"overlay" (ovData cfg bl l) = [overlayOp cfg bl l] := by
  simp [fsMountOps, needsSlave, overlayOp]

theorem mountOverlay_emits (cfg : Config) (d : Defs) (l : Layer) :
    Emits (mountOverlay cfg d l) (fun _ => OvSeg cfg d l) (fun s => ∃ s', OvSeg cfg d l (s ++ s')) := by
  unfold mountOverlay
  split
  · next hb =>
    split
    · next hm =>
      have hm : getMount d.mounts (buildPath cfg l) = none := by simpa using hm
      refine .after_val (fun _ => getL_inv (fun _ h => h) d _) (Hoare.ret_elim _ _ (Hoare.getL_ret d _))
        ⟨[], .inl rfl⟩ fun bl hbl => (fsMount_emits _ _ _ _).mono (fun _ s h => ?_) (fun s ⟨s', h⟩ => ⟨s', ?_⟩)
      · exact h.imp_right fun h => ⟨hb, hm, bl, hbl, by rw [h, fsMountOps_overlay]⟩
      · exact .inr ⟨hb, hm, bl, hbl, by rw [h, fsMountOps_overlay]⟩
    · exact .pure (.inl rfl)
  · exact .pure (.inl rfl)

theorem ItemSeg.mk' {d : Defs} {m : Expanded} {mk mt : List Op}
    (hm : (getMount d.mounts m.mount).isNone = true)
    (h1 : mk = [] ∨ mk = [Op.mkdir m.source])
    (h2 : mt = [] ∨ mt = fsMountOps m.source m.mount m.fstype []) : ItemSeg d m (mk ++ mt) :=
  ⟨mk, mt, rfl, h1, h2.imp_right fun h2 => ⟨by simpa using hm, h2⟩⟩

theorem ItemSeg.mkE {d : Defs} {m : Expanded} {mk mt : List Op}
    (hm : (getMount d.mounts m.mount).isNone = true)
    (h1 : mk = [] ∨ mk = [Op.mkdir m.source])
    (h2 : ∃ s', mt ++ s' = fsMountOps m.source m.mount m.fstype []) :
    ∃ s', ItemSeg d m ((mk ++ mt) ++ s') := by
  obtain ⟨s', h2⟩ := h2
  exact ⟨s', by rw [List.append_assoc]; exact ItemSeg.mk' hm h1 (.inr h2)⟩

theorem mountItem_emits (cfg : Config) (d : Defs) (m : Expanded) :
    Emits (mountItem cfg d m) (fun _ => ItemSeg d m) (fun s => ∃ s', ItemSeg d m (s ++ s')) := by
  unfold mountItem
  split
  · next hm =>
    refine .after (fun t => fExists_inv _ _ _) ⟨[], ItemSeg.nil d m⟩ fun b => ?_
    dsimp only
    split
    · split
      · exact .bind (fsStep_emits _ _) (fun _ => fsMount_emits _ _ _ _)
          (fun s h => ⟨[], by simpa using ItemSeg.mk' (mt := []) hm h (.inl rfl)⟩)
          (fun _ _ _ _ h1 h2 => ItemSeg.mk' hm h1 h2) (fun _ _ _ h1 h2 => ItemSeg.mkE hm h1 h2)
      · exact .fail ⟨[], ItemSeg.nil d m⟩
    · exact (fsMount_emits _ _ _ _).mono (fun _ s h => ItemSeg.mk' (mk := []) hm (.inl rfl) h)
        (fun s h => ItemSeg.mkE (mk := []) hm (.inl rfl) h)
  · exact .pure (ItemSeg.nil d m)

theorem mountItems_loop (cfg : Config) (d : Defs) (rest : List Expanded) :
    Emits (forIn rest PUnit.unit fun m _ => do mountItem cfg d m; pure (ForInStep.yield PUnit.unit))
      (fun _ s => ∀ pre a, ItemSegs d pre a → ItemSegs d (pre ++ rest) (a ++ s))
      (fun s => ∀ pre a, ItemSegs d pre a → ∃ s', ItemSegs d (pre ++ rest) (a ++ s ++ s')) := by
  induction rest with
  | nil => exact .pure fun pre a h => by simpa using h
  | cons x rest ih =>
    rw [List.forIn_cons]
    simp only [bind_assoc, pure_bind]
    refine .bind (mountItem_emits cfg d x) (fun _ => ih) ?_ ?_ ?_
    · intro s ⟨s', hs⟩ pre a h
      have := (ItemSegs.snoc h hs).extend rest
      exact ⟨s', by simpa [List.append_assoc] using this⟩
    · intro _ s1 _ s2 h1 h2 pre a h
      have := h2 _ _ (ItemSegs.snoc h h1)
      simpa [List.append_assoc] using this
    · intro _ s1 s2 h1 h2 pre a h
      obtain ⟨s', this⟩ := h2 _ _ (ItemSegs.snoc h h1)
      exact ⟨s', by simpa [List.append_assoc] using this⟩

theorem mountItems_emits (cfg : Config) (d : Defs) (ex : List Expanded) :
    Emits (mountItems cfg d ex) (fun _ => ItemSegs d ex) (fun s => ∃ s', ItemSegs d ex (s ++ s')) := by
  unfold mountItems
  rw [bind_pure_unit]
  exact (mountItems_loop cfg d ex).mono (fun _ s h => by simpa using h [] [] .nil)
    (fun s h => by simpa using h [] [] .nil)

/-- **trace specification of the model's `mountOne`** -/
theorem mountOne_emits (cfg : Config) (d : Defs) (name : Bytes) :
    Emits (mountOne cfg d name) (fun _ => MountOneN cfg d name) (MountOneE cfg d name) := by
  rw [mountOne_eq]
  unfold mountOne'
  refine .after_val (fun _ => getL_inv (fun _ h => h) d _) (Hoare.ret_elim _ _ (Hoare.getL_ret d _))
    (.inl rfl) fun l hl => ?_
  dsimp only
  -- refreshing the cache and re-classifying the layer only read
  have htail : Emits (do
      let d ← refreshMountInfo cfg d
      let l ← getL d name
      let l' ← liftRes (findLayerstate cfg (← getW).fs d l)
      pure (setLayer d l')) (fun _ s => s = []) (fun s => s = []) :=
    .after (fun _ => refreshMountInfo_inv (fun _ h => h) cfg d) rfl fun d => .after (fun _ => getL_inv (fun _ h => h) d _) rfl
      fun l => .after (fun _ => getW_holds _) rfl fun w => .after (fun _ => liftRes_holds _ _) rfl fun _ => .pure rfl
  have hitems : ∀ ex, expandConfigMounts cfg d l = .ok ex → Emits (do mountItems cfg d ex; _)
      (fun _ s => ItemSegs d ex s) (fun s => ∃ s', ItemSegs d ex (s ++ s')) := fun ex _ =>
    .bind (mountItems_emits cfg d ex) (fun _ => htail) (fun _ h => h)
      (fun _ _ _ _ h1 h2 => by rw [h2, List.append_nil]; exact h1)
      (fun _ _ _ h1 h2 => ⟨[], by rw [h2, List.append_nil, List.append_nil]; exact h1⟩)
  have hrest : Emits (do mountOverlay cfg d l; let ex ← liftRes (expandConfigMounts cfg d l); _)
      (fun _ => MountOneN cfg d name) (MountOneE cfg d name) :=
    .bind (mountOverlay_emits cfg d l)
      (fun _ => .after_val (Q := fun ex => expandConfigMounts cfg d l = .ok ex) (fun _ => liftRes_holds _ _)
        (ret_elim _ _ (liftRes_ret _))
        (N := fun _ s => ∃ ex, expandConfigMounts cfg d l = .ok ex ∧ ItemSegs d ex s)
        (E := fun s => s = [] ∨ ∃ ex s', expandConfigMounts cfg d l = .ok ex ∧ ItemSegs d ex (s ++ s'))
        (.inl rfl) fun ex hex => (hitems ex hex).mono (fun _ s h => ⟨ex, hex, h⟩) (fun s ⟨s', h⟩ => .inr ⟨ex, s', hex, h⟩))
      (fun s ⟨s', h⟩ => .inr ⟨s', l, hl, _, [], by simp, h, .inl rfl⟩)
      (fun _ s1 _ s2 h1 ⟨ex, hex, h2⟩ => ⟨l, hl, s1, s2, rfl, h1, .inr ⟨ex, hex, h2⟩⟩)
      (fun _ s1 s2 h1 h2 => by
        rcases h2 with rfl | ⟨ex, s', hex, h2⟩
        · exact MountOneN.toE ⟨l, hl, s1, [], rfl, h1, .inl rfl⟩
        · exact .inr ⟨s', l, hl, s1, s2 ++ s', by simp, h1, .inr ⟨ex, hex, h2⟩⟩)
  split
  · exact .fail (.inl rfl)
  · exact hrest

/-- run-level form: what a run of `mountOne` from any world appends to the trace -/
theorem mountOne_run (cfg : Config) (d : Defs) (name : Bytes) (w : World) :
    ∃ s, Emitted (mountOne cfg d name) w s ∧ MountOneE cfg d name s ∧
      (∀ d', ((mountOne cfg d name).run.run w).1 = .ok d' → MountOneN cfg d name s) :=
  (mountOne_emits cfg d name).run (fun _ _ h => h.toE) w

theorem mountOne_emitted {cfg : Config} {d : Defs} {name : Bytes} {w : World} {s : List Op}
    (h : Emitted (mountOne cfg d name) w s) : MountOneE cfg d name s ∧
      (∀ d', ((mountOne cfg d name).run.run w).1 = .ok d' → MountOneN cfg d name s) :=
  (mountOne_emits cfg d name).emitted (fun _ _ h => h.toE) h

/-- a successful `mountOne` went through its blocks: the world between overlay block and import
    loop, and what the read-only tail computed in the final world -/
theorem mountOne_ok_inv {cfg : Config} {d d' : Defs} {name : Bytes} {w w' : World}
    (h : (mountOne cfg d name).run.run w = (.ok d', w')) :
    ∃ l ex w2 d2 l2 l', findLayer d name = some l ∧ expandConfigMounts cfg d l = .ok ex ∧
      (mountOverlay cfg d l).run.run w = (.ok (), w2) ∧ (mountItems cfg d ex).run.run w2 = (.ok (), w') ∧
      Kernel.probe w'.kt = .ok d2.mounts ∧
      d2.layers = d.layers.map (fun l => { l with overlain := (overlayLowerdirs d2.mounts).contains (buildPath cfg l) }) ∧
      findLayer d2 name = some l2 ∧ findLayerstate cfg w'.fs d2 l2 = .ok l' ∧ d' = setLayer d2 l' := by
  rw [mountOne_eq] at h
  unfold mountOne' at h
  obtain ⟨l, w1, h1, ha⟩ := RunM.bind_ok_inv _ _ _ _ _ h
  obtain ⟨rfl, hl⟩ := RunM.getL_run_ok h1
  simp only [] at ha
  split at ha
  · obtain ⟨_, _, hf, _⟩ := RunM.bind_ok_inv _ _ _ _ _ ha
    rw [RunM.run_fail] at hf; cases hf
  · obtain ⟨_, w2, h2, hb⟩ := RunM.bind_ok_inv _ _ _ _ _ ha
    obtain ⟨ex, w3, h3, hc⟩ := RunM.bind_ok_inv _ _ _ _ _ hb
    obtain ⟨rfl, hex⟩ := RunM.liftRes_run_ok h3
    obtain ⟨_, w4, h4, hd⟩ := RunM.bind_ok_inv _ _ _ _ _ hc
    obtain ⟨d2, w5, h5, he⟩ := RunM.bind_ok_inv _ _ _ _ _ hd
    obtain ⟨rfl, hprobe, hlay⟩ := RunM.refresh_run_ok h5
    obtain ⟨l2, w6, h6, hf⟩ := RunM.bind_ok_inv _ _ _ _ _ he
    obtain ⟨rfl, hl2⟩ := RunM.getL_run_ok h6
    obtain ⟨w7, w8, h7, hi⟩ := RunM.bind_ok_inv _ _ _ _ _ hf
    rw [RunM.run_getW] at h7
    cases h7
    obtain ⟨l', w9, h9, hj⟩ := RunM.bind_ok_inv _ _ _ _ _ hi
    obtain ⟨rfl, hst⟩ := RunM.liftRes_run_ok h9
    rw [RunM.run_pure] at hj
    cases hj
    exact ⟨l, ex, _, d2, l2, l', hl, hex, h2, h4, hprobe, hlay, hl2, hst, rfl⟩

/-! ### blocks that only touch the file system -/

/-- relative to the trace `t`: only file-system operations were appended -/
def NS (t : List Op) (w : World) : Prop := ∃ s, w.trace = t ++ s ∧ NoSys s

theorem NS.same {t : List Op} {w w' : World} (h : NS t w) (h' : w'.trace = w.trace) : NS t w' := by
  obtain ⟨s, e, n⟩ := h
  exact ⟨s, by rw [h', e], n⟩

theorem fsMkdir_ns (t p) : Holds (NS t) (fsMkdir p) := fsStep_nosys t _ rfl _
theorem fsSymlink_ns (t a b) : Holds (NS t) (fsSymlink a b) := fsStep_nosys t _ rfl _

theorem linkChain_emits (cfg : Config) (d : Defs) (chain : List Layer) :
    Emits (linkChain cfg d chain) (fun _ => NoSys) NoSys :=
  .of_ns fun t => linkChain_inv (fun _ h => h) (fsMkdir_ns t) (fsSymlink_ns t) cfg d chain

/-! ### what `makedirs` returns -/

theorem setLayer_mounts (d : Defs) (l : Layer) : (setLayer d l).mounts = d.mounts := rfl

/-- `refreshMountInfo` changes the `overlain` flag of the records, nothing a lookup goes by -/
theorem findLayer_overlain (d : Defs) (m : Mounts) (f : Layer → Bool) (n : Bytes) :
    findLayer { d with mounts := m, layers := d.layers.map fun l => { l with overlain := f l } } n =
      (findLayer d n).map fun l => { l with overlain := f l } := by
  unfold findLayer
  simp only []
  rw [List.find?_map]
  rfl

theorem makedirs_ret (cfg : Config) (d : Defs) (n : Bytes) :
    Ret (makedirs cfg d n) (fun d' => d' = d ∨ ∃ l l' fs,
      findLayer d n = some l ∧ findLayerstate cfg fs d l = .ok l' ∧ d' = setLayer d l') := by
  have h1 := holds_true (testName d [(n, NAME_NEED)])
  have h2 := getL_ret d n
  have h3 := fun l => holds_true (errorIfError l)
  have h4 := fun p => holds_true (fsMkdir p)
  have h5 := @liftRes_ret
  unfold Ret at *
  mvcgen [makedirs, h1, h2, h3, h4, h5, getW]
  case inv1 => exact post⟨fun _ _ => ⌜True⌝, fun _ _ => ⌜True⌝⟩
  all_goals (try intros)
  all_goals (try trivial)
  · exact .inr ⟨_, _, _, ‹findLayer d n = some _›, ‹findLayerstate _ _ _ _ = _›, rfl⟩
  · exact .inl trivial

theorem foldlM_rel {σ ι} (R : σ → σ → Prop) (hrefl : ∀ a, R a a) (htrans : ∀ a b c, R a b → R b c → R a c)
    (body : σ → ι → M σ) (h : ∀ b x, Ret (body b x) (R b)) (xs : List ι) (init : σ) :
    Ret (xs.foldlM body init) (R init) :=
  foldlM_ret (R init) xs body init
    (fun b x hb => ret_intro _ _ fun w a w' hr => htrans _ _ _ hb (ret_elim _ _ (h b x) w a w' hr))
    (hrefl init)

theorem mkChainDirs_rel (cfg : Config) (R : Defs → Defs → Prop) (hrefl : ∀ a, R a a)
    (htrans : ∀ a b c, R a b → R b c → R a c)
    (hset : ∀ d n l l' fs, findLayer d n = some l → findLayerstate cfg fs d l = .ok l' → R d (setLayer d l'))
    (chain : List Layer) (d : Defs) : Ret (mkChainDirs cfg chain d) (R d) :=
  foldlM_rel R hrefl htrans _ (fun b x => ret_intro _ _ fun w a w' hr => by
    rcases ret_elim _ _ (makedirs_ret cfg b x.name) w a w' hr with rfl | ⟨l, l', fs, hl, hs, rfl⟩
    · exact hrefl _
    · exact hset _ _ _ _ _ hl hs) chain d

theorem mkChainDirs_emits (cfg : Config) (chain : List Layer) (d : Defs) :
    Emits (mkChainDirs cfg chain d) (fun d' s => NoSys s ∧ d'.mounts = d.mounts) NoSys :=
  (Emits.of_ns fun t => mkChainDirs_inv (fun _ h => h) (fsMkdir_ns t) cfg chain d).and_val
    (ret_elim _ _ (mkChainDirs_rel cfg (fun d d' => d'.mounts = d.mounts) (fun _ => rfl)
      (fun _ _ _ h1 h2 => h2.trans h1) (fun _ _ _ _ _ _ _ => rfl) chain d))

/-! ### the chain -/

/-- `c` is the base chain of the layer named `n` in `d`, root base layer first, `n` last
    (empty when `n` is empty) -/
inductive BaseChain (d : Defs) : List Layer → Bytes → Prop
  | nil {n : Bytes} : n.length = 0 → BaseChain d [] n
  | snoc {c : List Layer} {l : Layer} {n : Bytes} : findLayer d n = some l → n.length ≠ 0 →
      BaseChain d c l.base → BaseChain d (c ++ [l]) n

theorem ancestorsAndSelf_chain {d : Defs} {fuel : Nat} {n : Bytes} {acc r : List Layer} {w w' : World}
    (h : (ancestorsAndSelf d fuel n acc).run.run w = (.ok r, w')) : ∃ c, r = c ++ acc ∧ BaseChain d c n := by
  induction fuel generalizing n acc w with
  | zero => cases h
  | succ k ih =>
    unfold ancestorsAndSelf at h
    split at h
    · next hn =>
      cases h
      exact ⟨[], rfl, .nil (by simpa using hn)⟩
    · next hn =>
      obtain ⟨l, w1, h1, h2⟩ := RunM.bind_ok_inv _ _ _ _ _ h
      obtain ⟨c, rfl, hb⟩ := ih h2
      exact ⟨c ++ [l], by simp, .snoc (Hoare.ret_elim _ _ (Hoare.getL_ret d n) _ _ _ h1)
        (by simpa using hn) hb⟩

theorem mountPre_holds (I : World → Prop) (d : Defs) (name : Bytes) : Holds I (mountPre d name) :=
  bind_holds _ _ _ (testName_inv (fun _ h => h) _ _) fun _ =>
  bind_holds _ _ _ (getL_inv (fun _ h => h) _ _) fun _ =>
  bind_holds _ _ _ (errorIfError_inv (fun _ h => h) _) fun _ =>
  ancestorsAndSelf_inv (fun _ h => h) _ _ _ _

theorem mountPre_ret (d : Defs) (name : Bytes) : Ret (mountPre d name) (fun chain => BaseChain d chain name) :=
  ret_intro _ _ fun w chain w' h => by
    obtain ⟨_, _, _, h2⟩ := RunM.bind_ok_inv _ _ _ _ _ h
    obtain ⟨_, _, _, h3⟩ := RunM.bind_ok_inv _ _ _ _ _ h2
    obtain ⟨_, _, _, h4⟩ := RunM.bind_ok_inv _ _ _ _ _ h3
    obtain ⟨c, hc, hb⟩ := ancestorsAndSelf_chain h4
    rw [hc, List.append_nil]
    exact hb

/-- the `Defs` a layer's `mountOne` can hand to the next layer -/
def MountStep (cfg : Config) (d : Defs) (a : Layer) (d' : Defs) : Prop :=
  ∃ w, ((mountOne cfg d a.name).run.run w).1 = .ok d'

/-- layer `a` mounted with `d`: a complete `mountOne` trace, and `d'` is what it returned -/
abbrev SegN (cfg : Config) : Defs → Layer → List Op → Defs → Prop :=
  fun d a s d' => MountOneN cfg d a.name s ∧ MountStep cfg d a d'
abbrev SegE (cfg : Config) : Defs → Layer → List Op → Prop := fun d a s => MountOneE cfg d a.name s

theorem mountChain_emits (cfg : Config) (chain : List Layer) (d : Defs) :
    Emits (mountChain cfg chain d) (fun d' s => FoldOk (SegN cfg) d chain s d') (FoldErr (SegN cfg) (SegE cfg) d chain) :=
  fun w => by
    obtain ⟨s, he, _, hN, hE⟩ := foldlM_segments (fun _ => True) (SegN cfg) (SegE cfg)
      (fun d a => mountOne cfg d a.name) (fun b x w _ => by
        obtain ⟨s, he, hE, hN⟩ := mountOne_run cfg b x.name w
        exact ⟨s, he, trivial, fun b' hb => ⟨hN b' hb, w, hb⟩, fun _ _ => hE⟩) chain d w trivial
    refine ⟨s, he, ?_⟩
    unfold mountChain
    generalize hx : ((chain.foldlM (fun d a => mountOne cfg d a.name) d).run.run w).1 = x
    cases x
    · exact hE _ hx
    · exact hN _ hx

/-- the per-layer segments of a `mount` command: complete, or cut short by an error -/
def ChainSegs (cfg : Config) (d0 : Defs) (chain : List Layer) (segs : List Op) : Prop :=
  (∃ d1, FoldOk (SegN cfg) d0 chain segs d1) ∨
  FoldErr (SegN cfg) (SegE cfg) d0 chain segs

/-- normal exit of `mountCmd`: directory creation, one complete segment per chain layer
    (root base layer first), export links -/
def MountCmdN (cfg : Config) (d : Defs) (name : Bytes) (s : List Op) : Prop :=
  ∃ chain pre segs post d0 d1, s = pre ++ segs ++ post ∧ NoSys pre ∧ NoSys post ∧
    BaseChain d chain name ∧ d0.mounts = d.mounts ∧
    FoldOk (SegN cfg) d0 chain segs d1

/-- any exit of `mountCmd` -/
def MountCmdE (cfg : Config) (d : Defs) (name : Bytes) (s : List Op) : Prop :=
  NoSys s ∨ ∃ chain pre segs post d0, s = pre ++ segs ++ post ∧ NoSys pre ∧ NoSys post ∧
    BaseChain d chain name ∧ d0.mounts = d.mounts ∧ ChainSegs cfg d0 chain segs

theorem mountCmd_emits (cfg : Config) (d : Defs) (name : Bytes) :
    Emits (mountCmd cfg d name) (fun _ => MountCmdN cfg d name) (MountCmdE cfg d name) := by
  rw [mountCmd_eq]
  have h0 : MountCmdE cfg d name [] := .inl NoSys.nil
  refine .after_val (fun _ => mountPre_holds _ d name) (ret_elim _ _ (mountPre_ret d name)) h0 fun chain hb => ?_
  have hlink : ∀ d2, Emits (do linkChain cfg d2 chain; pure d2) (fun _ => NoSys) NoSys := fun d2 =>
    .bind (linkChain_emits cfg d2 chain) (fun _ => .pure (N := fun _ s => s = []) (E := fun _ => False) rfl)
      (fun _ h => h) (fun _ _ _ _ h1 h2 => by rw [h2, List.append_nil]; exact h1) (fun _ _ _ _ h => h.elim)
  have hch : ∀ d1, Emits (do let d2 ← mountChain cfg chain d1; linkChain cfg d2 chain; pure d2)
      (fun _ s => ∃ segs post d2, s = segs ++ post ∧ NoSys post ∧ FoldOk (SegN cfg) d1 chain segs d2)
      (fun s => ∃ segs post, s = segs ++ post ∧ NoSys post ∧ ChainSegs cfg d1 chain segs) := fun d1 =>
    .bind (mountChain_emits cfg chain d1) hlink
      (fun s h => ⟨s, [], by simp, NoSys.nil, .inr h⟩)
      (fun d2 s1 _ s2 h1 h2 => ⟨s1, s2, d2, rfl, h2, h1⟩)
      (fun d2 s1 s2 h1 h2 => ⟨s1, s2, rfl, h2, .inl ⟨d2, h1⟩⟩)
  exact .bind (mkChainDirs_emits cfg chain d) hch (fun s h => .inl h)
    (fun d1 pre _ _ ⟨hpre, hm⟩ ⟨segs, post, d2, hs, hpost, hseg⟩ =>
      ⟨chain, pre, segs, post, d1, d2, by rw [hs, List.append_assoc], hpre, hpost, hb, hm, hseg⟩)
    (fun d1 pre _ ⟨hpre, hm⟩ ⟨segs, post, hs, hpost, hseg⟩ =>
      .inr ⟨chain, pre, segs, post, d1, by rw [hs, List.append_assoc], hpre, hpost, hb, hm, hseg⟩)

theorem MountCmdN.toE {cfg d name s} (h : MountCmdN cfg d name s) : MountCmdE cfg d name s := by
  obtain ⟨chain, pre, segs, post, d0, d1, h1, h2, h3, h4, h5, h6⟩ := h
  exact .inr ⟨chain, pre, segs, post, d0, h1, h2, h3, h4, h5, .inl ⟨d1, h6⟩⟩

end Lc.MountTrace
