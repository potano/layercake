/-
  Helper lemmas for Props/C17Glob: `path.Join` of two clean absolute paths on components,
  what `List.drop` leaves of it, membership in the sorted set; every match of `globHost` is a
  path of the tree; a path strictly below a directory, on components.
-/
import Lc.Model.StageGlob
import Lc.Lemmas.TreeWF
import Lc.Lemmas.DiskView

namespace Lc.StageGlob
open Lc Lc.StageLine Lc.Lemmas.Path Lc.ExportPath Lc.InLayers
open Lc.TreeWF (CleanAbs cleanAbs_absPath cleanAbs_comps under_absPath absPath_ne_root)

/-! ### `path.Join(a, b)` for clean absolute `a`, `b` -/

theorem mem_append_clean {ds cs : List Bytes} (hds : ∀ c ∈ ds, CleanName c)
    (hcs : ∀ c ∈ cs, CleanName c) : ∀ c ∈ ds ++ cs, CleanName c :=
  List.forall_mem_append.mpr ⟨hds, hcs⟩

/-- `path.Clean("/a/b" + "/" + "/c/d")`: the doubled slash goes -/
theorem pathClean_abs_abs (ds cs : List Bytes) (hds : ∀ c ∈ ds, CleanName c)
    (hcs : ∀ c ∈ cs, CleanName c) :
    pathClean (absPath ds ++ SLASH :: absPath cs) = absPath (ds ++ cs) := by
  have hall := mem_append_clean hds hcs
  have habs : isAbs (absPath ds ++ [SLASH]) = true := rfl
  rw [pathClean_eq_assemble, isAbs_append_sep, habs, pathComps_append_sep, pathComps_absPath ds hds,
    pathComps_absPath cs hcs, foldl_push true _ (clean_no_dotdot _ hall)]
  unfold assemble absPath
  simp

theorem absPath_ne_nil (cs : List Bytes) : absPath cs ≠ [] := by unfold absPath; simp

theorem pathJoin_abs_abs (ds cs : List Bytes) (hds : ∀ c ∈ ds, CleanName c)
    (hcs : ∀ c ∈ cs, CleanName c) :
    pathJoin [absPath ds, absPath cs] = absPath (ds ++ cs) := by
  rw [pathJoin_two _ _ (absPath_ne_nil ds)]
  exact pathClean_abs_abs ds cs hds hcs

/-- below a root other than "/" the joined path is the plain concatenation -/
theorem absPath_append_abs (ds cs : List Bytes) (hd : ds ≠ []) (hc : cs ≠ []) :
    absPath (ds ++ cs) = absPath ds ++ absPath cs := by
  rw [absPath_append ds cs hd hc]; rfl

/-- `path.Join(prefix, rel)` for a relative clean tail -/
theorem pathJoin_abs_rel (ds cs : List Bytes) (hds : ∀ c ∈ ds, CleanName c)
    (hcs : ∀ c ∈ cs, CleanName c) (hne : cs ≠ []) :
    pathJoin [absPath ds, joinWith SLASH cs] = absPath (ds ++ cs) := by
  rw [pathJoin_two _ _ (absPath_ne_nil ds)]
  exact Lc.InLayers.pathClean_absPath_join ds cs hds hcs hne

theorem absPath_eq_root_iff (cs : List Bytes) (h : ∀ c ∈ cs, CleanName c) :
    absPath cs = [SLASH] ↔ cs = [] :=
  ⟨fun e => Decidable.by_contra fun hc => absPath_ne_root cs h hc e, fun e => e ▸ rfl⟩

theorem mem_insertSorted (x y : Bytes) (l : List Bytes) : y ∈ insertSorted x l ↔ y = x ∨ y ∈ l := by
  induction l with
  | nil => simp [insertSorted]
  | cons z zs ih =>
    unfold insertSorted
    split
    · rename_i h
      have : x = z := by simpa using h
      simp [this]
    · split
      · simp
      · simp only [List.mem_cons, ih]
        exact or_left_comm

theorem mem_foldl_insert (l : List Bytes) : ∀ (s : List Bytes) (y : Bytes),
    y ∈ l.foldl (fun s m => insertSorted m s) s ↔ y ∈ l ∨ y ∈ s := by
  induction l with
  | nil => intro s y; simp
  | cons x xs ih =>
    intro s y
    simp only [List.foldl_cons, ih, mem_insertSorted, List.mem_cons]
    exact or_left_comm.trans or_assoc.symm

theorem mem_toSet (l : List Bytes) (y : Bytes) : y ∈ toSet l ↔ y ∈ l := by
  unfold toSet; rw [mem_foldl_insert]; simp

/-- every path the glob yields is a path of the tree -/
theorem globHost_sub (t : HostTree) (pattern : Bytes) (r : Bool) (m : Bytes)
    (h : m ∈ globHost t pattern r) : m ∈ t.paths := by
  unfold globHost at h
  rw [mem_toSet] at h
  cases r with
  | false =>
    simp only [Bool.false_eq_true, if_false, globTop, List.mem_filter] at h
    exact h.1
  | true =>
    simp only [if_true, expandSubdirs, globTop, List.mem_flatMap, List.mem_filter, List.mem_cons] at h
    obtain ⟨a, ⟨ha, _⟩, hm⟩ := h
    rcases hm with hm | hm
    · rw [hm]; exact ha
    · split at hm
      · exact (List.mem_filter.mp hm).1
      · cases hm

/-- `m` strictly below `d` (both clean and absolute): `m = path.Join(d, n)` for a clean absolute
    `n` other than "/", on components -/
theorem below_comps {d m : Bytes} (hd : CleanAbs d) (hm : CleanAbs m) (hb : strictlyBelow d m = true) :
    ∃ ds ts, (∀ c ∈ ds, CleanName c) ∧ (∀ c ∈ ts, CleanName c) ∧ ts ≠ [] ∧
      d = absPath ds ∧ m = absPath (ds ++ ts) := by
  obtain ⟨ds, hds, ed⟩ := cleanAbs_comps d hd
  obtain ⟨cs, hcs, em⟩ := cleanAbs_comps m hm
  unfold strictlyBelow at hb
  simp only [Bool.and_eq_true, bne_iff_ne, ne_eq] at hb
  obtain ⟨hne, hu⟩ := hb
  rw [ed, em, under_absPath ds cs hds hcs] at hu
  obtain ⟨ts, ets⟩ := hu
  have hts : ∀ c ∈ ts, CleanName c := fun c hc => hcs c (by rw [← ets]; simp [hc])
  refine ⟨ds, ts, hds, hts, ?_, ed, by rw [em, ets]⟩
  intro e
  apply hne
  rw [em, ed, ← ets, e]; simp

end Lc.StageGlob
