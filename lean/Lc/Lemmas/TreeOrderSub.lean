/-
  `inTreeOrder` (Model/Mountinfo.lean, fix e546b99): the WHOLE SUBTREE of a covered mount is
  listed before the mount that covers it (`inTreeOrder_subtree_first`).  The loop keeps, for the
  list placed so far: entries are the processed part of the input, nothing before its parent
  (`Placed`, Lemmas/TreeOrder), the level of an entry is one more than the level of the entry it hangs below,
  0 if that is not listed (`DepthOK`), and no entry is listed after an entry that covers it or
  an entry it hangs below (`CovFirst`).
-/
import Lc.Lemmas.TreeOrder

namespace Lc.TreeOrder
open Lc Lc.Layers Lc.Mountinfo

/-- `x` is `c`, or hangs below `c` over entries of `S`: `TreeUmount.Chain` for the parsed entries
    of a mountinfo text instead of the entries of the kernel table -/
inductive ChainV (S : List MountType) : MountType → MountType → Prop
  | refl {x : MountType} : x ∈ S → ChainV S x x
  | step {c a x : MountType} : c ∈ S → a ∈ S → a.parent = c.id → ChainV S a x → ChainV S c x

theorem ChainV.mem_left {S : List MountType} {c x : MountType} (h : ChainV S c x) : c ∈ S := by
  cases h with
  | refl hx => exact hx
  | step hc _ _ _ => exact hc

theorem ChainV.mem_right {S : List MountType} {c x : MountType} (h : ChainV S c x) : x ∈ S := by
  induction h with
  | refl hx => exact hx
  | step _ _ _ _ ih => exact ih

theorem ChainV.snoc {S : List MountType} {c q x : MountType} (h : ChainV S c q) (hx : x ∈ S)
    (hp : x.parent = q.id) : ChainV S c x := by
  induction h with
  | refl hq => exact .step hq hx hp (.refl hx)
  | step hc ha hpar _ ih => exact .step hc ha hpar (ih hp)

/-- a chain into a part of `S` that holds the parent of each of its entries starts there -/
theorem ChainV.start_mem {S pre : List MountType} {c x : MountType} (h : ChainV S c x)
    (hclosed : ∀ x ∈ pre, ∀ c ∈ S, x.parent = c.id → c ∈ pre) (hx : x ∈ pre) : c ∈ pre := by
  induction h with
  | refl _ => exact hx
  | step hc _ hpar _ ih => exact hclosed _ (ih hx) _ hc hpar

/-- a chain that does not end where it starts ends with a last link -/
theorem ChainV.last {S : List MountType} {c x : MountType} (h : ChainV S c x) :
    c = x ∨ ∃ q, ChainV S c q ∧ x.parent = q.id := by
  induction h with
  | refl _ => exact .inl rfl
  | step hc ha hpar hrest ih =>
    right
    rcases ih with h | ⟨q, hq, hp⟩
    · subst h; exact ⟨_, .refl hc, hpar⟩
    · exact ⟨q, .step hc ha hpar hq, hp⟩

/-- `u` covers `v` or an entry `v` hangs below -/
def UBV (S : List MountType) (u v : MountType) : Prop := ∃ a, covers u a = true ∧ ChainV S a v

/-! ### levels -/

def DepthOK (out : List (MountType × Nat)) : Prop :=
  ∀ e ∈ out, (∀ p ∈ out, p.1.id = e.1.parent → e.2 = p.2 + 1) ∧
    ((∀ p ∈ out, p.1.id ≠ e.1.parent) → e.2 = 0)

theorem entry_unique {out : List (MountType × Nat)} (hnd : (out.map (·.1.id)).Nodup) {e f : MountType × Nat}
    (he : e ∈ out) (hf : f ∈ out) (hid : e.1.id = f.1.id) : e = f := by
  induction out with
  | nil => cases he
  | cons g gs ih =>
    rw [List.map_cons, List.nodup_cons] at hnd
    rcases List.mem_cons.mp he with he | he <;> rcases List.mem_cons.mp hf with hf | hf
    · rw [he, hf]
    · exfalso; apply hnd.1; rw [← he, hid]; exact List.mem_map.mpr ⟨f, hf, rfl⟩
    · exfalso; apply hnd.1; rw [← hf, ← hid]; exact List.mem_map.mpr ⟨e, he, rfl⟩
    · exact ih hnd.2 he hf

theorem depth_unique {out : List (MountType × Nat)} (hnd : (out.map (·.1.id)).Nodup) {x : MountType} {d1 d2 : Nat}
    (h1 : (x, d1) ∈ out) (h2 : (x, d2) ∈ out) : d1 = d2 :=
  congrArg Prod.snd (entry_unique hnd h1 h2 rfl)

/-- entries hanging below the same mount are on one level -/
theorem depth_siblings {out : List (MountType × Nat)} (hd : DepthOK out) {e f : MountType × Nat}
    (he : e ∈ out) (hf : f ∈ out) (hp : e.1.parent = f.1.parent) : e.2 = f.2 := by
  by_cases hex : ∃ p ∈ out, p.1.id = e.1.parent
  · obtain ⟨p, hp1, hp2⟩ := hex
    rw [(hd e he).1 p hp1 hp2, (hd f hf).1 p hp1 (by rw [hp2, hp])]
  · have hno : ∀ p ∈ out, p.1.id ≠ e.1.parent := fun p hp1 hp2 => hex ⟨p, hp1, hp2⟩
    rw [(hd e he).2 hno, (hd f hf).2 (fun p hp1 => by rw [← hp]; exact hno p hp1)]

/-- the level `placeBelow` computes -/
theorem placeBelow_level (out : List (MountType × Nat)) (m : MountType) (hnd : (out.map (·.1.id)).Nodup) :
    (∀ p ∈ out, p.1.id = m.parent → (placeBelow out m).1 = p.2 + 1) ∧
    ((∀ p ∈ out, p.1.id ≠ m.parent) → (placeBelow out m).1 = 0) := by
  unfold placeBelow
  cases hp : out.dropWhile (fun (p : MountType × Nat) => !(p.1.id == m.parent)) with
  | nil =>
    have hall := dropWhile_nil_all hp
    refine ⟨fun p hp1 hp2 => ?_, fun _ => rfl⟩
    have := hall p hp1
    simp [hp2] at this
  | cons par after =>
    have hpar : par.1.id = m.parent := by simpa using dropWhile_head_not hp
    have hparmem : par ∈ out := by
      have : par ∈ out.dropWhile (fun (p : MountType × Nat) => !(p.1.id == m.parent)) := by rw [hp]; simp
      exact (List.dropWhile_sublist _).subset this
    refine ⟨fun p hp1 hp2 => ?_, fun hno => absurd hpar (hno par hparmem)⟩
    have : p = par := entry_unique hnd hp1 hparmem (by rw [hp2, hpar])
    rw [this]

/-! ### the invariant of the loop -/

/-- no entry is listed after an entry that covers it or an entry it hangs below -/
def CovFirst (S : List MountType) (out : List (MountType × Nat)) : Prop :=
  out.Pairwise (fun u v => ¬ UBV S u.1 v.1)

structure J (l pre : List MountType) (out : List (MountType × Nat)) : Prop extends Placed pre out where
  depth : DepthOK out
  cov : CovFirst l out

/-- along a chain of placed entries the level grows -/
theorem chain_depth {l pre : List MountType} {out : List (MountType × Nat)} (hj : J l pre out)
    (hclosed : ∀ x ∈ pre, ∀ c ∈ l, x.parent = c.id → c ∈ pre) {a q : MountType} (h : ChainV l a q)
    {dq : Nat} (hq : (q, dq) ∈ out) :
    ∃ da, (a, da) ∈ out ∧ ((a = q ∧ da = dq) ∨ da < dq) := by
  induction h with
  | refl _ => exact ⟨dq, hq, .inl ⟨rfl, rfl⟩⟩
  | @step c a' x hc ha hpar _ ih =>
    obtain ⟨da, hda, hcmp⟩ := ih hq
    have hapre : a' ∈ pre := hj.perm.mem_iff.mp (List.mem_map.mpr ⟨(a', da), hda, rfl⟩)
    have hcpre : c ∈ pre := hclosed a' hapre c hc hpar
    obtain ⟨ec, hec, hec1⟩ := List.mem_map.mp (hj.perm.mem_iff.mpr hcpre)
    have hdep := (hj.depth (a', da) hda).1 ec hec (by rw [hec1]; exact hpar.symm)
    refine ⟨ec.2, by rw [← hec1]; exact hec, .inr ?_⟩
    simp only at hdep
    rcases hcmp with ⟨_, h2⟩ | h2
    · omega
    · omega

/-- the mount a processed entry, or `m`, hangs below is processed -/
theorem parent_processed {l pre rest : List MountType} {m : MountType} (hl : l = pre ++ m :: rest)
    (hns : ∀ x ∈ l, x.id ≠ x.parent) (hpf : l.Pairwise (fun x y => y.id ≠ x.parent))
    {x c : MountType} (hx : x ∈ pre ∨ x = m) (hc : c ∈ l) (hpar : x.parent = c.id) : c ∈ pre := by
  have hml : m ∈ l := by rw [hl]; simp
  rw [hl, List.pairwise_append] at hpf
  rw [hl] at hc
  rcases List.mem_append.mp hc with h | h
  · exact h
  · exfalso
    rcases hx with hx | hx
    · exact hpf.2.2 x hx c h hpar.symm
    · subst hx
      rcases List.mem_cons.mp h with h | h
      · subst h; exact hns c hml hpar.symm
      · exact (List.pairwise_cons.mp hpf.2.1).1 c h hpar.symm

theorem insertTree_depthOK {out : List (MountType × Nat)} {m : MountType}
    (hnd : (out.map (·.1.id)).Nodup) (hself : m.id ≠ m.parent)
    (hbefore : ∀ e ∈ out, m.id ≠ e.1.parent) (hd : DepthOK out) : DepthOK (insertTree out m) := by
  have hlvl := placeBelow_level out m hnd
  have hnew : ∀ e ∈ insertTree out m, e ∈ out ∨ e = (m, (placeBelow out m).1) :=
    fun e he => ((mem_insertTree out m e).mp he).symm
  have hold : ∀ e ∈ out, e ∈ insertTree out m := fun e he => (mem_insertTree out m e).mpr (.inr he)
  intro e he
  rcases hnew e he with heo | hem
  · -- an old entry: m is not its parent
    obtain ⟨h1, h2⟩ := hd e heo
    refine ⟨fun p hp hpid => ?_, fun hno => h2 (fun p hp => hno p (hold p hp))⟩
    rcases hnew p hp with hpo | hpm
    · exact h1 p hpo hpid
    · exfalso; rw [hpm] at hpid; exact hbefore e heo hpid
  · rw [hem]
    refine ⟨fun p hp hpid => ?_, fun hno => hlvl.2 (fun p hp => hno p (hold p hp))⟩
    rcases hnew p hp with hpo | hpm
    · exact hlvl.1 p hpo hpid
    · exfalso; rw [hpm] at hpid; exact hself hpid

/-- **one round keeps the invariant** -/
theorem insertTree_J {l pre rest : List MountType} {m : MountType} {out : List (MountType × Nat)}
    (hl : l = pre ++ m :: rest) (hnd : (l.map (·.id)).Nodup) (hns : ∀ x ∈ l, x.id ≠ x.parent)
    (hpf : l.Pairwise (fun x y => y.id ≠ x.parent))
    (hsorted : l.Pairwise (fun a b => bytesLt b.mountpoint a.mountpoint = false))
    (hj : J l pre out) : J l (pre ++ [m]) (insertTree out m) := by
  have hml : m ∈ l := by rw [hl]; simp
  have hndout : (out.map (·.1.id)).Nodup := hj.nodup_ids hl hnd
  have hclosed : ∀ x ∈ pre, ∀ c ∈ l, x.parent = c.id → c ∈ pre :=
    fun x hx c hc hpar => parent_processed hl hns hpf (.inl hx) hc hpar
  rw [hl, List.pairwise_append] at hsorted
  refine ⟨insertTree_placed hl hnd hns hpf hj.toPlaced, insertTree_depthOK hndout (hns m hml) ?_ hj.depth, ?_⟩
  · have hpf' := hpf
    rw [hl, List.pairwise_append] at hpf'
    exact fun e he => hpf'.2.2 e.1 (hj.mem_pre he) m List.mem_cons_self
  obtain ⟨A, B, hee, hi, hA, hcase⟩ := insertTree_cases out m
  have hcov := hj.cov
  unfold CovFirst at hcov ⊢
  rw [hi]
  rw [hee] at hcov
  refine pairwise_insert hcov ?_ ?_
  · rintro u hu ⟨a, hca, hch⟩
    have huout : u ∈ out := by rw [hee]; exact List.mem_append_left _ hu
    -- u does not cover m, so the chain from a to m ends with a link from a processed q
    rcases hch.last with h | ⟨q, hq, hp⟩
    · subst h; rw [hA u hu] at hca; cases hca
    have hqpre : q ∈ pre := parent_processed hl hns hpf (.inr rfl) hq.mem_right hp
    obtain ⟨pq, hpq, hpq1⟩ := List.mem_map.mp (hj.perm.mem_iff.mpr hqpre)
    obtain ⟨dq, rfl⟩ : ∃ dq, pq = (q, dq) := ⟨pq.2, by rw [← hpq1]⟩
    rcases hcase with ⟨a', back, hB, hca'⟩ | ⟨before, par, blk, hAeq, hpar, hblk⟩ | ⟨hnone, _⟩
    · -- the covering mount a' hangs below q as well: u would cover something a' hangs below
      have ha'out : a' ∈ out := by rw [hee, hB]; simp
      have ha'l : a'.1 ∈ l := by rw [hl]; exact List.mem_append_left _ (hj.mem_pre ha'out)
      have hch' : ChainV l a a'.1 := hq.snoc ha'l (by rw [covers_parent hca', hp])
      exact (List.pairwise_append.mp hcov).2.2 u hu a' (by rw [hB]; simp) ⟨a, hca, hch'⟩
    · -- par is the entry of q; a is placed, on the level of u
      have hparq : par = (q, dq) :=
        entry_unique hndout (by rw [hee, hAeq]; simp) hpq (by rw [hpar, hp])
      obtain ⟨da, hda, hcmp⟩ := chain_depth hj hclosed hq hpq
      have hlev : u.2 = da := depth_siblings hj.depth huout hda (covers_parent hca)
      rw [hAeq] at hu hcov
      rcases List.mem_append.mp hu with hub | hub
      · -- u before par: u covers something par hangs below
        exact (List.pairwise_append.mp (List.pairwise_append.mp hcov).1).2.2 u hub par (by simp)
          ⟨a, hca, by rw [hparq]; exact hq⟩
      · rcases List.mem_cons.mp hub with hub | hub
        · -- u = par = q: a is on q's level and q hangs below a (or is a)
          rw [hub, hparq] at hlev hca
          simp only at hlev hca
          rcases hcmp with ⟨haq, _⟩ | hlt
          · rw [haq] at hca
            exact covers_ne_id hca rfl
          · omega
        · -- u in the run of deeper entries behind par
          have := hblk u hub
          rw [hparq] at this
          simp only at this
          omega
    · exact hnone (q, dq) hpq hp.symm
  · -- nothing processed lies behind m in path order, so m covers nothing an old entry hangs below
    rintro v hv ⟨a, hca, hch⟩
    have hvpre : v.1 ∈ pre := hj.mem_pre (by rw [hee]; exact List.mem_append_right _ hv)
    have hapre : a ∈ pre := hch.start_mem hclosed hvpre
    have := covers_lt hca
    rw [hsorted.2.2 a hapre m (by simp)] at this
    cases this

/-- **the whole subtree of a covered mount is listed before the mount that covers it**: in the
    tree order of a path-sorted list with unique ids, in which nobody is its own parent and
    nothing is listed before the mount it hangs below, no entry `v` is listed after an entry `u`
    that covers `v` or an entry `v` hangs below -/
theorem inTreeOrder_subtree_first (l : List MountType) (hnd : (l.map (·.id)).Nodup)
    (hns : ∀ x ∈ l, x.id ≠ x.parent) (hpf : l.Pairwise (fun x y => y.id ≠ x.parent))
    (hsorted : l.Pairwise (fun a b => bytesLt b.mountpoint a.mountpoint = false)) :
    (inTreeOrder l).Pairwise (fun u v => ¬ UBV l u v) := by
  have h := foldl_insertTree_inv (J l) (fun _ _ _ _ he => insertTree_J he hnd hns hpf hsorted)
    l [] [] rfl ⟨⟨List.Perm.refl _, List.Pairwise.nil⟩, fun e he => (by cases he), List.Pairwise.nil⟩
  unfold inTreeOrder
  rw [List.pairwise_map]
  exact h.cov

end Lc.TreeOrder
