/-
  Evaluation lemmas for `(m : M α).run.run w` (M = ExceptT Fault (StateM World)): the monad
  operations, and what each operation that writes the world does (`run_gate`, `run_record`,
  `run_fsStep`, `run_sysMount`, `run_fsUnmount`, `run_cursorOpen`, `run_cursorWrite`).
-/
import Lc.Model.Layers

namespace Lc.Layers
/-- the world after passing a fault point -/
def World.tick (w : World) : World := { w with nops := w.nops + 1 }
/-- the world after `op` was attempted -/
def World.log (w : World) (op : Op) : World := { w with trace := w.trace ++ [op] }
end Lc.Layers

namespace Lc.RunM
open Lc Lc.Layers

theorem run_pure {α} (a : α) (w : World) : (pure a : M α).run.run w = (.ok a, w) := rfl

theorem run_throw {α} (e : Fault) (w : World) : (throw e : M α).run.run w = (.error e, w) := rfl

theorem run_fail {α} (c : String) (w : World) : (fail c : M α).run.run w = (.error (.err c), w) := rfl

theorem run_getW (w : World) : getW.run.run w = (.ok w, w) := rfl

theorem run_setW (w' w : World) : (setW w').run.run w = (.ok (), w') := rfl

theorem run_bind {α β} (x : M α) (f : α → M β) (w : World) :
    (x >>= f).run.run w = match x.run.run w with
      | (.ok a, w') => (f a).run.run w'
      | (.error e, w') => (.error e, w') := by
  simp only [ExceptT.run_bind, StateT.run_bind]
  generalize StateT.run (ExceptT.run x) w = r
  obtain ⟨a, w'⟩ := r
  cases a <;> rfl

/-- the world a computation leaves is not changed by returning a fixed value after it -/
theorem world_bind_pure {α β} (x : M α) (b : β) (w : World) :
    ((x >>= fun _ => (pure b : M β)).run.run w).2 = (x.run.run w).2 := by
  rw [run_bind]
  generalize x.run.run w = r
  obtain ⟨a, w'⟩ := r
  cases a <;> rfl

theorem run_ite {α} (c : Prop) [Decidable c] (x y : M α) (w : World) :
    (if c then x else y).run.run w = if c then x.run.run w else y.run.run w := by
  split <;> rfl

theorem run_liftRes {α} (r : Res α) (w : World) :
    (liftRes r).run.run w = (r, w) := by
  unfold liftRes
  cases r <;> rfl

/-- sequencing after a step that ends normally -/
theorem liftRes_run_ok {α} {r : Res α} {w w' : World} {a : α}
    (h : (liftRes r).run.run w = (.ok a, w')) : w' = w ∧ r = .ok a := by
  rw [RunM.run_liftRes] at h
  cases h
  exact ⟨rfl, rfl⟩

theorem run_getL {d : Defs} {n : Bytes} {l : Layer} (h : findLayer d n = some l) (w : World) :
    (getL d n).run.run w = (.ok l, w) := by
  unfold getL; rw [h]; rfl

theorem getL_run_ok {d : Defs} {n : Bytes} {w w' : World} {l : Layer}
    (h : (getL d n).run.run w = (.ok l, w')) : w' = w ∧ findLayer d n = some l := by
  unfold getL at h
  split at h
  · rename_i l' hl
    rw [RunM.run_pure] at h
    cases h
    exact ⟨rfl, hl⟩
  · rw [RunM.run_throw] at h; cases h

theorem bind_ok {α β} (x : M α) (f : α → M β) (w w' : World) (a : α)
    (h : x.run.run w = (.ok a, w')) : (x >>= f).run.run w = (f a).run.run w' := by
  rw [run_bind, h]

/-- sequencing after a step that fails -/
theorem bind_err {α β} (x : M α) (f : α → M β) (w w' : World) (e : Fault)
    (h : x.run.run w = (.error e, w')) : (x >>= f).run.run w = (.error e, w') := by
  rw [run_bind, h]

theorem bind_ok_inv {α β} (x : M α) (f : α → M β) (w w' : World) (b : β)
    (h : (x >>= f).run.run w = (.ok b, w')) :
    ∃ a w1, x.run.run w = (.ok a, w1) ∧ (f a).run.run w1 = (.ok b, w') := by
  rw [run_bind] at h
  generalize hg : x.run.run w = r at h
  obtain ⟨r1, w1⟩ := r
  cases r1 with
  | error e => injection h with h1 _; cases h1
  | ok a => exact ⟨a, w1, rfl, h⟩

/-! ### the name tests at the head of a command -/

theorem testName_refuses {β} (d : Defs) (t : List (Bytes × Nat)) (k : Unit → M β) (w : World)
    (h : t.all (fun t => testName1 d t.1 t.2) = false) :
    (testName d t >>= k).run.run w = (.error (.err "name"), w) := by
  unfold testName
  rw [h]
  rfl

theorem need_iff (d : Defs) (n : Bytes) :
    testName1 d n NAME_NEED = true ↔ n ≠ [] ∧ isLegalLayerName n = true ∧ (findLayer d n).isSome = true := by
  unfold testName1 NAME_NEED
  cases n with
  | nil => simp
  | cons x xs =>
    by_cases hl : isLegalLayerName (x :: xs) = true <;> simp [hl]

theorem free_iff (d : Defs) (n : Bytes) :
    testName1 d n NAME_FREE = true ↔ n ≠ [] ∧ isLegalLayerName n = true ∧ findLayer d n = none := by
  unfold testName1 NAME_FREE
  cases n with
  | nil => simp
  | cons x xs =>
    by_cases hl : isLegalLayerName (x :: xs) = true <;> simp [hl]

theorem optneed_iff (d : Defs) (n : Bytes) :
    testName1 d n (NAME_OPTIONAL + NAME_NEED) = true ↔
      n = [] ∨ (isLegalLayerName n = true ∧ (findLayer d n).isSome = true) := by
  unfold testName1 NAME_NEED NAME_OPTIONAL
  cases n with
  | nil => simp
  | cons x xs =>
    by_cases hl : isLegalLayerName (x :: xs) = true <;> simp [hl]

theorem not_need (d : Defs) (n : Bytes) (h : n = [] ∨ isLegalLayerName n = false ∨ findLayer d n = none) :
    testName1 d n NAME_NEED = false := by
  cases ht : testName1 d n NAME_NEED with
  | false => rfl
  | true =>
    obtain ⟨a, b, c⟩ := (need_iff d n).mp ht
    rcases h with h | h | h
    · exact absurd h a
    · rw [b] at h; cases h
    · rw [h] at c; cases c

theorem not_free (d : Defs) (n : Bytes) (h : n = [] ∨ isLegalLayerName n = false ∨ (findLayer d n).isSome = true) :
    testName1 d n NAME_FREE = false := by
  cases ht : testName1 d n NAME_FREE with
  | false => rfl
  | true =>
    obtain ⟨a, b, c⟩ := (free_iff d n).mp ht
    rcases h with h | h | h
    · exact absurd h a
    · rw [b] at h; cases h
    · rw [c] at h; cases h

theorem not_optneed (d : Defs) (n : Bytes) (hb : n ≠ []) (h : isLegalLayerName n = false ∨ findLayer d n = none) :
    testName1 d n (NAME_OPTIONAL + NAME_NEED) = false := by
  cases ht : testName1 d n (NAME_OPTIONAL + NAME_NEED) with
  | false => rfl
  | true =>
    rcases (optneed_iff d n).mp ht with e | ⟨a, b⟩
    · exact absurd e hb
    · rcases h with h | h
      · rw [a] at h; cases h
      · rw [h] at b; cases b

/-! ### the operations that write the world -/

theorem run_gate (w : World) : gate.run.run w =
    if w.pretend then (.ok false, w)
    else if w.crashAt == some (w.nops + 1) then (.error (.err "crash"), w.tick)
    else if w.faultAt == some (w.nops + 1) then (.error (.err "fault"), w.tick)
    else (.ok true, w.tick) := by
  unfold gate
  simp only [run_bind, run_getW]
  split
  · rfl
  · split
    · rfl
    · split <;> rfl

theorem gate_cases (w : World) :
    (w.pretend = true ∧ gate.run.run w = (.ok false, w)) ∨
    (w.pretend = false ∧ ∃ e, gate.run.run w = (.error e, w.tick)) ∨
    (w.pretend = false ∧ gate.run.run w = (.ok true, w.tick)) := by
  rw [run_gate]
  cases w.pretend
  · refine .inr ?_
    simp only [Bool.false_eq_true, ↓reduceIte, true_and]
    split
    · exact .inl ⟨_, rfl⟩
    · split
      · exact .inl ⟨_, rfl⟩
      · exact .inr rfl
  · exact .inl ⟨rfl, rfl⟩

theorem gate_skips (w : World) (hp : w.pretend = true) : gate.run.run w = (.ok false, w) := by
  rw [run_gate, if_pos hp]

theorem gate_passes (w : World) (hp : w.pretend = false) (hc : w.crashAt ≠ some (w.nops + 1))
    (hf : w.faultAt ≠ some (w.nops + 1)) : gate.run.run w = (.ok true, w.tick) := by
  simp [run_gate, hp, hc, hf]

theorem gate_faults (w : World) (hp : w.pretend = false) (hc : w.crashAt ≠ some (w.nops + 1))
    (hf : w.faultAt = some (w.nops + 1)) : gate.run.run w = (.error (.err "fault"), w.tick) := by
  simp [run_gate, hp, hc, hf]

theorem run_record (op : Op) (w : World) : (record op).run.run w = (.ok (), w.log op) := rfl

theorem run_sysMount (s t f : Bytes) (fl : Nat) (o : Bytes) (w : World) :
    (sysMount s t f fl o).run.run w =
      match Kernel.kmount w.kt s t f fl o with
      | .ok kt' => (.ok (), { w.log (.mount s t f fl o) with kt := kt' })
      | .error e => (.error (.err ("sys:" ++ e.str)), w.log (.mount s t f fl o)) := by
  unfold sysMount
  simp only [run_bind, run_record, run_getW]
  dsimp only [World.log]
  cases Kernel.kmount w.kt s t f fl o <;> rfl

theorem run_fsStep (op : Op) (f : Fs.Tree → Except String Fs.Tree) (w : World) :
    (fsStep op f).run.run w =
      match gate.run.run w with
      | (.error e, w') => (.error e, w')
      | (.ok false, w') => (.ok (), w')
      | (.ok true, w') =>
        match f w'.fs with
        | .ok fs' => (.ok (), { w'.log op with fs := fs' })
        | .error e => (.error (.err ("os:" ++ e)), w'.log op) := by
  unfold fsStep
  simp only [run_bind]
  generalize gate.run.run w = r
  obtain ⟨a, w'⟩ := r
  cases a with
  | error e => rfl
  | ok b =>
    cases b with
    | false => rfl
    | true =>
      simp only [Bool.not_true, Bool.false_eq_true, ↓reduceIte, run_bind, run_record, run_getW]
      dsimp only [World.log]
      cases f w'.fs <;> rfl

theorem run_fsUnmount (t : Bytes) (w : World) :
    (fsUnmount t).run.run w =
      match gate.run.run w with
      | (.error e, w') => (.error e, w')
      | (.ok false, w') => (.ok (), w')
      | (.ok true, w') =>
        let w'' := w'.log (.umount t (if w'.force then 1 else 0))
        match Kernel.kumount w'.kt t with
        | .ok kt' => (.ok (), { w'' with kt := kt' })
        | .error e => (.error (.err ("sys:" ++ e.str)), w'') := by
  unfold fsUnmount
  simp only [run_bind]
  generalize gate.run.run w = r
  obtain ⟨a, w'⟩ := r
  cases a with
  | error e => rfl
  | ok b =>
    cases b with
    | false => rfl
    | true =>
      simp only [Bool.not_true, Bool.false_eq_true, ↓reduceIte, run_bind, run_record, run_getW]
      dsimp only [World.log]
      cases Kernel.kumount w'.kt t <;> rfl

/-- the cursor's fault point is not behind the pretend switch: `writeLayerFile` asks the
    pretender once, before it opens the file -/
theorem run_cursorOpen (p : Bytes) (w : World) : (cursorOpen p).run.run w =
    if w.crashAt == some (w.nops + 1) then (.error (.err "crash"), w.tick)
    else if w.faultAt == some (w.nops + 1) then (.error (.err "fault"), w.tick)
    else match Fs.openWrite w.fs p true with
      | .error e => (.error (.err ("os:" ++ e)), w.tick.log (.fopen p))
      | .ok fs' => (.ok (), { w.tick.log (.fopen p) with fs := fs' }) := by
  unfold cursorOpen
  simp only [run_bind, run_getW, run_setW, run_ite, run_fail, run_record]
  dsimp only [World.tick, World.log]
  cases Fs.openWrite w.fs p true <;> rfl

/-- a write after a failed one is skipped, and an injected fault makes the write report
    failure instead of raising an error -/
theorem run_cursorWrite (p chunk : Bytes) (failed : Bool) (w : World) :
    (cursorWrite p chunk failed).run.run w =
      if failed then (.ok true, w)
      else if w.crashAt == some (w.nops + 1) then (.error (.err "crash"), w.tick)
      else if w.faultAt == some (w.nops + 1) then (.ok true, w.tick)
      else (.ok false, { w.tick.log (.fwrite p) with fs := Fs.appendFile w.fs p chunk }) := by
  unfold cursorWrite
  simp only [run_bind, run_getW, run_setW, run_ite, run_fail, run_record, run_pure]
  rfl

open Lc.Mountinfo in
theorem refresh_run_ok {cfg : Config} {d d2 : Defs} {w w' : World}
    (h : (refreshMountInfo cfg d).run.run w = (.ok d2, w')) :
    w' = w ∧ Kernel.probe w.kt = .ok d2.mounts ∧
      d2.layers = d.layers.map (fun l => { l with overlain := (overlayLowerdirs d2.mounts).contains (buildPath cfg l) }) := by
  unfold refreshMountInfo at h
  obtain ⟨w0, w1, h1, ha⟩ := RunM.bind_ok_inv _ _ _ _ _ h
  rw [RunM.run_getW] at h1
  cases h1
  obtain ⟨m, w2, h2, hb⟩ := RunM.bind_ok_inv _ _ _ _ _ ha
  have h3 := liftRes_run_ok h2
  rw [h3.1] at hb
  have hc : (pure ({ d with mounts := m, layers := d.layers.map fun l =>
      { l with overlain := (overlayLowerdirs m).contains (buildPath cfg l) } } : Defs) : M Defs).run.run w
      = (.ok d2, w') := hb
  rw [RunM.run_pure] at hc
  cases hc
  exact ⟨rfl, h3.2, rfl⟩

end Lc.RunM
