/-
  The file-system model seen through `Fs.get` across the operations the rewriting commands
  `add` and `rename` perform besides WriteLayerfile: a directory move (`Fs.rename` described
  completely by `getMoved`), `WriteTextFile` (only its own path changes).  Pure lemmas, helper
  for Lemmas/CrashAdd, Lemmas/CrashRename and Props/C11.  Core Lean only.
-/
import Lc.Lemmas.FsRename

namespace Lc.FsMove
open Lc Lc.Fs Lc.FsRename

/-! ### two directories containing the same path are nested -/

/-- `a/…` = `b/…` makes one of `a`, `b` lie at or below the other -/
theorem nested_of_common (a b ra rb : Bytes) (hra : Tail ra) (hrb : Tail rb)
    (h : a ++ ra = b ++ rb) : under a b = true ∨ under b a = true := by
  -- the longer of `a`, `b` is the shorter one and a piece `c` that begins the other's tail
  have key : ∀ (a b c ra rb : Bytes), Tail ra → b = a ++ c → ra = c ++ rb → under a b = true := by
    intro a b c ra rb hra hb hr
    rw [hb]
    apply under_append
    cases c with
    | nil => exact tail_nil
    | cons x xs =>
      rcases hra with e | ⟨r, e⟩
      · rw [e] at hr; cases hr
      · rw [e] at hr; cases hr; exact tail_slash xs
  rcases List.append_eq_append_iff.mp h with ⟨c, hb, hr⟩ | ⟨c, ha, hr⟩
  · exact Or.inl (key a b c ra rb hra hb hr)
  · exact Or.inr (key b a c rb ra hrb ha hr)

theorem ne_of_under_false (a p : Bytes) (h : under a p = false) : p ≠ a := by
  intro e; rw [e, under_self] at h; cases h

/-! ### `Fs.rename` of a directory, completely -/

/-- what is found at `p` after `old` was moved to `new`, in terms of the tree before -/
def getMoved (fs0 : Tree) (old new p : Bytes) : Option Node :=
  if under new p then Fs.get fs0 (old ++ p.drop new.length)
  else if under old p then none else Fs.get fs0 p

theorem rename_apart (fs fs' : Tree) (old new : Bytes) (h : rename fs old new = .ok fs')
    (hsep : under new old = false) : old ≠ new ∧ under old new = false := by
  have hne : old ≠ new := (ne_of_under_false new old hsep)
  refine ⟨hne, ?_⟩
  cases hu : under old new with
  | false => rfl
  | true => exact absurd ⟨hu, hne⟩ (rename_ok fs fs' old new h).2.2.1

/-- nothing is left at or below `old` -/
theorem rename_vacates (fs fs' : Tree) (old new : Bytes) (h : rename fs old new = .ok fs')
    (hold : old ≠ [47]) (hsep : under new old = false) (p : Bytes) (hp : under old p = true) :
    Fs.get fs' p = none := by
  obtain ⟨_, hon⟩ := rename_apart fs fs' old new h hsep
  cases hg : Fs.get fs' p with
  | none => rfl
  | some n =>
    exfalso
    rcases rename_mem fs fs' old new h hold p n (get_some_mem fs' p n hg) with ⟨_, hu⟩ | ⟨r, hr, e, _⟩
    · rw [hu] at hp; cases hp
    · obtain ⟨rest, hrest, hpe⟩ := (under_iff old p hold).1 hp
      rcases nested_of_common new old r rest hr hrest (e.symm.trans hpe) with hx | hx
      · rw [hx] at hsep; cases hsep
      · rw [hx] at hon; cases hon

/-- `Fs.rename old new` where `old` does not lie at or below `new`: every lookup afterwards -/
theorem rename_get (fs fs' : Tree) (old new : Bytes) (h : rename fs old new = .ok fs')
    (hold : old ≠ [47]) (hnew : new ≠ [47]) (hsep : under new old = false) (p : Bytes) :
    Fs.get fs' p = getMoved fs old new p := by
  obtain ⟨hne, hon⟩ := rename_apart fs fs' old new h hsep
  unfold getMoved
  cases hn : under new p with
  | true =>
    obtain ⟨rest, hrest, hpe⟩ := (under_iff new p hnew).1 hn
    rw [if_pos rfl, hpe, List.drop_left, rename_get_new fs fs' old new h hold hne rest hrest, if_neg]
    intro hu
    obtain ⟨r, hr, e⟩ := (under_iff new _ hnew).1 hu
    rcases nested_of_common old new rest r hrest hr e with hx | hx
    · rw [hx] at hon; cases hon
    · rw [hx] at hsep; cases hsep
  | false =>
    rw [if_neg (by simp)]
    cases ho : under old p with
    | true => rw [if_pos rfl]; exact rename_vacates fs fs' old new h hold hsep p ho
    | false => rw [if_neg (by simp)]; exact rename_keeps fs fs' old new h hold p ho hn

/-! ### WriteTextFile: open without truncation, then overwrite -/

/-- the function `fsWriteTextFile` applies to the tree -/
def writeText (p content : Bytes) (fs : Tree) : Except String Tree := do
  let fs1 ← openWrite fs p false
  pure (overwriteFile fs1 p content)

theorem writeText_get_ne (fs fs' : Tree) (f content p : Bytes) (h : writeText f content fs = .ok fs')
    (hne : p ≠ f) : Fs.get fs' p = Fs.get fs p := by
  unfold writeText at h
  cases ho : openWrite fs f false with
  | error e => rw [ho] at h; cases h
  | ok fs1 =>
    rw [ho] at h
    cases h
    obtain ⟨c, rfl, _⟩ := openWrite_ok fs fs1 f false ho
    rw [get_overwriteFile_ne _ _ _ _ hne, get_set, if_neg hne]

end Lc.FsMove
