/-
  A representation invariant of the file-system model: `TreeWF fs` — no path occurs twice,
  every path is clean and absolute (what the header of `Lc/Model/Fs.lean` promises), and
  with every path other than "/" its parent directory is present.
  Every primitive of `Lc/Model/Fs.lean` the commands use keeps it when it is handed clean
  absolute paths; under it a directory listing (`Fs.children`) has no name twice.
  Helper lemmas for Props/C02.  Core Lean only.
-/
import Lc.Lemmas.AbsPath
import Lc.Lemmas.FsMove
import Lc.Lemmas.FsMkdir

namespace Lc.TreeWF
open Lc Lc.Fs Lc.Lemmas.Path Lc.ExportPath Lc.InLayers Lc.FsRename

/-! ### clean absolute paths -/

/-- `p` is what `path.Clean` leaves alone and starts with '/' -/
def CleanAbs (p : Bytes) : Prop := pathClean p = p ∧ isAbs p = true

instance (p : Bytes) : Decidable (CleanAbs p) := inferInstanceAs (Decidable (_ ∧ _))

theorem cleanAbs_absPath (cs : List Bytes) (h : ∀ c ∈ cs, CleanName c) : CleanAbs (absPath cs) :=
  ⟨pathClean_absPath cs h, rfl⟩

theorem cleanAbs_comps (p : Bytes) (h : CleanAbs p) :
    ∃ cs, (∀ c ∈ cs, CleanName c) ∧ p = absPath cs := cleanAbs_shape p h.1 h.2

theorem absPath_nil : absPath [] = [47] := rfl

/-- a path with at least one component: everything before the last one, a slash, the last -/
theorem absPath_snoc (cs : List Bytes) (c : Bytes) :
    ∃ X, absPath (cs ++ [c]) = X ++ SLASH :: c ∧ (cs ≠ [] → X = absPath cs) ∧ (cs = [] → X = []) := by
  cases cs with
  | nil => exact ⟨[], rfl, fun h => absurd rfl h, fun _ => rfl⟩
  | cons d ds =>
    refine ⟨absPath (d :: ds), ?_, fun _ => rfl, fun h => by cases h⟩
    rw [absPath_append (d :: ds) [c] (by simp) (by simp)]
    rfl

/-- what precedes the last slash of a path with the components `pre ++ [c]` -/
def pfx (pre : List Bytes) : Bytes := if pre = [] then [] else absPath pre

theorem absPath_snoc_eq (pre : List Bytes) (c : Bytes) : absPath (pre ++ [c]) = pfx pre ++ SLASH :: c := by
  obtain ⟨X, hX, h1, h2⟩ := absPath_snoc pre c
  rw [hX]
  unfold pfx
  by_cases hp : pre = []
  · rw [if_pos hp, h2 hp]
  · rw [if_neg hp, h1 hp]

theorem absPath_ne_root (cs : List Bytes) (h : ∀ c ∈ cs, CleanName c) (hne : cs ≠ []) :
    absPath cs ≠ [47] := by
  intro e
  have : absPath cs = absPath [] := e
  exact hne (absPath_inj cs [] h (by simp) this)

theorem pathBase_snoc (cs : List Bytes) (c : Bytes) (hc : CleanName c) :
    pathBase (absPath (cs ++ [c])) = c := by
  obtain ⟨X, hX, _, _⟩ := absPath_snoc cs c
  have hslash : SLASH ∉ c := hc.1.2.2
  have hne : c ≠ [] := hc.1.1
  rw [hX]
  unfold pathBase
  have h1 : (X ++ SLASH :: c).isEmpty = false := by simp
  simp only [h1, Bool.false_eq_true, if_false]
  -- no trailing slash to strip: the last byte is a byte of `c`
  have hstrip : ((X ++ SLASH :: c).reverse.dropWhile (· == SLASH)).reverse = X ++ SLASH :: c := by
    obtain ⟨c', y, rfl⟩ : ∃ c' y, c = c' ++ [y] := ⟨_, _, (List.dropLast_concat_getLast hne).symm⟩
    have hy : ¬ (y == SLASH) = true := fun e => hslash (by simp [beq_iff_eq.mp e])
    rw [show (X ++ SLASH :: (c' ++ [y])).reverse = y :: (X ++ SLASH :: c').reverse by simp,
      List.dropWhile_cons_of_neg (p := (· == SLASH)) hy]
    simp
  rw [hstrip, lastSlashSplit_snoc X c hslash]
  cases c with
  | nil => exact absurd rfl hne
  | cons x xs => simp

theorem pathDir_snoc' (cs : List Bytes) (c : Bytes) (h : ∀ x ∈ cs, CleanName x) (hc : CleanName c) :
    pathDir (absPath (cs ++ [c])) = absPath cs :=
  pathDir_snoc cs c (List.forall_mem_append.mpr ⟨h, List.forall_mem_singleton.mpr hc⟩)

/-- `under` on clean absolute paths: the components of the first are a prefix of those of
    the second -/
theorem under_absPath (ds cs : List Bytes) (hd : ∀ c ∈ ds, CleanName c) (hc : ∀ c ∈ cs, CleanName c) :
    under (absPath ds) (absPath cs) = true ↔ ds <+: cs := by
  cases hds : ds with
  | nil =>
    constructor
    · intro _; exact List.nil_prefix
    · intro _
      unfold under
      simp only [absPath_nil, beq_self_eq_true, if_true]
      cases cs with
      | nil => simp [absPath_nil]
      | cons x xs => simp [absPath, hasPrefix, SLASH]
  | cons d ds' =>
    have hne : d :: ds' ≠ [] := by simp
    have hd' : ∀ c ∈ d :: ds', CleanName c := hds ▸ hd
    have hroot := absPath_ne_root (d :: ds') hd' hne
    have hb : (absPath (d :: ds') == [47]) = false := by simpa using hroot
    unfold under
    rw [hb]
    simp only [Bool.false_eq_true, if_false]
    exact atOrBelow_iff (d :: ds') cs hd' hc hne

theorem under_absPath_false {ds cs : List Bytes} (hd : ∀ c ∈ ds, CleanName c) (hc : ∀ c ∈ cs, CleanName c)
    (h : ¬ ds <+: cs) : under (absPath ds) (absPath cs) = false :=
  Bool.eq_false_iff.mpr fun hu => h ((under_absPath ds cs hd hc).mp hu)

/-! ### the invariant -/

/-- the paths of a tree -/
abbrev keys (fs : Tree) : List Bytes := fs.map (·.1)

/-- **well-formed tree**: no path twice; every path clean and absolute; with every path other
    than "/" its parent (`path.Dir`) is present -/
def TreeWF (fs : Tree) : Prop :=
  (keys fs).Nodup ∧ (∀ e ∈ fs, CleanAbs e.1) ∧ (∀ e ∈ fs, e.1 ≠ [47] → pathDir e.1 ∈ keys fs)

instance (fs : Tree) : Decidable (TreeWF fs) := inferInstanceAs (Decidable (_ ∧ _ ∧ _))

theorem treeWF_nil : TreeWF [] :=
  ⟨List.nodup_nil, fun _ h => absurd h List.not_mem_nil, fun _ h => absurd h List.not_mem_nil⟩

theorem present_iff (fs : Tree) (p : Bytes) : (Fs.get fs p).isSome = true ↔ p ∈ keys fs :=
  get_isSome_iff fs p

/-- a path that is present is clean and absolute -/
theorem key_clean {fs : Tree} (h : TreeWF fs) (p : Bytes) (hp : p ∈ keys fs) : CleanAbs p := by
  obtain ⟨e, he, e1⟩ := List.mem_map.mp hp
  rw [← e1]; exact h.2.1 e he

theorem key_parent {fs : Tree} (h : TreeWF fs) (p : Bytes) (hp : p ∈ keys fs) (hne : p ≠ [47]) :
    pathDir p ∈ keys fs := by
  obtain ⟨e, he, e1⟩ := List.mem_map.mp hp
  rw [← e1]; exact h.2.2 e he (by rw [e1]; exact hne)

/-- what `stat` finds starts at a path that is present -/
theorem stat_some_key (fs : Tree) (p : Bytes) (x : Node) (h : stat fs p = some x) : p ∈ keys fs :=
  (present_iff fs p).mp (stat_isSome_get fs p x h)

theorem isDir_key (fs : Tree) (p : Bytes) (h : isDir fs p = true) : p ∈ keys fs :=
  stat_some_key fs p .dir ((isDir_iff fs p).mp h)

theorem any_key_iff (fs : Tree) (p : Bytes) : fs.any (·.1 == p) = true ↔ p ∈ keys fs := by
  simp only [List.any_eq_true, beq_iff_eq, List.mem_map]

theorem keys_map_replace (fs : Tree) (p : Bytes) (n : Node) :
    keys (fs.map (fun e => if e.1 == p then (p, n) else e)) = keys fs := by
  unfold keys
  rw [List.map_map]
  apply List.map_congr_left
  intro e _
  simp only [Function.comp]
  split
  · rename_i h; simp at h; exact h.symm
  · rfl

/-- `set` on a path that is present keeps the list of paths -/
theorem keys_set_present (fs : Tree) (p : Bytes) (n : Node) (h : p ∈ keys fs) :
    keys (Fs.set fs p n) = keys fs := by
  unfold Fs.set
  rw [if_pos ((any_key_iff fs p).mpr h)]
  exact keys_map_replace fs p n

theorem keys_set_absent (fs : Tree) (p : Bytes) (n : Node) (h : p ∉ keys fs) :
    keys (Fs.set fs p n) = keys fs ++ [p] := by
  unfold Fs.set
  have : ¬ fs.any (·.1 == p) = true := fun hh => h ((any_key_iff fs p).mp hh)
  rw [if_neg this]
  simp [keys]

/-- well-formedness is a property of the list of paths -/
theorem treeWF_iff_keys (fs : Tree) :
    TreeWF fs ↔ (keys fs).Nodup ∧ (∀ k ∈ keys fs, CleanAbs k) ∧ (∀ k ∈ keys fs, k ≠ [47] → pathDir k ∈ keys fs) := by
  unfold TreeWF
  constructor
  · rintro ⟨h1, h2, h3⟩
    refine ⟨h1, ?_, ?_⟩
    · intro k hk; obtain ⟨e, he, e1⟩ := List.mem_map.mp hk; rw [← e1]; exact h2 e he
    · intro k hk hne; obtain ⟨e, he, e1⟩ := List.mem_map.mp hk; rw [← e1]; exact h3 e he (by rw [e1]; exact hne)
  · rintro ⟨h1, h2, h3⟩
    exact ⟨h1, fun e he => h2 e.1 (List.mem_map.mpr ⟨e, he, rfl⟩),
      fun e he hne => h3 e.1 (List.mem_map.mpr ⟨e, he, rfl⟩) hne⟩

/-- a tree with the same paths is as well-formed -/
theorem treeWF_of_keys {fs fs' : Tree} (h : TreeWF fs) (hk : keys fs' = keys fs) : TreeWF fs' := by
  rw [treeWF_iff_keys] at h ⊢
  rw [hk]; exact h

/-- **set**: a clean absolute path whose parent is present (or "/", or a path already present) -/
theorem set_wf {fs : Tree} (h : TreeWF fs) (p : Bytes) (n : Node) (hp : CleanAbs p)
    (hpar : p = [47] ∨ pathDir p ∈ keys fs) : TreeWF (Fs.set fs p n) := by
  by_cases hm : p ∈ keys fs
  · exact treeWF_of_keys h (keys_set_present fs p n hm)
  · rw [treeWF_iff_keys] at h ⊢
    obtain ⟨h1, h2, h3⟩ := h
    rw [keys_set_absent fs p n hm]
    refine ⟨?_, ?_, ?_⟩
    · rw [List.nodup_append]
      refine ⟨h1, by simp, ?_⟩
      intro a ha b hb e
      simp at hb
      rw [e, hb] at ha
      exact hm ha
    · intro k hk
      rcases List.mem_append.mp hk with hk | hk
      · exact h2 k hk
      · simp at hk; rw [hk]; exact hp
    · intro k hk hne
      rcases List.mem_append.mp hk with hk | hk
      · exact List.mem_append_left _ (h3 k hk hne)
      · simp at hk
        rw [hk] at hne ⊢
        rcases hpar with e | e
        · exact absurd e hne
        · exact List.mem_append_left _ e

/-- `set` on a path that is present needs no hypothesis on the path -/
theorem set_present_wf {fs : Tree} (h : TreeWF fs) (p : Bytes) (n : Node)
    (hp : p ∈ keys fs) : TreeWF (Fs.set fs p n) :=
  treeWF_of_keys h (keys_set_present fs p n hp)

theorem under_root_abs (k : Bytes) (hk : isAbs k = true) : under [47] k = true := by
  cases k with
  | nil => simp [isAbs] at hk
  | cons x xs =>
    rw [isAbs_cons] at hk
    have hx : x = 47 := by simpa using hk
    subst hx
    simp [under, hasPrefix]

/-- at or below `p` goes down from a parent to its children -/
theorem under_child (p : Bytes) (pre : List Bytes) (c : Bytes)
    (h : under p (absPath pre) = true) : under p (absPath (pre ++ [c])) = true := by
  by_cases hp : p = [47]
  · rw [hp]; exact under_root_abs _ rfl
  · obtain ⟨rest, hr, e⟩ := (under_iff p _ hp).1 h
    cases pre with
    | nil =>
      -- "/" = p ++ rest with p ≠ "/": p = [] and rest = "/"
      have e' : [47] = p ++ rest := e
      cases p with
      | nil =>
        unfold under
        simp [absPath, hasPrefix, SLASH]
      | cons x xs =>
        simp only [List.cons_append, List.cons.injEq] at e'
        obtain ⟨hx, e2⟩ := e'
        have : xs = [] := (List.append_eq_nil_iff.mp e2.symm).1
        rw [← hx, this] at hp
        exact absurd rfl hp
    | cons d ds =>
      rw [absPath_append (d :: ds) [c] (by simp) (by simp), e, List.append_assoc]
      exact under_append _ _ (hr.append (tail_slash c))

/-- the parent of a clean absolute path other than "/" -/
theorem parent_shape (k : Bytes) (hk : CleanAbs k) (hne : k ≠ [47]) :
    ∃ pre c, (∀ x ∈ pre, CleanName x) ∧ CleanName c ∧ k = absPath (pre ++ [c]) ∧ pathDir k = absPath pre := by
  obtain ⟨ks, hks, rfl⟩ := cleanAbs_comps k hk
  rcases List.eq_nil_or_concat ks with e | ⟨pre, c, e⟩
  · rw [e] at hne; exact absurd rfl hne
  · have e' : ks = pre ++ [c] := by simpa using e
    have hpre : ∀ y ∈ pre, CleanName y := fun y hy => hks y (by rw [e']; exact List.mem_append_left _ hy)
    have hc : CleanName c := hks c (by rw [e']; simp)
    exact ⟨pre, c, hpre, hc, by rw [e'], by rw [e', pathDir_snoc' pre c hpre hc]⟩

/-- **removeAll** -/
theorem removeAll_wf {fs : Tree} (h : TreeWF fs) (p : Bytes) : TreeWF (removeAll fs p) := by
  unfold removeAll
  refine ⟨List.Nodup.sublist (List.Sublist.map _ List.filter_sublist) h.1,
    fun e he => h.2.1 e (List.mem_filter.mp he).1, ?_⟩
  intro e he hne
  obtain ⟨hem, hnu⟩ := List.mem_filter.mp he
  have hpar := h.2.2 e hem hne
  obtain ⟨e', he', e1⟩ := List.mem_map.mp hpar
  refine List.mem_map.mpr ⟨e', List.mem_filter.mpr ⟨he', ?_⟩, e1⟩
  -- were the parent at or below `p`, the entry would be too
  cases hu : under p e'.1 with
  | false => rfl
  | true =>
    exfalso
    obtain ⟨pre, c, hpre, hc, hk, hd⟩ := parent_shape e.1 (h.2.1 e hem) hne
    rw [e1, hd] at hu
    have := under_child p pre c hu
    rw [← hk] at this
    simp [this] at hnu

/-- **appendFile**, **overwriteFile**: the path is present or nothing happens -/
theorem appendFile_wf {fs : Tree} (h : TreeWF fs) (p chunk : Bytes) : TreeWF (appendFile fs p chunk) := by
  unfold appendFile
  split
  · rename_i c hc; exact set_present_wf h p _ ((present_iff fs p).mp (by rw [hc]; rfl))
  · exact h

theorem overwriteFile_wf {fs : Tree} (h : TreeWF fs) (p data : Bytes) : TreeWF (overwriteFile fs p data) := by
  unfold overwriteFile
  split
  · rename_i c hc; exact set_present_wf h p _ ((present_iff fs p).mp (by rw [hc]; rfl))
  · exact h

/-- **openWrite** -/
theorem openWrite_wf {fs fs' : Tree} (h : TreeWF fs) (p : Bytes) (t : Bool) (hp : CleanAbs p)
    (hr : openWrite fs p t = .ok fs') : TreeWF fs' := by
  obtain ⟨c, rfl, _, hpres | hpar⟩ := openWrite_ok fs fs' p t hr
  · exact set_present_wf h p _ ((present_iff fs p).mp hpres)
  · exact set_wf h p _ hp (Or.inr (isDir_key fs _ hpar))

/-- **symlink** -/
theorem symlink_wf {fs fs' : Tree} (h : TreeWF fs) (target link : Bytes) (hp : CleanAbs link)
    (hr : symlink fs target link = .ok fs') : TreeWF fs' := by
  obtain ⟨_, hpar, rfl⟩ := symlink_ok fs fs' target link hr
  exact set_wf h link _ hp (Or.inr (isDir_key fs _ hpar))

/-! ### mkdirAll -/

theorem mkStep_wf {acc acc' : Tree} (h : TreeWF acc) (d : Bytes) (hd : CleanAbs d)
    (hpar : d = [47] ∨ pathDir d ∈ keys acc) (hr : mkStep acc d = .ok acc') :
    TreeWF acc' ∧ d ∈ keys acc' ∧ ∀ k ∈ keys acc, k ∈ keys acc' := by
  rcases mkStep_ok acc acc' d hr with ⟨hdir, rfl⟩ | ⟨hg, rfl⟩
  · exact ⟨h, isDir_key _ d hdir, fun k hk => hk⟩
  · have hab : d ∉ keys acc := by
      intro hm
      have := (present_iff acc d).mpr hm
      rw [hg] at this; cases this
    rw [← set_new acc d .dir hg, keys_set_absent acc d _ hab]
    exact ⟨set_wf h d _ hd hpar, by simp, fun k hk => List.mem_append_left _ hk⟩

/-- a list of directories each of which is "/" or the child of its predecessor -/
def okFrom (prev : Bytes) : List Bytes → Prop
  | [] => True
  | d :: ds => CleanAbs d ∧ (d = [47] ∨ pathDir d = prev) ∧ okFrom d ds

theorem foldlM_mkStep_wf : ∀ (ds : List Bytes) (prev : Bytes) (acc acc' : Tree), TreeWF acc →
    okFrom prev ds → (prev ∈ keys acc ∨ ds.head? = some [47]) →
    ds.foldlM mkStep acc = .ok acc' → TreeWF acc' := by
  intro ds
  induction ds with
  | nil =>
    intro prev acc acc' h _ _ hr
    simp only [List.foldlM_nil, pure, Except.pure, Except.ok.injEq] at hr
    subst hr; exact h
  | cons d ds ih =>
    intro prev acc acc' h hok hprev hr
    simp only [List.foldlM_cons, bind, Except.bind] at hr
    split at hr
    · cases hr
    · rename_i a ha
      obtain ⟨hd, hdp, hrest⟩ := hok
      have hpar : d = [47] ∨ pathDir d ∈ keys acc := by
        rcases hdp with e | e
        · exact Or.inl e
        · rcases hprev with hp | hp
          · exact Or.inr (e ▸ hp)
          · simp at hp; exact Or.inl hp
      obtain ⟨hwa, hda, _⟩ := mkStep_wf h d hd hpar ha
      exact ih d a acc' hwa hrest (Or.inl hda) hr

theorem comps_absPath (cs : List Bytes) (h : ∀ c ∈ cs, CleanName c) :
    (splitOn 47 (absPath cs)).filter (!·.isEmpty) = cs := by
  cases cs with
  | nil => decide
  | cons c rest =>
    have hsp : splitOn 47 (absPath (c :: rest)) = [] :: splitOn 47 (joinWith 47 (c :: rest)) := by
      simp [absPath, SLASH, splitOn]
    rw [hsp, splitOn_joinWith 47 (c :: rest) (by simp) (fun p hp => (h p hp).1.2.2)]
    rw [List.filter_cons]
    simp only [List.isEmpty_nil, Bool.not_true, Bool.false_eq_true, if_false]
    apply List.filter_eq_self.mpr
    intro x hx
    have := (h x hx).1.1
    cases x with
    | nil => exact absurd rfl this
    | cons y ys => rfl

/-- the accumulator of `ancestors.go` is what precedes the next slash -/
theorem go_ok : ∀ (rest pre : List Bytes), (∀ c ∈ pre, CleanName c) →
    (∀ c ∈ rest, CleanName c) → rest ≠ [] →
    okFrom (absPath pre) (ancestors.go (pfx pre) rest ++ [absPath (pre ++ rest)]) := by
  intro rest
  induction rest with
  | nil => intro pre _ _ hne; exact absurd rfl hne
  | cons c rest ih =>
    intro pre hpre hrest _
    have hc : CleanName c := hrest c (by simp)
    have hpre' : ∀ x ∈ pre ++ [c], CleanName x :=
      List.forall_mem_append.mpr ⟨hpre, List.forall_mem_singleton.mpr hc⟩
    cases rest with
    | nil =>
      simp only [ancestors.go, List.nil_append]
      exact ⟨cleanAbs_absPath _ hpre', Or.inr (pathDir_snoc' pre c hpre hc), trivial⟩
    | cons c2 rest2 =>
      have hacc : pfx pre ++ 47 :: c = absPath (pre ++ [c]) := (absPath_snoc_eq pre c).symm
      have := ih (pre ++ [c]) hpre' (fun x hx => hrest x (List.mem_cons_of_mem _ hx)) (by simp)
      rw [pfx, if_neg (by simp)] at this
      simp only [ancestors.go, List.cons_append]
      rw [hacc]
      exact ⟨cleanAbs_absPath _ hpre', Or.inr (pathDir_snoc' pre c hpre hc),
        by simpa [List.append_assoc] using this⟩

/-- **mkdirAll** -/
theorem mkdirAll_wf {fs fs' : Tree} (h : TreeWF fs) (p : Bytes) (hp : CleanAbs p)
    (hr : mkdirAll fs p = .ok fs') : TreeWF fs' := by
  rw [mkdirAll_eq] at hr
  obtain ⟨cs, hcs, rfl⟩ := cleanAbs_comps p hp
  have hroot : CleanAbs [47] := cleanAbs_absPath [] (by simp)
  refine foldlM_mkStep_wf _ [47] fs fs' h ?_ (Or.inr ?_) hr
  · unfold ancestors
    rw [comps_absPath cs hcs]
    cases cs with
    | nil =>
      simp only [ancestors.go, List.cons_append, List.nil_append]
      exact ⟨hroot, Or.inl rfl, hroot, Or.inl rfl, trivial⟩
    | cons c rest =>
      simp only [List.cons_append]
      refine ⟨hroot, Or.inl rfl, ?_⟩
      have := go_ok (c :: rest) [] (by simp) hcs (by simp)
      rw [absPath_nil] at this
      simpa [pfx] using this
  · unfold ancestors; rfl

/-! ### rename -/

/-- what a rename of `os` to `ns` does to the components of a path -/
def mvK (os ns ks : List Bytes) : List Bytes := if os <+: ks then ns ++ ks.drop os.length else ks

theorem mvK_below (os ns t : List Bytes) : mvK os ns (os ++ t) = ns ++ t := by
  rw [mvK, if_pos (List.prefix_append _ _), List.drop_left]

theorem mvK_root (os ns : List Bytes) : mvK os ns os = ns := by
  simpa using mvK_below os ns []

theorem mvK_clean {os ns ks : List Bytes} (hns : ∀ c ∈ ns, CleanName c) (hks : ∀ c ∈ ks, CleanName c) :
    ∀ c ∈ mvK os ns ks, CleanName c := by
  unfold mvK
  split
  · exact List.forall_mem_append.mpr ⟨hns, fun c hc => hks c (List.mem_of_mem_drop hc)⟩
  · exact hks

theorem mvK_inj {os ns as bs : List Bytes} (ha : ¬ ns <+: as) (hb : ¬ ns <+: bs)
    (h : mvK os ns as = mvK os ns bs) : as = bs := by
  unfold mvK at h
  by_cases hpa : os <+: as <;> by_cases hpb : os <+: bs
  · rw [if_pos hpa, if_pos hpb] at h
    obtain ⟨ta, rfl⟩ := hpa
    obtain ⟨tb, rfl⟩ := hpb
    rw [List.drop_left, List.drop_left] at h
    rw [List.append_cancel_left h]
  · rw [if_pos hpa, if_neg hpb] at h; exact absurd ⟨_, h⟩ hb
  · rw [if_neg hpa, if_pos hpb] at h; exact absurd ⟨_, h.symm⟩ ha
  · rwa [if_neg hpa, if_neg hpb] at h

theorem mvK_concat {os ns pre : List Bytes} {c : Bytes} (hne : pre ++ [c] ≠ os) :
    mvK os ns (pre ++ [c]) = mvK os ns pre ++ [c] := by
  unfold mvK
  by_cases hp : os <+: pre
  · rw [if_pos hp, if_pos (hp.trans (List.prefix_append _ _))]
    obtain ⟨t, rfl⟩ := hp
    rw [List.append_assoc, List.drop_left, List.drop_left, List.append_assoc]
  · rw [if_neg hp, if_neg]
    rw [List.prefix_concat_iff]
    rintro (e | e)
    · exact hne e.symm
    · exact hp e

theorem mv_key (os ns : List Bytes) (hos : ∀ c ∈ os, CleanName c) (hone : os ≠ []) (hnne : ns ≠ [])
    (e : Bytes × Node) (ks : List Bytes) (hks : ∀ c ∈ ks, CleanName c) (he : e.1 = absPath ks) :
    (mv (absPath os) (absPath ns) e).1 = absPath (mvK os ns ks) := by
  have hinj : absPath ks = absPath os → ks = os := absPath_inj _ _ hks hos
  by_cases hp : os <+: ks
  · obtain ⟨t, rfl⟩ := hp
    rw [mvK_below]
    cases t with
    | nil => simp [mv, he]
    | cons x xs =>
      have hne : (absPath (os ++ x :: xs) == absPath os) = false := by
        simpa using fun e => by simpa using hinj e
      have hu : under (absPath os) (absPath (os ++ x :: xs)) = true :=
        (under_absPath os _ hos hks).mpr (List.prefix_append _ _)
      simp only [mv, he, hne, hu, Bool.false_eq_true, if_false, if_true]
      rw [absPath_append os (x :: xs) hone (by simp), List.drop_left,
        absPath_append ns (x :: xs) hnne (by simp)]
  · have hne : (absPath ks == absPath os) = false := by
      simpa using fun e => hp (hinj e ▸ List.prefix_refl _)
    simp [mv, mvK, he, hne, hp, under_absPath_false hos hks hp]

/-- **rename**: of something other than "/" to a clean absolute path other than "/" -/
theorem rename_wf {fs fs' : Tree} (h : TreeWF fs) (old new : Bytes) (ho : old ≠ [47]) (hn : new ≠ [47])
    (heq : old ≠ new) (hnc : CleanAbs new) (hr : rename fs old new = .ok fs') : TreeWF fs' := by
  obtain ⟨hex, hfs, hinv, hpar⟩ := rename_ok fs fs' old new hr
  obtain ⟨os, hos, rfl⟩ := cleanAbs_comps old (key_clean h old ((present_iff fs old).mp hex))
  obtain ⟨ns, hns, rfl⟩ := cleanAbs_comps new hnc
  have hone : os ≠ [] := by intro e; rw [e] at ho; exact ho rfl
  have hnne : ns ≠ [] := by intro e; rw [e] at hn; exact hn rfl
  have hkey := mv_key os ns hos hone hnne
  have hkeys : ∀ t : Tree, keys (t.map (mv (absPath os) (absPath ns)))
      = t.map (fun e => (mv (absPath os) (absPath ns) e).1) := fun t => List.map_map
  rw [if_neg (by simpa using heq)] at hfs
  have hwf1 : TreeWF (removeAll fs (absPath ns)) := removeAll_wf h _
  have hcomps : ∀ e ∈ removeAll fs (absPath ns),
      ∃ ks, (∀ c ∈ ks, CleanName c) ∧ e.1 = absPath ks ∧ ¬ ns <+: ks := by
    intro e he
    obtain ⟨ks, hks, hek⟩ := cleanAbs_comps e.1 (hwf1.2.1 e he)
    refine ⟨ks, hks, hek, fun hp => ?_⟩
    have := (List.mem_filter.mp he).2
    rw [hek, (under_absPath ns ks hns hks).mpr hp] at this
    cases this
  have hnp : ¬ os <+: ns := fun hp => hinv ⟨(under_absPath os ns hos hns).mpr hp, heq⟩
  obtain ⟨pn, cn, hpn, hcn, hnk, hnd⟩ := parent_shape (absPath ns) hnc hn
  have hnse : ns = pn ++ [cn] :=
    absPath_inj _ _ hns (List.forall_mem_append.mpr ⟨hpn, List.forall_mem_singleton.mpr hcn⟩) hnk
  have hpar1 : ∃ e0 ∈ removeAll fs (absPath ns), e0.1 = absPath pn := by
    obtain ⟨e0, he0, e0k⟩ := List.mem_map.mp (isDir_key fs _ hpar)
    refine ⟨e0, List.mem_filter.mpr ⟨he0, ?_⟩, e0k.trans hnd⟩
    rw [e0k, hnd, under_absPath_false hns hpn (fun hp => by
      have := hp.length_le; rw [hnse, List.length_append, List.length_singleton] at this; omega)]
    rfl
  generalize removeAll fs (absPath ns) = fs1 at hfs hwf1 hcomps hpar1
  rw [hfs, treeWF_iff_keys, hkeys]
  refine ⟨?_, ?_, ?_⟩
  · have hp1 : fs1.Pairwise (fun a b => a.1 ≠ b.1) := List.pairwise_map.mp hwf1.1
    refine List.pairwise_map.mpr (List.Pairwise.imp_of_mem ?_ hp1)
    intro a b ha hb hab e
    obtain ⟨as, has, hae, hna⟩ := hcomps a ha
    obtain ⟨bs, hbs, hbe, hnb⟩ := hcomps b hb
    rw [hkey a as has hae, hkey b bs hbs hbe] at e
    rw [hae, hbe, mvK_inj hna hnb (absPath_inj _ _ (mvK_clean hns has) (mvK_clean hns hbs) e)] at hab
    exact hab rfl
  · intro k hk
    obtain ⟨e, he, rfl⟩ := List.mem_map.mp hk
    obtain ⟨ks, hks, hek, _⟩ := hcomps e he
    rw [hkey e ks hks hek]
    exact cleanAbs_absPath _ (mvK_clean hns hks)
  · intro k hk hne
    obtain ⟨e, he, rfl⟩ := List.mem_map.mp hk
    obtain ⟨ks, hks, hek, _⟩ := hcomps e he
    rw [hkey e ks hks hek] at hne ⊢
    rcases List.eq_nil_or_concat ks with rfl | ⟨pre, c, rfl⟩
    · rw [mvK, if_neg (by simpa using hone)] at hne
      exact absurd rfl hne
    · rw [List.concat_eq_append] at hks hek hne ⊢
      have hpre : ∀ x ∈ pre, CleanName x := (List.forall_mem_append.mp hks).1
      have hc : CleanName c := hks c (by simp)
      by_cases hko : pre ++ [c] = os
      · obtain ⟨e0, he0, e0k⟩ := hpar1
        refine List.mem_map.mpr ⟨e0, he0, ?_⟩
        have hkp : ¬ os <+: pn := fun hp => hnp (hnse ▸ hp.trans (List.prefix_append _ _))
        rw [hkey e0 pn hpn e0k, mvK, if_neg hkp, hko, mvK_root, hnd]
      · have hk1 : e.1 ≠ [47] := hek ▸ absPath_ne_root _ hks (by simp)
        have hp := hwf1.2.2 e he hk1
        rw [hek, pathDir_snoc' pre c hpre hc] at hp
        obtain ⟨e0, he0, e0k⟩ := List.mem_map.mp hp
        refine List.mem_map.mpr ⟨e0, he0, ?_⟩
        rw [hkey e0 pre hpre e0k, mvK_concat hko, pathDir_snoc' _ c (mvK_clean hns hpre) hc]

/-- **rename**, no side condition on "/": moving "/" is refused or the identity, moving onto
    "/" is refused or empties the tree -/
theorem rename_wf' {fs fs' : Tree} (h : TreeWF fs) (old new : Bytes) (hnc : CleanAbs new)
    (hr : rename fs old new = .ok fs') : TreeWF fs' := by
  obtain ⟨_, hfs, hinv, _⟩ := rename_ok fs fs' _ _ hr
  by_cases heq : old = new
  · -- renaming something onto itself changes nothing
    subst heq
    rw [if_pos (beq_self_eq_true old), List.map_congr_left (fun e _ => mv_self old e), List.map_id'] at hfs
    exact hfs ▸ h
  by_cases ho : old = [47]
  · subst ho
    exact absurd ⟨under_root_abs new hnc.2, heq⟩ hinv
  by_cases hn : new = [47]
  · subst hn
    have : removeAll fs [47] = [] := by
      unfold removeAll
      rw [List.filter_eq_nil_iff]
      intro e he
      simp [under_root_abs e.1 (h.2.1 e he).2]
    rw [if_neg (by simpa using heq), this] at hfs
    rw [hfs]
    exact treeWF_nil
  · exact rename_wf h old new ho hn heq hnc hr

/-! ### a directory listing has no name twice -/

theorem pathDir_root : pathDir [47] = [47] := by decide

/-- **children_nodup** -/
theorem children_nodup {fs : Tree} (h : TreeWF fs) (d : Bytes) : (Fs.children fs d).Nodup := by
  unfold Fs.children
  have hp : fs.Pairwise (fun a b => a.1 ≠ b.1) := by
    have := h.1
    unfold List.Nodup keys at this
    rwa [List.pairwise_map] at this
  unfold List.Nodup
  rw [List.pairwise_map]
  refine List.Pairwise.imp_of_mem ?_ (List.Pairwise.filter _ hp)
  intro a b ha hb hab e
  obtain ⟨ham, hap⟩ := List.mem_filter.mp ha
  obtain ⟨hbm, hbp⟩ := List.mem_filter.mp hb
  simp only [Bool.and_eq_true, bne_iff_ne, ne_eq, beq_iff_eq] at hap hbp
  -- an entry of the listing is not "/", whose parent is itself
  have shape : ∀ x : Bytes × Node, x ∈ fs → x.1 ≠ d → pathDir x.1 = d →
      ∃ pre c, (∀ y ∈ pre, CleanName y) ∧ CleanName c ∧ x.1 = absPath (pre ++ [c]) ∧ d = absPath pre := by
    intro x hx hne hdir
    have hroot : x.1 ≠ [47] := fun e => hne (by rw [← hdir, e, pathDir_root])
    obtain ⟨pre, c, hpre, hc, hk, hd⟩ := parent_shape x.1 (h.2.1 x hx) hroot
    exact ⟨pre, c, hpre, hc, hk, hdir ▸ hd⟩
  obtain ⟨pa, ca, hpa, hca, hae, hda⟩ := shape a ham hap.1.1 hap.2
  obtain ⟨pb, cb, hpb, hcb, hbe, hdb⟩ := shape b hbm hbp.1.1 hbp.2
  rw [hae, hbe, pathBase_snoc pa ca hca, pathBase_snoc pb cb hcb] at e
  have : pa = pb := absPath_inj pa pb hpa hpb (hda.symm.trans hdb)
  apply hab
  rw [hae, hbe, this, e]

end Lc.TreeWF
