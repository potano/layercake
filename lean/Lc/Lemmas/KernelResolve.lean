/-
  Path resolution of the kernel mount-table model (`Kernel.resolve`, `Kernel.mountedAt`).
  * `pickBy`: both lookups choose by a fold that keeps the best entry so far (`findContaining`
    the longest mountpoint, `stepFrom` the shortest), the later of two equals; what such a fold
    returns is proved once and read off for each;
  * `pathUnder_iff_append`: the component-wise prefix order as "continues, at a component
    boundary", from which nesting, transitivity and the length facts follow;
  * basic facts: the resolved mount is an entry of the table and contains the path;
  * `Tree`: the tree discipline of a table (unique ids, parents listed before their children,
    a child at/below its parent's mountpoint); `NoHidden`: moreover no two entries hanging
    below the same mount (or two roots) have nested mountpoints — nothing is covered;
  * `resolve_eq_findContaining`, `mountedAt_eq_topmostAt`: on a `NoHidden` table the lookup is
    the flat reading of the table (longest mountpoint containing the path, last among equals;
    last entry with this mountpoint); `KernelUmount.kumount_eq_flat`, `addMount_eq_flat` read
    `kumount` and `addMount` off it;
  * `walk_fuel`: on a `Tree` table more fuel than `mnts.length` changes nothing;
  * at the end, in `namespace Lc.TreeUmount` (Lemmas/KernelUmount uses them and does not import
    Lemmas/TreeUmount): `TreeS`, `Blocks`, `noHidden_iff`: `NoHidden` is the strict tree
    discipline plus "no entry blocks another".
  `Linked` is the fourth spelling of "each entry hangs below the one before": `TreeUmount.Chain`
  (over a kernel table, as a relation between its two ends), `TreeOrder.ChainV` (the same over
  the parsed `MountType` entries) and `ForestInv.Chain` (layers and their bases) are the others;
  they differ in the carrier and in whether the list or the end points are kept.
-/
import Lc.Model.Kernel
import Lc.Lemmas.Prefix

namespace Lc.KernelResolve
open Lc Lc.Kernel

/-- the fold both lookups are written with: an element replaces the best so far when it is
    `R`-related to it, so among equals the later one wins -/
def pickBy {α} (R : α → α → Prop) [DecidableRel R] (best : Option α) (l : List α) : Option α :=
  l.foldl (fun best x =>
    match best with
    | none => some x
    | some b => if R x b then some x else some b) best

section pickBy
variable {α : Type} {R : α → α → Prop} [DecidableRel R]

theorem pickBy_mem : ∀ (l : List α) (best : Option α) (r : α),
    pickBy R best l = some r → r ∈ l ∨ best = some r
  | [], _, _, h => .inr h
  | x :: xs, best, r, h => by
    rcases pickBy_mem xs _ r h with h1 | h1
    · exact .inl (List.mem_cons_of_mem _ h1)
    · cases best with
      | none => cases h1; exact .inl List.mem_cons_self
      | some b =>
        simp only at h1
        split at h1
        · cases h1; exact .inl List.mem_cons_self
        · exact .inr h1

theorem pickBy_eq_none : ∀ {l : List α} {best : Option α}, pickBy R best l = none → best = none ∧ l = []
  | [], _, h => ⟨h, rfl⟩
  | x :: xs, best, h => by
    have h1 := (pickBy_eq_none (l := xs) h).1
    cases best with
    | none => cases h1
    | some b =>
      simp only at h1
      split at h1
      · cases h1
      · cases h1

theorem foldl_eq_pickBy {f : Option α → α → Option α} (hf : ∀ best x, f best x = pickBy R best [x])
    (l : List α) (best : Option α) : l.foldl f best = pickBy R best l := by
  rw [show f = fun best x => pickBy R best [x] from funext fun best => funext fun x => hf best x]
  rfl

theorem pickBy_dominant (a : α) : ∀ (l : List α) (best : Option α),
    (∀ k ∈ l, k = a ∨ (R a k ∧ ¬ R k a)) → (∀ b, best = some b → b = a ∨ (R a b ∧ ¬ R b a)) →
    (a ∈ l ∨ best = some a) → pickBy R best l = some a
  | [], _, _, _, hm => by
    rcases hm with h | h
    · cases h
    · exact h
  | x :: xs, best, hall, hbest, hm => by
    have hx := hall x List.mem_cons_self
    apply pickBy_dominant a xs _ (fun k hk => hall k (List.mem_cons_of_mem _ hk))
    · intro b hb
      cases best with
      | none => cases hb; exact hx
      | some b0 =>
        simp only at hb
        split at hb
        · cases hb; exact hx
        · cases hb; exact hbest _ rfl
    · rcases hm with h | h
      · rcases List.mem_cons.mp h with h | h
        · right
          subst h
          cases best with
          | none => rfl
          | some b =>
            rcases hbest b rfl with hb | hb
            · subst hb; simp
            · simp [hb.1]
        · exact .inl h
      · right
        subst h
        rcases hx with hx | hx
        · subst hx; simp
        · simp [hx.2]

theorem pickBy_last : ∀ (l : List α) (b : α), (b :: l).Pairwise (fun x y => R y x) →
    pickBy R (some b) l = (b :: l).getLast?
  | [], _, _ => rfl
  | x :: xs, b, h => by
    have hx : R x b := (List.pairwise_cons.mp h).1 x List.mem_cons_self
    show pickBy R (if R x b then some x else some b) xs = _
    rw [if_pos hx, List.getLast?_cons_cons]
    exact pickBy_last xs x (List.pairwise_cons.mp h).2

end pickBy

/-! ### `findContaining` -/

def onPath (mnts : List KMnt) (p : Bytes) : List KMnt := mnts.filter fun m => pathUnder m.mp p

/-- the fold of `findContaining`, from an arbitrary start -/
def fcFold (path : Bytes) (best : Option KMnt) (l : List KMnt) : Option KMnt :=
  l.foldl (fun best m =>
    if pathUnder m.mp path then
      match best with
      | none => some m
      | some b => if b.mp.length ≤ m.mp.length then some m else some b
    else best) best

/-- among the entries that contain the path `findContaining` picks one with a longest mountpoint,
    the last of these -/
theorem fcFold_eq (p : Bytes) : ∀ (l : List KMnt) (best : Option KMnt),
    fcFold p best l = pickBy (fun m b => b.mp.length ≤ m.mp.length) best (onPath l p)
  | [], _ => rfl
  | x :: xs, best => by
    have ih := fcFold_eq p xs
    unfold onPath fcFold at ih ⊢
    rw [List.foldl_cons, List.filter_cons]
    by_cases hx : pathUnder x.mp p = true
    · rw [if_pos hx, if_pos hx, ih]
      cases best with
      | none => rfl
      | some b => rfl
    · rw [if_neg hx, if_neg hx]
      exact ih best

theorem findContaining_eq (mnts : List KMnt) (path : Bytes) :
    findContaining mnts path = pickBy (fun m b => b.mp.length ≤ m.mp.length) none (onPath mnts path) :=
  fcFold_eq path mnts none

theorem findContaining_spec (mnts : List KMnt) (path : Bytes) (p : KMnt)
    (h : findContaining mnts path = some p) : p ∈ mnts ∧ pathUnder p.mp path = true := by
  rw [findContaining_eq] at h
  rcases pickBy_mem _ _ _ h with h | h
  · exact List.mem_filter.mp h
  · cases h

theorem fcFold_none (path : Bytes) : ∀ (l : List KMnt), (∀ x ∈ l, pathUnder x.mp path = false) →
    ∀ best, fcFold path best l = best := by
  intro l h best
  rw [fcFold_eq, onPath, List.filter_eq_nil_iff.mpr fun x hx => by rw [h x hx]; exact Bool.false_ne_true]
  rfl

theorem findContaining_ne_none {mnts : List KMnt} {p : Bytes} {x : KMnt} (hx : x ∈ mnts)
    (hp : pathUnder x.mp p = true) : findContaining mnts p ≠ none := by
  rw [findContaining_eq]
  exact fun h => List.ne_nil_of_mem (List.mem_filter.mpr ⟨hx, hp⟩) (pickBy_eq_none h).2

/-! ### the walk stays in the table and on the way to the path -/

def kids (mnts : List KMnt) (c : KMnt) : List KMnt := mnts.filter fun k => k.parent == c.id && k.id != c.id

theorem mem_kids {mnts : List KMnt} {c k : KMnt} : k ∈ kids mnts c ↔ k ∈ mnts ∧ k.parent = c.id ∧ k.id ≠ c.id := by
  simp [kids]

/-- a step of the lookup: the last child stacked on `c`'s own mountpoint, or else the child on the
    way to `p` with the shortest mountpoint, the last of these -/
theorem stepFrom_eq (mnts : List KMnt) (c : KMnt) (p : Bytes) :
    stepFrom mnts c p = (((kids mnts c).filter (·.mp == c.mp)).getLast?).or
      (pickBy (fun k b => k.mp.length ≤ b.mp.length) none
        ((kids mnts c).filter fun k => pathUnder c.mp k.mp && pathUnder k.mp p)) := by
  unfold stepFrom kids
  simp only
  cases ((mnts.filter fun k => k.parent == c.id && k.id != c.id).filter (·.mp == c.mp)).getLast? with
  | some k => rfl
  | none =>
    show List.foldl _ none _ = pickBy _ none _
    apply foldl_eq_pickBy
    intro best k
    cases best with
    | none => rfl
    | some b => rfl

theorem stepFrom_spec {mnts : List KMnt} {c k : KMnt} {p : Bytes} (h : stepFrom mnts c p = some k) :
    k ∈ mnts ∧ k.parent = c.id ∧ k.id ≠ c.id ∧
      ((k.mp = c.mp) ∨ (pathUnder c.mp k.mp = true ∧ pathUnder k.mp p = true)) := by
  rw [stepFrom_eq, Option.or_eq_some_iff] at h
  rcases h with h | ⟨_, h⟩
  · obtain ⟨hk, hmp⟩ := List.mem_filter.mp (List.mem_of_getLast? h)
    exact ⟨(mem_kids.mp hk).1, (mem_kids.mp hk).2.1, (mem_kids.mp hk).2.2, .inl (beq_iff_eq.mp hmp)⟩
  · rcases pickBy_mem _ _ _ h with hm | hm
    · obtain ⟨hk, hu⟩ := List.mem_filter.mp hm
      exact ⟨(mem_kids.mp hk).1, (mem_kids.mp hk).2.1, (mem_kids.mp hk).2.2, .inr (Bool.and_eq_true_iff.mp hu)⟩
    · cases hm

/-- `pathUnder` as an equation: `q` is `p`, or `p` with a slash and more -/
def sl (p : Bytes) : Bytes := if p == [47] then [47] else p ++ [47]

theorem pathUnder_iff (p q : Bytes) : pathUnder p q = true ↔ q = p ∨ ∃ t, q = sl p ++ t := by
  unfold pathUnder sl
  by_cases hp : p = [47]
  · subst hp
    simp only [beq_self_eq_true, if_true, Bool.or_eq_true, beq_iff_eq, hasPrefix_iff]
  · have : (p == [47]) = false := by simpa using hp
    simp only [this, Bool.false_eq_true, if_false, Bool.or_eq_true, beq_iff_eq, hasPrefix_iff]

theorem pathUnder_refl (p : Bytes) : pathUnder p p = true := (pathUnder_iff p p).mpr (.inl rfl)

theorem sl_ne_nil (p : Bytes) : sl p ≠ [] := by
  unfold sl; split <;> simp

theorem pathUnder_iff_append (p q : Bytes) :
    pathUnder p q = true ↔ ∃ t, q = p ++ t ∧ (p = [47] ∨ t = [] ∨ t.head? = some 47) := by
  rw [pathUnder_iff]
  by_cases hp : p = [47]
  · subst hp
    constructor
    · rintro (h | ⟨t, h⟩)
      · exact ⟨[], by rw [h]; rfl, .inl rfl⟩
      · exact ⟨t, h, .inl rfl⟩
    · rintro ⟨t, h, _⟩
      exact .inr ⟨t, h⟩
  · have hs : sl p = p ++ [47] := by
      unfold sl
      rw [if_neg (by simpa using hp)]
    rw [hs]
    constructor
    · rintro (h | ⟨t, h⟩)
      · exact ⟨[], by rw [h, List.append_nil], .inr (.inl rfl)⟩
      · exact ⟨47 :: t, by rw [h, List.append_assoc]; rfl, .inr (.inr rfl)⟩
    · rintro ⟨t, h, hb | hb | hb⟩
      · exact absurd hb hp
      · left; rw [h, hb, List.append_nil]
      · cases t with
        | nil => cases hb
        | cons c t' =>
          cases hb
          exact .inr ⟨t', by rw [h, List.append_assoc]; rfl⟩

theorem boundary_left {p t u t' : Bytes} (h : p = [47] ∨ t = [] ∨ t.head? = some 47) (ht : t = u ++ t') :
    p = [47] ∨ u = [] ∨ u.head? = some 47 := by
  cases u with
  | nil => exact .inr (.inl rfl)
  | cons c u' =>
    subst ht
    rcases h with h | h | h
    · exact .inl h
    · cases h
    · exact .inr (.inr h)

/-- two mountpoints that contain one path are nested -/
theorem pathUnder_comparable {a b x : Bytes} (ha : pathUnder a x = true) (hb : pathUnder b x = true) :
    pathUnder a b = true ∨ pathUnder b a = true := by
  obtain ⟨t1, h1, c1⟩ := (pathUnder_iff_append a x).mp ha
  obtain ⟨t2, h2, c2⟩ := (pathUnder_iff_append b x).mp hb
  rw [h1] at h2
  rcases List.append_eq_append_iff.mp h2 with ⟨u, hu, ht⟩ | ⟨u, hu, ht⟩
  · exact .inl ((pathUnder_iff_append a b).mpr ⟨u, hu, boundary_left c1 ht⟩)
  · exact .inr ((pathUnder_iff_append b a).mpr ⟨u, hu, boundary_left c2 ht⟩)

theorem pathUnder_trans {a b c : Bytes} (h1 : pathUnder a b = true) (h2 : pathUnder b c = true) :
    pathUnder a c = true := by
  obtain ⟨t1, rfl, c1⟩ := (pathUnder_iff_append a b).mp h1
  obtain ⟨t2, rfl, c2⟩ := (pathUnder_iff_append _ c).mp h2
  refine (pathUnder_iff_append a _).mpr ⟨t1 ++ t2, List.append_assoc _ _ _, ?_⟩
  cases t1 with
  | nil =>
    rw [List.append_nil] at c2
    exact c2
  | cons x t1' =>
    rcases c1 with c1 | c1 | c1
    · exact .inl c1
    · cases c1
    · exact .inr (.inr c1)

theorem pathUnder_length {a b : Bytes} (h : pathUnder a b = true) : a.length ≤ b.length := by
  obtain ⟨t, rfl, _⟩ := (pathUnder_iff_append a b).mp h
  rw [List.length_append]
  exact Nat.le_add_right _ _

theorem pathUnder_eq_of_length {a b : Bytes} (h : pathUnder a b = true) (hl : b.length ≤ a.length) : a = b := by
  obtain ⟨t, rfl, _⟩ := (pathUnder_iff_append a b).mp h
  rw [List.length_append] at hl
  rw [List.eq_nil_of_length_eq_zero (show t.length = 0 by omega), List.append_nil]

theorem pathUnder_antisymm {a b : Bytes} (h1 : pathUnder a b = true) (h2 : pathUnder b a = true) : a = b :=
  pathUnder_eq_of_length h1 (pathUnder_length h2)

theorem walk_spec (mnts : List KMnt) (p : Bytes) : ∀ (fuel : Nat) (c : KMnt), c ∈ mnts →
    pathUnder c.mp p = true → walk mnts p fuel c ∈ mnts ∧ pathUnder (walk mnts p fuel c).mp p = true := by
  intro fuel
  induction fuel with
  | zero => intro c hc hp; exact ⟨hc, hp⟩
  | succ f ih =>
    intro c hc hp
    unfold walk
    cases hs : stepFrom mnts c p with
    | none => exact ⟨hc, hp⟩
    | some k =>
      obtain ⟨hk, _, _, hk2⟩ := stepFrom_spec hs
      refine ih k hk ?_
      rcases hk2 with h | ⟨_, h⟩
      · rw [h]; exact hp
      · exact h

theorem startOf_spec {mnts : List KMnt} {p : Bytes} {r : KMnt} (h : startOf mnts p = some r) :
    r ∈ mnts ∧ pathUnder r.mp p = true ∧ isRootIn mnts r = true := by
  unfold startOf at h
  obtain ⟨h1, h2⟩ := findContaining_spec _ _ _ h
  exact ⟨(List.mem_filter.mp h1).1, h2, (List.mem_filter.mp h1).2⟩

/-- the mount a lookup ends in is an entry of the table and contains the path -/
theorem resolve_spec {mnts : List KMnt} {p : Bytes} {m : KMnt} (h : resolve mnts p = some m) :
    m ∈ mnts ∧ pathUnder m.mp p = true := by
  unfold resolve at h
  split at h
  · cases h
  · rename_i r hr
    cases h
    obtain ⟨h1, h2, _⟩ := startOf_spec hr
    exact walk_spec mnts p _ r h1 h2

theorem resolve_mem {mnts : List KMnt} {p : Bytes} {m : KMnt} (h : resolve mnts p = some m) : m ∈ mnts :=
  (resolve_spec h).1

theorem mountedAt_spec {mnts : List KMnt} {p : Bytes} {m : KMnt} (h : mountedAt mnts p = some m) :
    resolve mnts p = some m ∧ m ∈ mnts ∧ m.mp = p := by
  unfold mountedAt at h
  split at h
  · rename_i m' hm'
    split at h
    · rename_i hmp
      cases h
      exact ⟨hm', resolve_mem hm', by simpa using hmp⟩
    · cases h
  · cases h

theorem mountedAt_none {mnts : List KMnt} {p : Bytes} (h : mountedAt mnts p = none) :
    resolve mnts p = none ∨ ∃ m, resolve mnts p = some m ∧ m.mp ≠ p := by
  unfold mountedAt at h
  split at h
  · rename_i m' hm'
    split at h
    · cases h
    · rename_i hmp
      exact .inr ⟨m', hm', by simpa using hmp⟩
  · rename_i hn; exact .inl hn

/-! ### tree discipline; no hidden mounts -/

/-- unique ids; an entry's parent is not listed after it and is not the entry itself; an
    entry lies at or below its parent's mountpoint -/
structure Tree (mnts : List KMnt) : Prop where
  ids : (mnts.map (·.id)).Nodup
  parentFirst : mnts.Pairwise (fun a b => a.parent ≠ b.id)
  noSelf : ∀ c ∈ mnts, c.parent ≠ c.id
  under : ∀ c ∈ mnts, ∀ m ∈ mnts, c.parent = m.id → pathUnder m.mp c.mp = true

/-- hanging below the same mount, or both roots -/
def Siblings (mnts : List KMnt) (a b : KMnt) : Prop :=
  a.parent = b.parent ∨ (isRootIn mnts a = true ∧ isRootIn mnts b = true)

instance (mnts : List KMnt) (a b : KMnt) : Decidable (Siblings mnts a b) := by
  unfold Siblings; exact inferInstance

theorem Siblings.symm {mnts : List KMnt} {a b : KMnt} (h : Siblings mnts a b) : Siblings mnts b a :=
  Or.imp Eq.symm And.symm h

/-- **nothing is covered**: the tree discipline, and the mountpoints of two siblings are never
    nested (in particular nothing is mounted on a mountpoint below which something else of the
    same parent is mounted, and a mount stacked on another one's root is its only child) -/
structure NoHidden (mnts : List KMnt) : Prop extends Tree mnts where
  sib : ∀ a ∈ mnts, ∀ b ∈ mnts, a ≠ b → Siblings mnts a b → pathUnder a.mp b.mp = false

instance (mnts : List KMnt) : Decidable (Tree mnts) :=
  decidable_of_iff ((mnts.map (·.id)).Nodup ∧ mnts.Pairwise (fun a b => a.parent ≠ b.id) ∧
      (∀ c ∈ mnts, c.parent ≠ c.id) ∧
      ∀ c ∈ mnts, ∀ m ∈ mnts, c.parent = m.id → pathUnder m.mp c.mp = true)
    ⟨fun ⟨a, b, c, d⟩ => ⟨a, b, c, d⟩, fun h => ⟨h.ids, h.parentFirst, h.noSelf, h.under⟩⟩

instance (mnts : List KMnt) : Decidable (NoHidden mnts) :=
  decidable_of_iff (Tree mnts ∧
      ∀ a ∈ mnts, ∀ b ∈ mnts, a ≠ b → Siblings mnts a b → pathUnder a.mp b.mp = false)
    ⟨fun ⟨a, b⟩ => ⟨a, b⟩, fun h => ⟨h.toTree, h.sib⟩⟩

theorem eq_of_id_eq {l : List KMnt} (hn : (l.map (·.id)).Nodup) {x y : KMnt} (hx : x ∈ l) (hy : y ∈ l)
    (h : x.id = y.id) : x = y := by
  induction l with
  | nil => cases hx
  | cons z zs ih =>
    rw [List.map_cons, List.nodup_cons] at hn
    rcases List.mem_cons.mp hx with hx1 | hx1 <;> rcases List.mem_cons.mp hy with hy1 | hy1
    · rw [hx1, hy1]
    · subst hx1
      exact absurd (show x.id ∈ zs.map (·.id) from List.mem_map.mpr ⟨y, hy1, h.symm⟩) hn.1
    · subst hy1
      exact absurd (show y.id ∈ zs.map (·.id) from List.mem_map.mpr ⟨x, hx1, h⟩) hn.1
    · exact ih hn.2 hx1 hy1

theorem Tree.child_after {mnts : List KMnt} (ht : Tree mnts) {a b : List KMnt} {c k : KMnt}
    (he : mnts = a ++ c :: b) (hk : k ∈ mnts) (hpar : k.parent = c.id) : k ∈ b := by
  have hpf := ht.parentFirst
  rw [he, List.pairwise_append] at hpf
  have hk' := hk
  rw [he] at hk'
  rcases List.mem_append.mp hk' with h | h
  · exact absurd hpar (hpf.2.2 k h c List.mem_cons_self)
  · rcases List.mem_cons.mp h with h | h
    · subst h; exact absurd hpar (ht.noSelf k hk)
    · exact h

theorem Tree.parent_before {mnts : List KMnt} (ht : Tree mnts) {a b : List KMnt} {x q : KMnt}
    (he : mnts = a ++ x :: b) (hq : q ∈ mnts) (hpar : x.parent = q.id) : q ∈ a := by
  have hpf := ht.parentFirst
  rw [he, List.pairwise_append] at hpf
  have hq' := hq
  rw [he] at hq'
  rcases List.mem_append.mp hq' with h | h
  · exact h
  · rcases List.mem_cons.mp h with h | h
    · subst h; exact absurd hpar (ht.noSelf q hq)
    · exact absurd hpar ((List.pairwise_cons.mp hpf.2.1).1 q h)

theorem isRootIn_iff {mnts : List KMnt} {m : KMnt} :
    isRootIn mnts m = true ↔ ∀ q ∈ mnts, q.id = m.parent → q.id = m.id := by
  simp [isRootIn]

theorem isRootIn_true {mnts : List KMnt} {m : KMnt} (h : isRootIn mnts m = true) :
    ∀ q ∈ mnts, q.id = m.parent → q.id = m.id := isRootIn_iff.mp h

theorem isRootIn_false {mnts : List KMnt} {m : KMnt} (h : isRootIn mnts m = false) :
    ∃ q ∈ mnts, q.id = m.parent ∧ q.id ≠ m.id := by
  apply Classical.byContradiction
  intro hn
  rw [isRootIn_iff.mpr fun q hq he => Classical.byContradiction fun hne => hn ⟨q, hq, he, hne⟩] at h
  cases h

theorem isRootIn_snoc {T : List KMnt} {e x : KMnt} (hx : x.parent ≠ e.id) :
    isRootIn (T ++ [e]) x = isRootIn T x := by
  unfold isRootIn
  rw [List.any_append]
  have : ([e].any fun y => y.id == x.parent && y.id != x.id) = false := by
    simp only [List.any_cons, List.any_nil, Bool.or_false, Bool.and_eq_false_imp, beq_iff_eq]
    intro h; exact absurd h.symm hx
  rw [this, Bool.or_false]

/-- consecutive entries are parent and child -/
def Linked : List KMnt → Prop
  | [] => True
  | [_] => True
  | a :: b :: r => b.parent = a.id ∧ Linked (b :: r)

theorem Linked.snoc : ∀ {L : List KMnt} {x : KMnt}, Linked L →
    (∀ l, L.getLast? = some l → x.parent = l.id) → Linked (L ++ [x]) := by
  intro L
  induction L with
  | nil => intro x _ _; trivial
  | cons a r ih =>
    intro x h hl
    cases r with
    | nil => exact ⟨hl a rfl, trivial⟩
    | cons b r' =>
      obtain ⟨h1, h2⟩ := h
      refine ⟨h1, ?_⟩
      apply ih h2
      intro l hll
      apply hl
      rw [List.getLast?_cons_cons]
      exact hll

/-- in a linked list every entry but the last has its child in the list -/
theorem Linked.succ : ∀ {L : List KMnt} {q : KMnt}, Linked L → q ∈ L → L.getLast? ≠ some q →
    ∃ s ∈ L, s.parent = q.id := by
  intro L
  induction L with
  | nil => intro q _ hq; cases hq
  | cons a r ih =>
    intro q h hq hl
    cases r with
    | nil =>
      have : q = a := by simpa using hq
      subst this
      exact absurd rfl hl
    | cons b r' =>
      obtain ⟨h1, h2⟩ := h
      rcases List.mem_cons.mp hq with hq | hq
      · subst hq
        exact ⟨b, by simp, h1⟩
      · rw [List.getLast?_cons_cons] at hl
        obtain ⟨s, hs, hp⟩ := ih h2 hq hl
        exact ⟨s, List.mem_cons_of_mem _ hs, hp⟩

/-- two different siblings cannot both contain one path -/
theorem NoHidden.sib_excl {mnts : List KMnt} (h : NoHidden mnts) {a b : KMnt} {p : Bytes} (ha : a ∈ mnts)
    (hb : b ∈ mnts) (hs : Siblings mnts a b) (hpa : pathUnder a.mp p = true) (hpb : pathUnder b.mp p = true) :
    a = b := by
  by_cases hab : a = b
  · exact hab
  · exfalso
    rcases pathUnder_comparable hpa hpb with hc | hc
    · rw [h.sib a ha b hb hab hs] at hc; cases hc
    · rw [h.sib b hb a ha (fun e => hab e.symm) hs.symm] at hc; cases hc

/-- **the entries containing a path form one chain** root → child → … (each the parent of the next) -/
theorem onPath_chain {mnts : List KMnt} (h : NoHidden mnts) (p : Bytes) :
    Linked (onPath mnts p) ∧ ∀ r, (onPath mnts p).head? = some r → isRootIn mnts r = true := by
  have key : ∀ (rest pre : List KMnt), mnts = pre ++ rest →
      (Linked (onPath pre p) ∧ ∀ r, (onPath pre p).head? = some r → isRootIn mnts r = true) →
      (Linked (onPath mnts p) ∧ ∀ r, (onPath mnts p).head? = some r → isRootIn mnts r = true) := by
    intro rest
    induction rest with
    | nil => intro pre he hg; rw [he, List.append_nil]; rw [he, List.append_nil] at hg; exact hg
    | cons x rest' ih =>
      intro pre he hg
      apply ih (pre ++ [x]) (by rw [he]; simp)
      have hxm : x ∈ mnts := by rw [he]; simp
      have hpre : ∀ y ∈ pre, y ∈ mnts := fun y hy => by rw [he]; simp [hy]
      unfold onPath at hg ⊢
      rw [List.filter_append]
      by_cases hx : pathUnder x.mp p = true
      · have hfx : [x].filter (fun m => pathUnder m.mp p) = [x] := by simp [hx]
        rw [hfx]
        -- no entry of `pre` that contains `p` is a sibling of `x`: it would be `x`, but ids are unique
        have hexcl : ∀ y ∈ pre.filter (fun m => pathUnder m.mp p), ¬ Siblings mnts y x := by
          intro y hy hs
          obtain ⟨hyp, hyu⟩ := List.mem_filter.mp hy
          have e := h.sib_excl (hpre y hyp) hxm hs hyu hx
          subst e
          have hn := h.ids
          rw [he, List.map_append, List.map_cons, List.nodup_append] at hn
          exact hn.2.2 y.id (List.mem_map.mpr ⟨y, hyp, rfl⟩) y.id (by simp) rfl
        cases hr : isRootIn mnts x with
        | true =>
          -- a second root containing p is impossible: nothing of `pre` contains p
          have hnil : pre.filter (fun m => pathUnder m.mp p) = [] := by
            cases hL : pre.filter (fun m => pathUnder m.mp p) with
            | nil => rfl
            | cons r0 L' =>
              rw [hL] at hexcl hg
              exact absurd (.inr ⟨hg.2 r0 rfl, hr⟩) (hexcl r0 List.mem_cons_self)
          rw [hnil]
          refine ⟨trivial, ?_⟩
          intro r hrr
          have : r = x := by simpa using hrr.symm
          rw [this]; exact hr
        | false =>
          obtain ⟨q, hq, hqid, hqne⟩ := isRootIn_false hr
          -- the parent is listed before x
          have hqpre : q ∈ pre := h.toTree.parent_before he hq hqid.symm
          have hqp : pathUnder q.mp p = true :=
            pathUnder_trans (h.under x hxm q (hpre q hqpre) hqid.symm) hx
          have hqL : q ∈ pre.filter (fun m => pathUnder m.mp p) := List.mem_filter.mpr ⟨hqpre, hqp⟩
          have hlast : ∀ l, (pre.filter (fun m => pathUnder m.mp p)).getLast? = some l → x.parent = l.id := by
            intro l hl
            by_cases hql : (pre.filter (fun m => pathUnder m.mp p)).getLast? = some q
            · rw [hql] at hl; cases hl; exact hqid.symm
            · -- otherwise the chain goes on below `q` with a sibling of `x`
              obtain ⟨s, hs, hsp⟩ := hg.1.succ hqL hql
              exact absurd (.inl (by rw [hsp, hqid])) (hexcl s hs)
          refine ⟨hg.1.snoc hlast, ?_⟩
          intro r hrr
          cases hL : pre.filter (fun m => pathUnder m.mp p) with
          | nil => rw [hL] at hqL; cases hqL
          | cons r0 L' =>
            rw [hL] at hrr
            apply hg.2 r
            rw [hL]
            simpa using hrr
      · have hfx : [x].filter (fun m => pathUnder m.mp p) = [] := by simp [hx]
        rw [hfx, List.append_nil]
        exact hg
  exact key mnts [] rfl ⟨trivial, fun r hr => by cases hr⟩

/-- `c` has no child that contains `p` -/
def Terminal (mnts : List KMnt) (p : Bytes) (c : KMnt) : Prop :=
  ∀ k ∈ mnts, k.parent = c.id → k.id ≠ c.id → pathUnder k.mp p = false

theorem stepFrom_none {mnts : List KMnt} (ht : Tree mnts) {c : KMnt} (hc : c ∈ mnts) {p : Bytes}
    (h : stepFrom mnts c p = none) : Terminal mnts p c := by
  intro k hk hpar hne
  rw [stepFrom_eq, Option.or_eq_none_iff] at h
  have hkid : k ∈ kids mnts c := mem_kids.mpr ⟨hk, hpar, hne⟩
  cases hp : pathUnder k.mp p with
  | false => rfl
  | true =>
    -- `k` would be among the candidates of the second choice
    have hmem : k ∈ (kids mnts c).filter (fun k => pathUnder c.mp k.mp && pathUnder k.mp p) :=
      List.mem_filter.mpr ⟨hkid, by rw [ht.under k hk c hc hpar, hp]; rfl⟩
    exact absurd (pickBy_eq_none h.2).2 (List.ne_nil_of_mem hmem)

/-- the walk, given fuel for the rest of the table, ends on a mount without a child on the path -/
theorem walk_terminal {mnts : List KMnt} (ht : Tree mnts) (p : Bytes) :
    ∀ (fuel : Nat) (c : KMnt) (a b : List KMnt), mnts = a ++ c :: b → b.length ≤ fuel →
      Terminal mnts p (walk mnts p fuel c) := by
  intro fuel
  induction fuel with
  | zero =>
    intro c a b he hb k hk hpar _
    have := ht.child_after he hk hpar
    rw [List.eq_nil_of_length_eq_zero (Nat.le_zero.mp hb)] at this
    cases this
  | succ f ih =>
    intro c a b he hb
    have hc : c ∈ mnts := by rw [he]; simp
    unfold walk
    cases hs : stepFrom mnts c p with
    | none => exact stepFrom_none ht hc hs
    | some k =>
      simp only
      obtain ⟨hk, hpar, _, _⟩ := stepFrom_spec hs
      have hkb := ht.child_after he hk hpar
      obtain ⟨b1, b2, hb12⟩ := List.append_of_mem hkb
      apply ih k (a ++ c :: b1) b2
      · rw [he, hb12]; simp
      · rw [hb12] at hb
        simp at hb
        omega

/-- standing on a mount that contains the path and has no child on it, the walk stays -/
theorem walk_stay {mnts : List KMnt} {p : Bytes} : ∀ (f : Nat) (c : KMnt),
    pathUnder c.mp p = true → Terminal mnts p c → walk mnts p f c = c := by
  intro f
  induction f with
  | zero => intro c _ _; rfl
  | succ f _ =>
    intro c hcp htc
    unfold walk
    cases hs : stepFrom mnts c p with
    | none => rfl
    | some k =>
      exfalso
      obtain ⟨hk, hpar, hne, hk2⟩ := stepFrom_spec hs
      have hkp : pathUnder k.mp p = false := htc k hk hpar hne
      rcases hk2 with h | ⟨_, h⟩
      · rw [h, hcp] at hkp; cases hkp
      · rw [h] at hkp; cases hkp

theorem walk_more {mnts : List KMnt} {p : Bytes} : ∀ (f : Nat) (c : KMnt), pathUnder c.mp p = true →
    Terminal mnts p (walk mnts p f c) → ∀ e, walk mnts p (f + e) c = walk mnts p f c := by
  intro f
  induction f with
  | zero =>
    intro c hcp ht e
    rw [Nat.zero_add]
    exact walk_stay e c hcp ht
  | succ f ih =>
    intro c hcp ht e
    have : f + 1 + e = (f + e) + 1 := by omega
    rw [this]
    unfold walk at ht ⊢
    cases hs : stepFrom mnts c p with
    | none => rfl
    | some k =>
      rw [hs] at ht
      simp only at ht ⊢
      obtain ⟨_, _, _, hk2⟩ := stepFrom_spec hs
      refine ih k ?_ ht e
      rcases hk2 with h | ⟨_, h⟩
      · rw [h]; exact hcp
      · exact h

/-- **fuel**: on a tree, more fuel than the length of the table changes nothing -/
theorem walk_fuel {mnts : List KMnt} (ht : Tree mnts) (p : Bytes) (c : KMnt) (hc : c ∈ mnts)
    (hcp : pathUnder c.mp p = true) (extra : Nat) :
    walk mnts p (mnts.length + extra) c = walk mnts p mnts.length c := by
  obtain ⟨a, b, he⟩ := List.append_of_mem hc
  refine walk_more _ c hcp (walk_terminal ht p _ c a b he ?_) extra
  rw [he]; simp; omega


/-! ### the lookup is the flat reading of a table without hidden mounts -/

/-- a mount on the path without a child on the path is the last entry of the chain -/
theorem terminal_is_last {mnts : List KMnt} (h : NoHidden mnts) {p : Bytes} {r : KMnt} (hr : r ∈ mnts)
    (hrp : pathUnder r.mp p = true) (ht : Terminal mnts p r) : (onPath mnts p).getLast? = some r := by
  have hrL : r ∈ onPath mnts p := List.mem_filter.mpr ⟨hr, hrp⟩
  cases hl : (onPath mnts p).getLast? with
  | none => rw [List.getLast?_eq_none_iff.mp hl] at hrL; cases hrL
  | some l =>
    by_cases he : l = r
    · rw [he]
    · exfalso
      have hne : (onPath mnts p).getLast? ≠ some r := by rw [hl]; intro e; cases e; exact he rfl
      obtain ⟨s, hs, hsp⟩ := (onPath_chain h p).1.succ hrL hne
      obtain ⟨hsm, hspp⟩ := List.mem_filter.mp hs
      have hsne : s.id ≠ r.id := by rw [← hsp]; exact fun e => h.noSelf s hsm e.symm
      rw [ht s hsm hsp hsne] at hspp
      cases hspp

theorem linked_lengths {mnts : List KMnt} (ht : Tree mnts) : ∀ (L : List KMnt), (∀ x ∈ L, x ∈ mnts) →
    Linked L → L.Pairwise (fun x y => x.mp.length ≤ y.mp.length)
  | [], _, _ => List.Pairwise.nil
  | [_], _, _ => List.pairwise_singleton _ _
  | a :: b :: r, hsub, hl => by
    have hrest := linked_lengths ht (b :: r) (fun x hx => hsub x (List.mem_cons_of_mem _ hx)) hl.2
    have hab : a.mp.length ≤ b.mp.length :=
      pathUnder_length (ht.under b (hsub b (by simp)) a (hsub a (by simp)) hl.1)
    refine List.pairwise_cons.mpr ⟨fun y hy => ?_, hrest⟩
    rcases List.mem_cons.mp hy with hy | hy
    · rw [hy]; exact hab
    · exact Nat.le_trans hab ((List.pairwise_cons.mp hrest).1 y hy)

theorem onPath_lengths {mnts : List KMnt} (h : NoHidden mnts) (p : Bytes) :
    (onPath mnts p).Pairwise (fun x y => x.mp.length ≤ y.mp.length) :=
  linked_lengths h.toTree _ (fun _ hx => (List.mem_filter.mp hx).1) (onPath_chain h p).1

/-- `findContaining` picks the last entry of the chain -/
theorem findContaining_last {mnts : List KMnt} (h : NoHidden mnts) (p : Bytes) :
    findContaining mnts p = (onPath mnts p).getLast? := by
  rw [findContaining_eq]
  have hpw := onPath_lengths h p
  cases hL : onPath mnts p with
  | nil => rfl
  | cons m1 L =>
    rw [hL] at hpw
    exact pickBy_last L m1 hpw

/-- **`resolve_eq_findContaining`**: on a table without hidden mounts the lookup ends in the
    entry with the longest mountpoint containing the path, the last among equals -/
theorem resolve_eq_findContaining {mnts : List KMnt} (h : NoHidden mnts) (p : Bytes) :
    resolve mnts p = findContaining mnts p := by
  rw [findContaining_last h p]
  unfold resolve
  cases hs : startOf mnts p with
  | none =>
    -- no root contains p: nothing contains p
    simp only
    cases hL : onPath mnts p with
    | nil => rfl
    | cons m1 L =>
      exfalso
      have hroot := (onPath_chain h p).2 m1 (by rw [hL]; rfl)
      obtain ⟨hm1, hm1p⟩ : m1 ∈ mnts ∧ pathUnder m1.mp p = true :=
        List.mem_filter.mp (show m1 ∈ onPath mnts p by rw [hL]; exact List.mem_cons_self)
      exact findContaining_ne_none (List.mem_filter.mpr ⟨hm1, hroot⟩) hm1p hs
  | some r =>
    simp only
    obtain ⟨hr, hrp, _⟩ := startOf_spec hs
    obtain ⟨hw1, hw2⟩ := walk_spec mnts p mnts.length r hr hrp
    obtain ⟨a, b, he⟩ := List.append_of_mem hr
    have hterm := walk_terminal h.toTree p mnts.length r a b he (by rw [he]; simp; omega)
    exact (terminal_is_last h hw1 hw2 hterm).symm

/-- **`mountedAt_eq_topmostAt`**: on a table without hidden mounts a path is a reachable
    mountpoint exactly if some entry has this mountpoint, and the lookup ends in the last such -/
theorem mountedAt_eq_topmostAt {mnts : List KMnt} (h : NoHidden mnts) (p : Bytes) :
    mountedAt mnts p = topmostAt mnts p := by
  -- an entry mounted on `p` contains `p`: the last such is to be found on the chain
  have htop : topmostAt mnts p = (onPath mnts p).reverse.find? (·.mp == p) := by
    unfold topmostAt onPath
    rw [← List.filter_reverse, List.find?_filter]
    congr 1
    funext x
    cases hx : x.mp == p with
    | false => simp
    | true => rw [beq_iff_eq.mp hx, pathUnder_refl]; rfl
  unfold mountedAt
  rw [resolve_eq_findContaining h p, findContaining_last h p, htop]
  cases hl : (onPath mnts p).getLast? with
  | none => rw [List.getLast?_eq_none_iff.mp hl]; rfl
  | some f =>
    obtain ⟨ys, hys⟩ := List.getLast?_eq_some_iff.mp hl
    rw [hys, List.reverse_append, List.reverse_singleton, List.singleton_append, List.find?_cons]
    show (if (f.mp == p) = true then some f else none) = _
    cases hfp : f.mp == p with
    | true => rfl
    | false =>
      show none = List.find? _ _
      -- the chain ends in `f`, whose mountpoint is the longest: were an earlier entry mounted on
      -- `p`, `f` would contain `p` and be as long as `p`
      refine (List.find?_eq_none.mpr fun x hx hxp => ?_).symm
      have hpw := onPath_lengths h p
      rw [hys] at hpw
      have hle := (List.pairwise_append.mp hpw).2.2 x (List.mem_reverse.mp hx) f (List.mem_singleton_self f)
      have hf : pathUnder f.mp p = true :=
        (List.mem_filter.mp (show f ∈ onPath mnts p by rw [hys]; simp)).2
      rw [beq_iff_eq.mp hxp] at hle
      rw [pathUnder_eq_of_length hf hle, beq_self_eq_true] at hfp
      cases hfp

/-! ### more about the result of a lookup -/

/-- no lookup result: no root of the table contains the path -/
theorem resolve_none {mnts : List KMnt} {p : Bytes} (h : resolve mnts p = none) :
    ∀ r ∈ mnts, isRootIn mnts r = true → pathUnder r.mp p = false := by
  unfold resolve at h
  split at h
  · rename_i hs
    intro r hr hroot
    cases hp : pathUnder r.mp p with
    | false => rfl
    | true =>
      exfalso
      exact findContaining_ne_none (List.mem_filter.mpr ⟨hr, hroot⟩) hp hs
  · cases h

/-- on a tree the mount a lookup ends in has no child on the path -/
theorem resolve_terminal {mnts : List KMnt} (ht : Tree mnts) {p : Bytes} {m : KMnt}
    (h : resolve mnts p = some m) : Terminal mnts p m := by
  unfold resolve at h
  split at h
  · cases h
  · rename_i r hr
    cases h
    obtain ⟨hrm, _, _⟩ := startOf_spec hr
    obtain ⟨a, b, he⟩ := List.append_of_mem hrm
    exact walk_terminal ht p mnts.length r a b he (by rw [he]; simp; omega)

/-! ### table order and nesting on a table without hidden mounts -/

/-- an entry listed earlier than one whose mountpoint contains its own has the same mountpoint
    (it is the lower entry of a stack): a later mount never lies above an earlier one -/
theorem earlier_below_eq {mnts : List KMnt} (h : NoHidden mnts) {a b : List KMnt} {d c : KMnt}
    (he : mnts = a ++ d :: b) (hc : c ∈ b) (hu : pathUnder c.mp d.mp = true) : d.mp = c.mp := by
  have hmono := onPath_lengths h d.mp
  unfold onPath at hmono
  rw [he, List.filter_append, List.filter_cons, if_pos (pathUnder_refl d.mp)] at hmono
  have hcf : c ∈ b.filter (fun m => pathUnder m.mp d.mp) := List.mem_filter.mpr ⟨hc, hu⟩
  have h2 := (List.pairwise_append.mp hmono).2.1
  have hle := (List.pairwise_cons.mp h2).1 c hcf
  exact (pathUnder_eq_of_length hu hle).symm

end Lc.KernelResolve

namespace Lc.TreeUmount
open Lc Lc.Kernel Lc.KernelResolve

structure TreeS (mnts : List KMnt) : Prop extends Tree mnts where
  noTwins : ∀ a ∈ mnts, ∀ b ∈ mnts, a ≠ b → a.parent = b.parent → a.mp ≠ b.mp
  rootsApart : ∀ a ∈ mnts, ∀ b ∈ mnts, a ≠ b → isRootIn mnts a = true → isRootIn mnts b = true →
    pathUnder a.mp b.mp = false

instance (mnts : List KMnt) : Decidable (TreeS mnts) :=
  decidable_of_iff (Tree mnts ∧
      (∀ a ∈ mnts, ∀ b ∈ mnts, a ≠ b → a.parent = b.parent → a.mp ≠ b.mp) ∧
      ∀ a ∈ mnts, ∀ b ∈ mnts, a ≠ b → isRootIn mnts a = true → isRootIn mnts b = true →
        pathUnder a.mp b.mp = false)
    ⟨fun ⟨a, b, c⟩ => ⟨a, b, c⟩, fun h => ⟨h.toTree, h.noTwins, h.rootsApart⟩⟩

/-- a lookup coming from their common parent enters `k`, not `a` -/
def Blocks (k a : KMnt) : Prop := k ≠ a ∧ k.parent = a.parent ∧ pathUnder k.mp a.mp = true

theorem noHidden_iff {mnts : List KMnt} :
    NoHidden mnts ↔ TreeS mnts ∧ ∀ k ∈ mnts, ∀ a ∈ mnts, ¬ Blocks k a := by
  constructor
  · intro h
    refine ⟨⟨h.toTree, fun a ha b hb hne hp hmp => ?_,
      fun a ha b hb hne ra rb => h.sib a ha b hb hne (.inr ⟨ra, rb⟩)⟩, ?_⟩
    · have := h.sib a ha b hb hne (.inl hp)
      rw [hmp, pathUnder_refl] at this
      cases this
    · rintro k hk a ha ⟨hne, hp, hu⟩
      rw [h.sib k hk a ha hne (.inl hp)] at hu
      cases hu
  · rintro ⟨ht, hb⟩
    refine ⟨ht.toTree, fun a ha b hb' hne hs => ?_⟩
    rcases hs with hp | ⟨ra, rb⟩
    · cases hu : pathUnder a.mp b.mp with
      | false => rfl
      | true => exact absurd ⟨hne, hp, hu⟩ (hb a ha b hb')
    · exact ht.rootsApart a ha b hb' hne ra rb

end Lc.TreeUmount
