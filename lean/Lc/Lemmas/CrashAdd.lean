/-
  `addLayer` as a whole, seen through `Fs.get` at every exit (normal return, error, injected
  fault, crash at any operation index): relative to the initial world every path other than
  the temporary file, the new `.bashrc` and paths strictly below the new layerconfig either
  holds what it held, or is a directory created where nothing was, or is the new layer's
  layerconfig holding the complete new text.  Helper lemmas for Props/C11 (crash_atomic_add).

  The invariant `AddInv` is a reflexive and transitive relation between worlds, so each
  primitive is specified relative to the state before it and lifted with `lift_rel` and
  `holds_of_rel`.  The command is walked in two parts: its end block `addFiles`
  (Lemmas/CmdBlocks.lean) under the relation, what comes before it in the unchanged world.
-/
import Lc.Lemmas.WriteLayerFile
import Lc.Lemmas.FsMove
import Lc.Lemmas.ExportFs
import Lc.Lemmas.RunM

set_option mvcgen.warning false

namespace Lc.CrashAdd
open Std.Do Lc Lc.Layers Lc.Layerfile Lc.Hoare Lc.Lemmas.WriteLF Lc.FsMove

/-- `C` the new layerconfig, `T` its temporary file, `B` the new `.bashrc`, `New` the
    admissible complete contents of `C` -/
def AddInv (C T B : Bytes) (New : Fs.Node → Prop) (w0 w : World) : Prop :=
  w.pretend = w0.pretend ∧
  ∀ p, Fs.under T p = false → p ≠ B → (Fs.under C p = false ∨ p = C) →
    Fs.get w.fs p = Fs.get w0.fs p ∨
    (Fs.get w0.fs p = none ∧ Fs.get w.fs p = some .dir) ∨
    (p = C ∧ ∃ n, New n ∧ Fs.get w.fs p = some n)

theorem addInv_refl (C T B New) (w : World) : AddInv C T B New w w :=
  ⟨rfl, fun _ _ _ _ => Or.inl rfl⟩

theorem addInv_of_fs_eq (C T B New) (w1 w : World) (hp : w.pretend = w1.pretend) (h : w.fs = w1.fs) :
    AddInv C T B New w1 w :=
  ⟨hp, fun _ _ _ _ => Or.inl (by rw [h])⟩

theorem addInv_trans (C T B New) (w0 w1 w2 : World) (h1 : AddInv C T B New w0 w1)
    (h2 : AddInv C T B New w1 w2) : AddInv C T B New w0 w2 := by
  refine ⟨h2.1.trans h1.1, ?_⟩
  intro p hT hB hC
  rcases h2.2 p hT hB hC with e | ⟨hn, hd⟩ | hnew
  · rcases h1.2 p hT hB hC with e1 | ⟨hn1, hd1⟩ | ⟨hc, n, hn, hg⟩
    · left; rw [e, e1]
    · right; left; exact ⟨hn1, by rw [e]; exact hd1⟩
    · right; right; exact ⟨hc, n, hn, by rw [e]; exact hg⟩
  · rcases h1.2 p hT hB hC with e1 | ⟨_, hd1⟩ | ⟨_, n, _, hg⟩
    · right; left; exact ⟨by rw [← e1]; exact hn, hd⟩
    · rw [hn] at hd1; cases hd1
    · rw [hn] at hg; cases hg
  · right; right; exact hnew

/-- a gated tree operation that only adds directories -/
theorem addInv_of_added (C T B New) (w1 w : World) (hp : w.pretend = w1.pretend)
    (h : ExportFs.Added [] w1.fs w.fs) : AddInv C T B New w1 w := by
  refine ⟨hp, fun p _ _ _ => ?_⟩
  rcases h p with e | ⟨hn, hd | ⟨e, he, _⟩⟩
  · left; exact e
  · right; left; exact ⟨hn, hd⟩
  · cases he

theorem fsStep_keeps (C T B New) (w0 : World) (op : Op) (f : Fs.Tree → Except String Fs.Tree)
    (hok : ∀ w1 w, w.pretend = w1.pretend → f w1.fs = .ok w.fs → AddInv C T B New w1 w) :
    Holds (AddInv C T B New w0) (fsStep op f) := by
  refine holds_of_rel _ (addInv_trans _ _ _ _) _ (fun w1 => ?_) w0
  apply lift_rel (fsStep op f) _ _ (fsStep_spec _ _) (fun w => w = w1)
  · rintro w _ w' rfl ⟨hp, h⟩
    rcases h with ⟨_, hfs⟩ | ⟨_, h⟩
    · exact addInv_of_fs_eq _ _ _ _ _ _ hp hfs
    · exact hok w w' hp h
  · rintro w w' rfl ⟨hfs, hp⟩
    exact addInv_of_fs_eq _ _ _ _ _ _ hp hfs

theorem writeLayerFile_keeps (l : Layer) (B : Bytes) (New : Fs.Node → Prop) (hn : New (newNode l)) (w0 : World) :
    Holds (AddInv (cfgPath l) (tmpPath l) B New w0) (writeLayerFile l) := by
  refine holds_of_rel _ (addInv_trans _ _ _ _) _ (fun w1 => ?_) w0
  apply lift_rel (writeLayerFile l) _ _ (writeLayerFile_spec l) (fun w => w = w1)
  · rintro w _ w' rfl ⟨hp, h⟩
    rcases h with ⟨_, hfs⟩ | ⟨_, hwr⟩
    · exact addInv_of_fs_eq _ _ _ _ _ _ hp hfs
    · refine ⟨hp, fun p hT _ hC => ?_⟩
      rcases hC with hC | hC
      · left; exact hwr.2 p hC hT
      · right; right; exact ⟨hC, newNode l, hn, by rw [hC]; exact hwr.1⟩
  · rintro w w' rfl hfr
    refine ⟨hfr.2, fun p hT _ _ => Or.inl (hfr.1 p ?_)⟩
    exact ne_of_under_false _ _ hT

/-- `getDefaultLayerinfo` as a function of the tree -/
def defaultInfo (cfg : Config) (filename : Bytes) (fs : Fs.Tree) : Option LayerFile :=
  let f0 := if filename.length == 0 then pathJoin [cfg.basepath, skeletonFile] else filename
  let f1 := if !Fs.isFile fs f0 then
      let f := pathJoin [cfg.basepath, f0]
      if !Fs.isFile fs f && (fileExt f).length == 0 then f ++ b!".skel" else f
    else f0
  match Fs.readFile fs f1 with
  | none => none
  | some content =>
    let lf := readLayerFile content
    if lf.nmsgs > 0 then none else some lf

/-- the description `add` takes from a file is what the scanner makes of some text -/
theorem defaultInfo_scanned {cfg : Config} {f : Bytes} {fs : Fs.Tree} {lf : LayerFile}
    (h : defaultInfo cfg f fs = some lf) : ∃ c, lf = readLayerFile c := by
  unfold defaultInfo at h
  simp only [] at h
  split at h
  · cases h
  · split at h
    · cases h
    · exact ⟨_, (Option.some.inj h).symm⟩

theorem getDefaultLayerinfo_spec (cfg : Config) (f : Bytes) (w0 : World) :
    ⦃fun w => ⌜w = w0⌝⦄ getDefaultLayerinfo cfg f
    ⦃post⟨fun lf w => ⌜w = w0 ∧ defaultInfo cfg f w0.fs = some lf⌝, fun _ w => ⌜w = w0⌝⟩⦄ := by
  mvcgen [getDefaultLayerinfo, getW, fail]
  all_goals subst_vars
  all_goals (try rfl)
  all_goals simp_all +zetaDelta [defaultInfo]

/-- the import and export lists `add` gives the new layer: read from the configuration file
    (or the skeleton) in the initial tree, else copied from the parent -/
def Plan (cfg : Config) (d : Defs) (base configFile : Bytes) (fs0 : Fs.Tree)
    (cm ce : List NeededMount) : Prop :=
  if configFile.length > 0 ∨ base.length = 0 then
    ∃ lf, defaultInfo cfg configFile fs0 = some lf ∧ cm = lf.mounts ∧ ce = lf.exports
  else ∃ b, findLayer d base = some b ∧ cm = b.cmounts ∧ ce = b.cexports

theorem plan_of_file (cfg d base configFile fs0) (lf : LayerFile)
    (hc : (decide (configFile.length > 0) || base.length == 0) = true)
    (h : defaultInfo cfg configFile fs0 = some lf) :
    Plan cfg d base configFile fs0 lf.mounts lf.exports := by
  have hc' : configFile.length > 0 ∨ base.length = 0 := by simpa using hc
  unfold Plan
  rw [if_pos hc']
  exact ⟨lf, h, rfl, rfl⟩

theorem plan_of_parent (cfg d base configFile fs0) (b : Layer)
    (hc : ¬ (decide (configFile.length > 0) || base.length == 0) = true)
    (h : findLayer d base = some b) :
    Plan cfg d base configFile fs0 b.cmounts b.cexports := by
  have hc' : ¬ (configFile.length > 0 ∨ base.length = 0) := by simpa using hc
  unfold Plan
  rw [if_neg hc']
  exact ⟨b, h, rfl, rfl⟩

/-- the layer `add` creates -/
abbrev newLayer (cfg : Config) (name base : Bytes) (cm ce : List NeededMount) : Layer :=
  { name := name, base := base, cmounts := cm, cexports := ce, layerPath := layerPath cfg name }

def addBashrc (cfg : Config) (name : Bytes) : Bytes :=
  pathJoin [pathJoin [pathJoin [layerPath cfg name, cfg.buildRoot], b!"root"], b!".bashrc"]

/-- the complete new contents of the new layerconfig -/
def AddNew (cfg : Config) (d : Defs) (name base configFile : Bytes) (fs0 : Fs.Tree) (n : Fs.Node) : Prop :=
  ∃ cm ce, Plan cfg d base configFile fs0 cm ce ∧
    n = .file (render (toLayerFile (newLayer cfg name base cm ce)))

abbrev AddI (cfg : Config) (d : Defs) (name base configFile : Bytes) (w0 : World) : World → Prop :=
  AddInv (pathJoin [layerPath cfg name, b!"layerconfig"])
    (pathJoin [layerPath cfg name, b!"layerconfig"] ++ tmpSuffix) (addBashrc cfg name)
    (AddNew cfg d name base configFile w0.fs) w0

theorem addFiles_spec (cfg : Config) (d : Defs) (name base configFile : Bytes) (w0 : World)
    (cm ce : List NeededMount) (hpl : Plan cfg d base configFile w0.fs cm ce) :
    Holds (AddI cfg d name base configFile w0) (addFiles cfg d (newLayer cfg name base cm ce)) := by
  have hM : ∀ p, Holds (AddI cfg d name base configFile w0) (fsMkdir p) := fun p =>
    fsStep_keeps _ _ _ _ w0 _ _ fun _ _ hp hok =>
      addInv_of_added _ _ _ _ _ _ hp (ExportFs.added_mkdirAll [] _ _ p hok)
  have hX : ∀ c, Holds (AddI cfg d name base configFile w0)
      (fsWriteTextFile (pathJoin [pathJoin [buildPath cfg (newLayer cfg name base cm ce), b!"root"], b!".bashrc"]) c) := fun c =>
    fsStep_keeps _ _ _ _ w0 _ _ fun _ _ hp hok =>
      ⟨hp, fun p _ hB _ => Or.inl (writeText_get_ne _ _ _ c p hok hB)⟩
  have hW : Holds (AddI cfg d name base configFile w0) (writeLayerFile (newLayer cfg name base cm ce)) :=
    writeLayerFile_keeps (newLayer cfg name base cm ce) _ _ ⟨cm, ce, hpl, rfl⟩ w0
  unfold Holds at *
  mvcgen [addFiles, reorder, hM, hX, hW]

/-- the whole command, every exit -/
theorem addLayer_spec (cfg : Config) (d : Defs) (name base configFile : Bytes) (w0 : World) :
    ⦃fun w => ⌜w = w0⌝⦄ addLayer cfg d name base configFile
    ⦃post⟨fun _ w => ⌜AddI cfg d name base configFile w0 w⌝,
          fun _ w => ⌜AddI cfg d name base configFile w0 w⌝⟩⦄ := by
  have hI : AddI cfg d name base configFile w0 w0 := addInv_refl _ _ _ _ _
  have hT := testName_inv (I := fun w => w = w0) (E := AddI cfg d name base configFile w0) (fun _ h => h ▸ hI) d
  have hF := addFiles_spec cfg d name base configFile w0
  rw [addLayer_eq]
  unfold Holds Respects at *
  mvcgen [hT, hF, fail, getDefaultLayerinfo_spec]
  all_goals first
    | (subst_vars; exact hI)
    | (intro h; subst_vars; exact hI)
    | (rename_i h; obtain ⟨rfl, _⟩ := h; subst_vars; exact hI)
    | (intro s hs hdi; subst_vars; exact plan_of_file _ _ _ _ _ _ ‹_› hdi)
    | exact fun _ _ => plan_of_parent _ _ _ _ _ _ ‹_› ‹_›

/-- the final world of every run -/
theorem addLayer_post (cfg : Config) (d : Defs) (name base configFile : Bytes) (w0 : World) :
    AddI cfg d name base configFile w0 ((addLayer cfg d name base configFile).run.run w0).2 := by
  have h := extractBoth _ _ _ _ (addLayer_spec cfg d name base configFile w0) w0 rfl
  split at h <;> exact h

/-- a name that is empty, illegal or in use is refused before anything happens -/
theorem addLayer_rejected (cfg : Config) (d : Defs) (name base cf : Bytes) (w : World)
    (h : testName1 d name NAME_FREE = false) :
    (addLayer cfg d name base cf).run.run w = (.error (.err "name"), w) := by
  unfold addLayer
  exact RunM.testName_refuses d _ _ w (by rw [List.all_cons, h, Bool.false_and])

end Lc.CrashAdd
