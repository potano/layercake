/-
  The structural commands keep the forest on disk (`DiskForest`, Lemmas/DiskForest.lean).
  For each command: what the table it was handed has to do with the disk (`Start`), the
  relevant paths (layers directory, layerconfigs of legal names) against the paths the command
  writes (`Below.clear`), and then from the specifications Props/C09 and Props/C11 rest on
  (Lemmas/WriteLayerFile.lean, CrashAdd.lean, RemoveLayer.lean: what the tree looks like after
  the command, on every exit) that the new tree is a forest again: the
  relevant paths kept (`diskForest_of_keep`) or one layerconfig changed (`diskForest_of_update`).
  Helper lemmas for Props/C02.
-/
import Lc.Lemmas.DiskForest
import Lc.Lemmas.CrashAdd
import Lc.Lemmas.CrashRename
import Lc.Lemmas.ExportsApart

namespace Lc.DiskCmd
open Lc Lc.Layers Lc.Fs Lc.Lemmas.Path Lc.ExportPath Lc.InLayers Lc.TreeWF Lc.TreeKeeps Lc.ForestInv
  Lc.ForestCmd Lc.Lemmas.WriteLF Lc.Layerfile Lc.DiskView Lc.DiskForest Lc.LayerPaths Lc.RunM

/-! ### legal names are tokens of the layerconfig syntax -/

theorem legal_tok (n : Bytes) (hne : n ≠ []) (h : isLegalLayerName n = true) : Lc.Lemmas.Runes.Tok n := by
  refine ⟨hne, ?_⟩
  intro x hx
  unfold Lc.Lemmas.Runes.rs at hx
  obtain ⟨y, hy, rfl⟩ := List.mem_map.mp hx
  unfold isLegalLayerName at h
  have := List.all_eq_true.mp h y hy
  obtain ⟨off, r, bs⟩ := y
  simp only [Bool.or_eq_true, Bool.and_eq_true, beq_iff_eq] at this
  cases hs : isSpaceRune r with
  | false => rfl
  | true =>
    exfalso
    have hl := Lc.Lemmas.Runes.space_not_letter r hs
    rcases this with (h1 | h1) | h1
    · rw [hl] at h1; cases h1
    · rw [h1] at hs; revert hs; decide
    · rw [h1.1] at hs; revert hs; decide

/-! ### the table a command is handed, against the disk -/

/-- what `getLayers` establishes about the table `d` read from the tree `fs` -/
structure Start (cfg : Config) (fs : Tree) (d : Defs) : Prop where
  wf : WF d
  placed : ∀ l ∈ d.layers, Placed cfg l
  lf : ∀ l ∈ d.layers, Lemmas.LayerfileRW.WF (toLayerFile l)
  agree : ∀ a b, (a, b) ∈ d.layers.map nb ↔ (LegalNE a ∧ cfgBase cfg fs a = some b)

/-- the last field is `DiskForest.Agrees` written out -/
theorem Start.agrees {cfg : Config} {fs : Tree} {d : Defs} (h : Start cfg fs d) : Agrees cfg fs d.layers :=
  h.agree

theorem start_of_getLayers {cfg : Config} {ds : List Bytes} (h : LD cfg ds) (inuse : List (Bytes × List User))
    (w w' : World) (d : Defs) (hok : DiskOK cfg w.fs)
    (hr : (getLayers cfg inuse).run.run w = (.ok d, w')) : Start cfg w.fs d := by
  obtain ⟨hwf, _, hs⟩ := getLayers_ok cfg inuse w w' d hok.tree hr
  have hfrom := getLayers_from cfg inuse w w' d hok.tree hr
  refine ⟨hwf, ?_, ?_, ?_⟩
  · intro l hl
    obtain ⟨l0, hl0, e⟩ := hfrom l hl
    have hp := readLayerFiles_placed cfg w.fs _ (fun hm => children_ne_nil _ _ _ hm rfl) l0 hl0
    unfold Placed at hp ⊢
    rw [sig_path e, sig_name e]; exact hp
  · intro l hl
    obtain ⟨l0, hl0, e⟩ := hfrom l hl
    obtain ⟨n, _, _, c, _, rfl⟩ := (mem_readLayerFiles_iff cfg w.fs _ l0).mp hl0
    have hwfc := Lemmas.LayerfileRW.readLayerFile_wf c
    have e2 : toLayerFile l = toLayerFile (layerOfFile cfg n (readLayerFile c)) := by
      unfold toLayerFile
      have b1 : l.base = (layerOfFile cfg n (readLayerFile c)).base := sig_base e
      have b2 : l.cmounts = (layerOfFile cfg n (readLayerFile c)).cmounts := congrArg (·.2.2.1) e
      have b3 : l.cexports = (layerOfFile cfg n (readLayerFile c)).cexports := congrArg (·.2.2.2.1) e
      rw [b1, b2, b3]
    rw [e2]
    exact hwfc
  · intro a b
    rw [sig_nb hs]
    exact agrees_disk h hok a b

/-! ### relevant paths against the paths a command writes -/

theorem placed_legal {cfg : Config} {l : Layer} (hl : Placed cfg l) : LegalNE l.name := ⟨hl.2.1, hl.2.2⟩

theorem cfgOf_split (cfg : Config) (a : Bytes) (ha : CleanName a) :
    cfgOf cfg a = layerPath cfg a ++ 47 :: lcName := by
  obtain ⟨D, hD⟩ := layer_paths cfg
  show pathJoin [layerPath cfg a, lcName] = _
  rw [(hD a ha).2, (hD a ha).1, List.append_assoc]

theorem under_layer_cfg (cfg : Config) (a : Bytes) (ha : CleanName a) :
    under (layerPath cfg a) (cfgOf cfg a) = true := by
  rw [cfgOf_split cfg a ha]
  exact FsRename.under_append _ _ (FsRename.tail_slash _)

/-- only the temporary file of `n` differs: the relevant paths are untouched -/
theorem keep_of_frame {cfg : Config} {ds : List Bytes} (h : LD cfg ds) (n : Bytes) (hn : CleanName n)
    {w0 w : World} (hf : Frame (cfgOf cfg n ++ tmpSuffix) w0 w) :
    Keep w0.fs w.fs cfg.layerdirs ∧ ∀ a, LegalNE a → Keep w0.fs w.fs (cfgOf cfg a) := by
  obtain ⟨t1, t2⟩ := (below_tmp h hn).clear h
  refine ⟨Or.inl (hf.1 _ (FsMove.ne_of_under_false _ _ t1)), fun a ha => Or.inl (hf.1 _ ?_)⟩
  by_cases e : a = n
  · exact e ▸ FsMove.ne_of_under_false _ _ (under_tmp_cfg _)
  · exact FsMove.ne_of_under_false _ _ (t2 a ha.clean e)

theorem written_relevant {cfg : Config} {ds : List Bytes} (h : LD cfg ds) {l : Layer} (hl : Placed cfg l)
    {w0 w : World} (hw : Written l w0 w) :
    Fs.get w.fs (cfgOf cfg l.name) = some (newNode l) ∧
    Fs.get w.fs cfg.layerdirs = Fs.get w0.fs cfg.layerdirs ∧
    ∀ a, LegalNE a → a ≠ l.name → Fs.get w.fs (cfgOf cfg a) = Fs.get w0.fs (cfgOf cfg a) := by
  have hn := (placed_legal hl).clean
  unfold Written cfgPath tmpPath at hw
  rw [cfgPath_placed hl] at hw
  obtain ⟨c1, c2⟩ := (below_cfg h hn).clear h
  obtain ⟨t1, t2⟩ := (below_tmp h hn).clear h
  exact ⟨hw.1, hw.2 _ c1 t1, fun a ha hne => hw.2 _ (c2 a ha.clean hne) (t2 a ha.clean hne)⟩

theorem get_written {fs : Tree} {p : Bytes} {x : Layer} (hg : Fs.get fs p = some (newNode x)) (t : Bytes) :
    Fs.get fs p ≠ some (.symlink t) := by
  rw [hg]; intro hh; cases hh

theorem base_tok {d : Defs} {b : Bytes}
    (h : b = [] ∨ (isLegalLayerName b = true ∧ (findLayer d b).isSome = true)) :
    b = [] ∨ Lc.Lemmas.Runes.Tok b := by
  by_cases hne : b = []
  · exact Or.inl hne
  · exact Or.inr (legal_tok b hne (h.resolve_left hne).1)

/-! ### rebase -/

/-- **rebase keeps the forest on disk — on every exit**, with any fault, crash or pretend
    setting -/
theorem rebase_forest {cfg : Config} {ds : List Bytes} (h : LD cfg ds) (d : Defs) (n nb : Bytes) (w : World)
    (hst : Start cfg w.fs d) (hf : DiskForest cfg w.fs)
    (hT : TreeWF ((rebaseLayer cfg d n nb).run.run w).2.fs) :
    DiskForest cfg ((rebaseLayer cfg d n nb).run.run w).2.fs := by
  cases hfl : findLayer d n with
  | none => rw [rebaseLayer_missing cfg d n nb w (Or.inr (Or.inr hfl))]; exact hf
  | some l =>
    obtain ⟨hlm, rfl⟩ := findLayer_mem hfl
    have hpl' : Placed cfg { l with base := nb } := hst.placed l hlm
    have hn : LegalNE l.name := placed_legal hpl'
    have hspec := Hoare.extractBoth _ _ _ _ (rebaseLayer_spec cfg d l.name nb l w hfl) w rfl
    have htmp : tmpPath { l with base := nb } = cfgOf cfg l.name ++ tmpSuffix := by
      unfold tmpPath; rw [cfgPath_placed hpl']
    generalize hrun : (rebaseLayer cfg d l.name nb).run.run w = r at hspec hT ⊢
    obtain ⟨x, w'⟩ := r
    cases x with
    | error e =>
      simp only at hspec
      rw [htmp] at hspec
      obtain ⟨k1, k2⟩ := keep_of_frame h l.name hn.clean hspec
      exact diskForest_of_keep h hf hT k1 k2
    | ok d' =>
      simp only at hspec
      rcases hspec with hfs | hwr
      · show DiskForest cfg w'.fs
        rw [hfs]; exact hf
      · obtain ⟨_, ht2, l2, o, hl2, hchk, _, _⟩ := Hoare.ret_elim _ _ (rebaseLayer_ret cfg d l.name nb) w d' w' hrun
        obtain rfl : l = l2 := Option.some.inj (hfl.symm.trans hl2)
        obtain ⟨hget, hdir, hother⟩ := written_relevant h hpl' hwr
        have hlf : Lemmas.LayerfileRW.WF (toLayerFile { l with base := nb }) :=
          ⟨base_tok ((optneed_iff d nb).mp (Nat.add_comm _ _ ▸ ht2)), (hst.lf l hlm).2.1, (hst.lf l hlm).2.2⟩
        exact diskForest_of_update h hf.ok hst.agrees hT (Or.inl hdir) hn (cfgBase_written hlf hget)
          (get_written hget) (fun a ha e => Or.inl (hother a ha e)) hchk
          (fun a b => by simpa only [Option.some.injEq] using mem_view_setLayer d l { l with base := nb } hfl a b)

/-! ### remove -/

/-- nothing is left at or below `lp`; away from `lp`, from `new` and from the export links
    nothing changed -/
def Gone (ex : List Bytes) (lp new : Bytes) (w0 w : World) : Prop :=
  ∀ p, (under lp p = true → Fs.get w.fs p = none) ∧
    (under lp p = false → under new p = false → (∀ m ∈ ex, under m p = false) → Fs.get w.fs p = Fs.get w0.fs p)

set_option mvcgen.warning false

open Std.Do Lc.Hoare Lc.RemoveLayer in
theorem fsStep_from_same (ex : List Bytes) (w0 : World) (op : Op) (f : Fs.Tree → Except String Fs.Tree)
    (G : World → Prop) (hf : ∀ w1 w, Same ex w0 w1 → f w1.fs = .ok w.fs → G w) :
    ⦃fun w => ⌜Same ex w0 w⌝⦄ fsStep op f
    ⦃post⟨fun _ w => ⌜Same ex w0 w ∨ G w⌝, fun _ w => ⌜Same ex w0 w⌝⟩⦄ := by
  have hsame : ∀ w1 w, Same ex w0 w1 → w.fs = w1.fs → w.pretend = w1.pretend → Same ex w0 w :=
    fun w1 w hI e hp => ⟨hp.trans hI.1, fun p hx => by rw [e]; exact hI.2 p hx⟩
  apply lift_rel (fsStep op f) _ _ (fsStep_spec op f) (Same ex w0)
  · rintro w1 _ w hI ⟨hp, ⟨_, e⟩ | ⟨_, e⟩⟩
    · exact Or.inl (hsame w1 w hI e hp)
    · exact Or.inr (hf w1 w hI e)
  · rintro w1 w hI ⟨e, hp⟩
    exact hsame w1 w hI e hp

theorem under_removed_self (lp : Bytes) : under (lp ++ removedSuffix) lp = false := by
  apply under_false_of
  · intro h; have := congrArg List.length h; simp [removedSuffix] at this
  · intro h; have := congrArg List.length h; simp [removedSuffix] at this
  · intro t h; have := congrArg List.length h; simp [removedSuffix] at this

open Std.Do Lc.Hoare Lc.RemoveLayer Lc.FsMove in
/-- **remove, every exit**: the world differs from the start only below the export links, or
    (normal return, not pretending) the layer directory is gone -/
theorem removeLayer_gone (cfg : Config) (d : Defs) (name : Bytes) (files : Bool) (l : Layer) (w0 : World)
    (hl : findLayer d name = some l) (hlp : l.layerPath ≠ [47])
    (hord : hasChild d name = false → ∃ o, normalizeOrder (d.layers.filter (·.name != name)) = .ok o) :
    ⦃fun w => ⌜Same (exPaths cfg l) w0 w⌝⦄ removeLayer cfg d name files
    ⦃post⟨fun _ w => ⌜Same (exPaths cfg l) w0 w ∨
            Gone (exPaths cfg l) l.layerPath (l.layerPath ++ removedSuffix) w0 w⌝,
          fun _ w => ⌜Same (exPaths cfg l) w0 w⌝⟩⦄ := by
  have hT := testName_inv (I := Same (exPaths cfg l) w0) (fun _ h => h) d
  have hE := errorIfError_inv (I := Same (exPaths cfg l) w0) (fun _ h => h)
  have hB := errorIfBusy_inv (I := Same (exPaths cfg l) w0) (fun _ h => h)
  have hX := removeLayerExportLinks_same w0 cfg l
  -- the end block: the directory goes, and since nothing depends on the layer the rest orders
  have hF : hasChild d name = false → ∀ o, ⦃fun w => ⌜Same (exPaths cfg l) w0 w⌝⦄ removeFiles d name l o
      ⦃post⟨fun _ w => ⌜Same (exPaths cfg l) w0 w ∨
              Gone (exPaths cfg l) l.layerPath (l.layerPath ++ removedSuffix) w0 w⌝,
            fun _ w => ⌜Same (exPaths cfg l) w0 w⌝⟩⦄ := by
    intro hc o
    obtain ⟨od, ho⟩ := hord hc
    have hD : ⦃fun w => ⌜Same (exPaths cfg l) w0 w⌝⦄ fsRemove l.layerPath ⦃_⦄ :=
      fsStep_from_same (exPaths cfg l) w0 _ _ (Gone (exPaths cfg l) l.layerPath (l.layerPath ++ removedSuffix) w0)
        (fun w1 w hs hok p => by
          rw [← Except.ok.inj hok]
          exact ⟨FsRename.get_removeAll_under _ _ _,
            fun hu _ hx => (FsRename.get_removeAll_not_under _ _ _ hu).trans (hs.2 p hx)⟩)
    have hR : ⦃fun w => ⌜Same (exPaths cfg l) w0 w⌝⦄ fsRename l.layerPath (l.layerPath ++ removedSuffix) ⦃_⦄ :=
      fsStep_from_same (exPaths cfg l) w0 _ _ (Gone (exPaths cfg l) l.layerPath (l.layerPath ++ removedSuffix) w0)
        (fun w1 w hs hok p =>
          ⟨rename_vacates _ _ _ _ hok hlp (under_removed_self _) p,
            fun hu hn hx => (FsRename.rename_keeps _ _ _ _ hok hlp p hu hn).trans (hs.2 p hx)⟩)
    unfold removeFiles reorder
    rw [ho]
    mvcgen [hD, hR, fail, fExists, getW]
    all_goals first
      | assumption
      | (intro hh; exact hh)
  have hg : getL d name = pure l := by simp [getL, hl]
  unfold Holds at *
  rw [removeLayer_eq]
  simp only [hg]
  mvcgen [hT, hE, hB, hX, hF, fail, getW, holdsOnlyOwnFiles]
  -- `Same` is handed from step to step; the end block `hF` wants `hasChild d name = false`
  all_goals first
    | assumption
    | (intro hh; exact hh)
    | simpa using ‹¬hasChild d name = true›

open Lc.RemoveLayer Lc.ExportsApart in
/-- **the export links of a placed layer are clear of the relevant paths** (configuration with
    `ExportsApart` and an absolute exports directory) -/
theorem ex_clear {cfg : Config} {ds : List Bytes} (h : LD cfg ds) (hA : ExportsApart cfg)
    (hex : isAbs cfg.exportdirs = true) (l : Layer) (hl : Placed cfg l) :
    ∀ m ∈ exPaths cfg l, under m cfg.layerdirs = false ∧ ∀ a, LegalNE a → under m (cfgOf cfg a) = false := by
  intro m hm
  have hn := (placed_legal hl).clean
  refine ⟨?_, fun a ha => exportsApart_exPaths cfg hA l hl _
    ⟨a, ha.1, ha.2, Or.inl (under_layer_cfg cfg a ha.clean)⟩ m hm⟩
  have hmc : CleanAbs m := by
    rcases mem_auto cfg l m hm with e | e <;> rw [e] <;> exact cleanAbs_join _ _ hex
  obtain ⟨ms, hms, rfl⟩ := cleanAbs_comps m hmc
  -- a link at or above the layers directory would be at or above the layer's own directory
  rw [h.eq]
  refine under_absPath_false hms h.clean (fun hp => ?_)
  have h2 : under (absPath ms) (layerPath cfg l.name) = true := by
    rw [layerPath_eq h _ hn]
    exact (under_absPath ms _ hms (snoc_clean h.clean hn)).mpr (hp.trans (List.prefix_append _ _))
  rw [exportsApart_exPaths cfg hA l hl (layerPath cfg l.name)
    ⟨l.name, hl.2.1, hl.2.2, Or.inl (FsRename.under_self _)⟩ _ hm] at h2
  cases h2

open Lc.RemoveLayer in
theorem forest_of_same {cfg : Config} {ds : List Bytes} (h : LD cfg ds) (hA : ExportsApart.ExportsApart cfg)
    (hex : isAbs cfg.exportdirs = true) (l : Layer) (hl : Placed cfg l) {w0 w : World}
    (hf : DiskForest cfg w0.fs) (hT : TreeWF w.fs) (hs : Same (exPaths cfg l) w0 w) : DiskForest cfg w.fs := by
  have hc := ex_clear h hA hex l hl
  exact diskForest_of_keep h hf hT (Or.inl (hs.2 _ (fun m hm => (hc m hm).1)))
    (fun a ha => Or.inl (hs.2 _ (fun m hm => (hc m hm).2 a ha)))

/-- `<name>~removed` is not a legal layer name -/
theorem removed_illegal (n : Bytes) : isLegalLayerName (n ++ removedSuffix) = false := by
  cases hleg : isLegalLayerName (n ++ removedSuffix) with
  | false => rfl
  | true =>
    have hm : (126 : Nat) ∈ n ++ removedSuffix := by simp [removedSuffix]
    exact absurd hm
      (legal_lacks _ hleg 126 (by omega) (Lc.Lemmas.Runes.not_letter 126 (by omega)) (by omega) (by omega))

open Lc.RemoveLayer in
/-- **remove keeps the forest on disk — on every exit**, with any fault, crash or pretend
    setting -/
theorem remove_forest {cfg : Config} {ds : List Bytes} (h : LD cfg ds) (hA : ExportsApart.ExportsApart cfg)
    (hex : isAbs cfg.exportdirs = true) (d : Defs) (n : Bytes) (files : Bool) (w : World)
    (hst : Start cfg w.fs d) (hf : DiskForest cfg w.fs)
    (hT : TreeWF ((removeLayer cfg d n files).run.run w).2.fs) :
    DiskForest cfg ((removeLayer cfg d n files).run.run w).2.fs := by
  cases hfl : findLayer d n with
  | none => rw [removeLayer_missing cfg d n files w (Or.inr (Or.inr hfl))]; exact hf
  | some l =>
    obtain ⟨hlm, rfl⟩ := findLayer_mem hfl
    have hpl := hst.placed l hlm
    have hn : LegalNE l.name := placed_legal hpl
    have hnochild : hasChild d l.name = false → checkInheritance (d.layers.filter (·.name != l.name)) = true :=
      fun hno => check_remove d.layers l.name (no_child hno) hst.wf.acyclic
    have hspec := Hoare.extractBoth _ _ _ _ (removeLayer_gone cfg d l.name files l w hfl
      (ExportsApart.placed_ne_root cfg l hpl) (fun hno => Forest.normalizeOrder_of_check _ (hnochild hno))) w (same_refl _ _)
    generalize hrun : (removeLayer cfg d l.name files).run.run w = r at hspec hT ⊢
    obtain ⟨x, w'⟩ := r
    cases x with
    | error e => exact forest_of_same h hA hex l hpl hf hT hspec
    | ok d' =>
      simp only at hspec
      rcases hspec with hsame | hgone
      · exact forest_of_same h hA hex l hpl hf hT hsame
      · obtain ⟨_, hno, _⟩ := Hoare.ret_elim _ _ (removeLayer_ret cfg d l.name files) w d' w' hrun
        have hc := ex_clear h hA hex l hpl
        obtain ⟨p1, p2⟩ := (below_layer h hn.clean).clear h
        obtain ⟨r1, r2⟩ := (below_removed h hn.clean).clear h
        rw [← hpl.1] at p1 p2 r1 r2
        have hother : ∀ a, LegalNE a → a ≠ l.name → Fs.get w'.fs (cfgOf cfg a) = Fs.get w.fs (cfgOf cfg a) :=
          fun a ha hne => (hgone _).2 (p2 a ha.clean hne)
            (r2 a ha.clean (fun e => by have := ha.2; rw [e, removed_illegal] at this; cases this))
            (fun m hm => (hc m hm).2 a ha)
        have hgone_n : Fs.get w'.fs (cfgOf cfg l.name) = none :=
          (hgone _).1 (by rw [hpl.1]; exact under_layer_cfg cfg _ hn.clean)
        exact diskForest_of_update h hf.ok hst.agrees hT (Or.inl ((hgone _).2 p1 r1 (fun m hm => (hc m hm).1))) hn
          (v := none) (by unfold cfgBase; rw [hgone_n]) (fun t hh => by rw [hgone_n] at hh; cases hh)
          (fun a ha e => Or.inl (hother a ha e)) (hnochild hno)
          (fun a b => by simpa only [reduceCtorEq, and_false, false_or] using mem_view_filter d.layers l.name a b)

/-! ### add -/

open Lc.CrashAdd in
/-- the `.bashrc` that `add` writes is none of the relevant paths (the layers directory is not
    itself called `.bashrc`) -/
theorem bashrc_irrelevant {cfg : Config} {ds : List Bytes} (h : LD cfg ds)
    (hnb : pathBase cfg.layerdirs ≠ b!".bashrc") (name : Bytes) :
    cfg.layerdirs ≠ addBashrc cfg name ∧ ∀ a, cfgOf cfg a ≠ addBashrc cfg name := by
  have hld : isAbs cfg.layerdirs = true := by rw [h.eq]; rfl
  constructor
  · intro e
    apply hnb
    have hr : CleanAbs (pathJoin [pathJoin [layerPath cfg name, cfg.buildRoot], b!"root"]) :=
      cleanAbs_join _ _ (cleanAbs_join _ _ (cleanAbs_layerPath cfg name hld).2).2
    obtain ⟨xs, hxs, hx⟩ := cleanAbs_comps _ hr
    rw [e]
    unfold addBashrc
    rw [hx, pathJoin_absPath xs [b!".bashrc"] hxs (by decide) (by simp)]
    exact pathBase_snoc xs _ (by decide)
  · intro a
    exact bashrc_ne_layerconfig _ { name := a, layerPath := layerPath cfg a }

open Lc.CrashAdd in
theorem keep_of_addInv {C T B : Bytes} {New : Fs.Node → Prop} {w0 w : World} (hi : AddInv C T B New w0 w)
    {p : Bytes} (hT : under T p = false) (hB : p ≠ B) (hC : under C p = false) : Keep w0.fs w.fs p := by
  rcases hi.2 p hT hB (Or.inl hC) with e | e | ⟨e, _⟩
  · exact Or.inl e
  · exact Or.inr e
  · rw [e, FsRename.under_self] at hC; cases hC

open Lc.CrashAdd in
/-- the import and export lists `add` plans are made of tokens: scanned from a file, or the
    parent's -/
theorem plan_tokM {cfg : Config} {d : Defs} {base cf : Bytes} {fs : Tree} {cm ce : List NeededMount}
    (hplan : Plan cfg d base cf fs cm ce)
    (hb : ∀ b, findLayer d base = some b → Lemmas.LayerfileRW.WF (toLayerFile b)) :
    (∀ m ∈ cm, Lemmas.LayerfileRW.TokM m) ∧ (∀ m ∈ ce, Lemmas.LayerfileRW.TokM m) := by
  unfold Plan at hplan
  split at hplan
  · obtain ⟨lf, hdi, rfl, rfl⟩ := hplan
    obtain ⟨c, rfl⟩ := defaultInfo_scanned hdi
    exact (Lemmas.LayerfileRW.readLayerFile_wf c).2
  · obtain ⟨b, hfb, rfl, rfl⟩ := hplan
    exact (hb b hfb).2

open Lc.CrashAdd in
/-- **add keeps the forest on disk — on every exit**, with any fault, crash or pretend setting -/
theorem add_forest {cfg : Config} {ds : List Bytes} (h : LD cfg ds)
    (hnb : pathBase cfg.layerdirs ≠ b!".bashrc") (d : Defs) (name base cf : Bytes) (w : World)
    (hst : Start cfg w.fs d) (hf : DiskForest cfg w.fs)
    (hT : TreeWF ((addLayer cfg d name base cf).run.run w).2.fs) :
    DiskForest cfg ((addLayer cfg d name base cf).run.run w).2.fs := by
  cases ht : ([(name, NAME_FREE), (base, NAME_OPTIONAL + NAME_NEED)].all fun t => testName1 d t.1 t.2) with
  | false =>
    have : (addLayer cfg d name base cf).run.run w = (.error (.err "name"), w) := by
      unfold addLayer
      exact testName_refuses d _ _ w ht
    rw [this]; exact hf
  | true =>
    simp only [List.all_cons, List.all_nil, Bool.and_true, Bool.and_eq_true] at ht
    obtain ⟨hne, hleg, hfree⟩ := (free_iff d name).mp ht.1
    have hn : LegalNE name := ⟨hne, hleg⟩
    have hbase := (optneed_iff d base).mp ht.2
    have hpost := addLayer_post cfg d name base cf w
    generalize hw' : ((addLayer cfg d name base cf).run.run w).2 = w' at hpost hT ⊢
    obtain ⟨hb1, hb2⟩ := bashrc_irrelevant h hnb name
    -- the relevant paths other than the new layerconfig
    obtain ⟨t1, t2⟩ := (below_tmp h hn.clean).clear h
    obtain ⟨c1, c2⟩ := (below_cfg h hn.clean).clear h
    have hkd : Keep w.fs w'.fs cfg.layerdirs := keep_of_addInv hpost t1 hb1 c1
    have hko : ∀ a, LegalNE a → a ≠ name → Keep w.fs w'.fs (cfgOf cfg a) :=
      fun a ha e => keep_of_addInv hpost (t2 a ha.clean e) (hb2 a) (c2 a ha.clean e)
    -- the new layerconfig itself
    rcases or_assoc.mpr (hpost.2 (cfgOf cfg name) (under_tmp_cfg _) (hb2 name) (Or.inr rfl)) with
      hk | ⟨_, nd, ⟨cm, ce, hplan, rfl⟩, hget⟩
    · exact diskForest_of_keep h hf hT hkd (fun a ha => by
        by_cases e : a = name
        · exact e ▸ hk
        · exact hko a ha e)
    · -- the complete new layerconfig is in place
      have hxlf : Lemmas.LayerfileRW.WF (toLayerFile (newLayer cfg name base cm ce)) :=
        ⟨base_tok hbase, plan_tokM hplan (fun b hb => hst.lf b (findLayer_mem hb).1)⟩
      have hnotin : name ∉ d.layers.map (·.name) := (findLayer_none_iff d name).mp hfree
      have hchk : checkInheritance (d.layers ++ [newLayer cfg name base cm ce]) = true :=
        check_add d.layers _ hnotin (fun hbne => Option.isSome_iff_exists.mp (hbase.resolve_left hbne).2)
          hst.wf.acyclic
      exact diskForest_of_update h hf.ok hst.agrees hT hkd hn (cfgBase_written hxlf hget) (get_written hget) hko
        hchk (fun a b => by
          simpa only [Option.some.injEq] using mem_view_append d.layers (newLayer cfg name base cm ce) hnotin a b)

/-! ### mkdirs, init: only new directories, and two files outside the layers -/

/-- outside the paths `S`: unchanged, or a directory where nothing was -/
def KeepOutside (S : List Bytes) (w0 w : World) : Prop := ∀ p, p ∉ S → Keep w0.fs w.fs p

theorem keepOutside_refl (S : List Bytes) (w : World) : KeepOutside S w w := fun _ _ => Or.inl rfl

theorem keep_trans {a b c : Tree} {p : Bytes} (h1 : Keep a b p) (h2 : Keep b c p) : Keep a c p := by
  rcases h2 with e | ⟨e1, e2⟩
  · rcases h1 with e' | ⟨e1', e2'⟩
    · exact Or.inl (e.trans e')
    · exact Or.inr ⟨e1', by rw [e]; exact e2'⟩
  · rcases h1 with e' | ⟨e1', e2'⟩
    · exact Or.inr ⟨by rw [← e']; exact e1, e2⟩
    · rw [e2'] at e1; cases e1

theorem keepOutside_trans (S : List Bytes) (w0 w1 w2 : World) (h1 : KeepOutside S w0 w1) (h2 : KeepOutside S w1 w2) :
    KeepOutside S w0 w2 := fun p hp => keep_trans (h1 p hp) (h2 p hp)

open Std.Do Lc.Hoare Lc.CrashAdd in
theorem fsMkdir_keepOutside (S : List Bytes) (w0 : World) (p : Bytes) : Holds (KeepOutside S w0) (fsMkdir p) := by
  unfold Holds
  apply lift_rel (fsMkdir p) _ _ (fsStep_spec _ _) (KeepOutside S w0)
  · rintro w1 _ w hI ⟨_, hh⟩
    rcases hh with ⟨_, hfs⟩ | ⟨_, hok⟩
    · intro q hq; rw [hfs]; exact hI q hq
    · apply keepOutside_trans S w0 w1 w hI
      intro q _
      rcases ExportFs.added_mkdirAll [] _ _ p hok q with e | ⟨hn, hd | ⟨e, he, _⟩⟩
      · exact Or.inl e
      · exact Or.inr ⟨hn, hd⟩
      · cases he
  · rintro w1 w hI ⟨hfs, _⟩
    intro q hq; rw [hfs]; exact hI q hq

open Std.Do Lc.Hoare Lc.CrashAdd Lc.FsMove in
theorem fsWriteTextFile_keepOutside (S : List Bytes) (w0 : World) (f content : Bytes) (hf : f ∈ S) :
    Holds (KeepOutside S w0) (fsWriteTextFile f content) := by
  unfold Holds
  apply lift_rel (fsWriteTextFile f content) _ _ (fsStep_spec _ _) (KeepOutside S w0)
  · rintro w1 _ w hI ⟨_, hh⟩
    rcases hh with ⟨_, hfs⟩ | ⟨_, hok⟩
    · intro q hq; rw [hfs]; exact hI q hq
    · apply keepOutside_trans S w0 w1 w hI
      intro q hq
      exact Or.inl (writeText_get_ne _ _ f content q hok (fun e => hq (e ▸ hf)))
  · rintro w1 w hI ⟨hfs, _⟩
    intro q hq; rw [hfs]; exact hI q hq

open Lc.Hoare in
/-- **mkdirs, every exit**: nothing but new directories -/
theorem makedirs_keepOutside (cfg : Config) (d : Defs) (n : Bytes) (w0 : World) :
    Holds (KeepOutside [] w0) (makedirs cfg d n) :=
  makedirs_inv (fun _ h => h) (fsMkdir_keepOutside [] w0) cfg d n

/-- the two files `init` writes -/
def initFiles (cfg : Config) : List Bytes :=
  [pathJoin [cfg.basepath, skeletonFile], pathJoin [cfg.exportdirs, b!"index.html"]]

open Lc.Hoare in
/-- **init, every exit**: new directories, and the two files -/
theorem initBase_keepOutside (cfg : Config) (w0 : World) : Holds (KeepOutside (initFiles cfg) w0) (initBase cfg) :=
  initBase_on (Cm := fun _ => True) (fun _ h => h) (fun p _ => fsMkdir_keepOutside _ w0 p) (fsWriteTextFile_keepOutside _ w0)
    cfg trivial trivial trivial (by simp [initFiles]) (by simp [initFiles])

theorem keepOutside_forest {cfg : Config} {ds : List Bytes} (h : LD cfg ds) {S : List Bytes} {w0 w : World}
    (hf : DiskForest cfg w0.fs) (hT : TreeWF w.fs) (hk : KeepOutside S w0 w) (hd : cfg.layerdirs ∉ S)
    (hc : ∀ a, LegalNE a → cfgOf cfg a ∉ S) : DiskForest cfg w.fs :=
  diskForest_of_keep h hf hT (hk _ hd) (fun a ha => hk _ (hc a ha))

/-- no layerconfig path is `path.Join(x, c)` for a clean name `c` that does not end in 'g' -/
theorem cfgOf_ne_join (cfg : Config) (a x c : Bytes) (hc : CleanName c) (x' : Nat) (hl : c.getLast? = some x')
    (hx : x' ≠ 103) : cfgOf cfg a ≠ pathJoin [x, c] := by
  intro e
  have h1 := layerconfigPath_last { name := a, layerPath := layerPath cfg a }
  have h1' : (cfgOf cfg a).getLast? = some 103 := h1
  obtain ⟨B, hB⟩ := pathJoin2_suffix x c hc
  rw [e, hB, getLast_of_suffix B c x' hl] at h1'
  injection h1' with h1'
  exact hx h1'

theorem cfgOf_not_initFile (cfg : Config) (a : Bytes) : cfgOf cfg a ∉ initFiles cfg := by
  unfold initFiles
  simp only [List.mem_cons, List.not_mem_nil, or_false]
  rintro (e | e)
  · exact cfgOf_ne_join cfg a _ _ (by decide) 108 (by decide) (by decide) e
  · exact cfgOf_ne_join cfg a _ _ (by decide) 108 (by decide) (by decide) e

/-- **mkdirs keeps the forest on disk — on every exit** -/
theorem makedirs_forest {cfg : Config} {ds : List Bytes} (h : LD cfg ds) (d : Defs) (n : Bytes) (w : World)
    (hf : DiskForest cfg w.fs) (hT : TreeWF ((makedirs cfg d n).run.run w).2.fs) :
    DiskForest cfg ((makedirs cfg d n).run.run w).2.fs :=
  keepOutside_forest h hf hT (Hoare.extract _ _ (makedirs_keepOutside cfg d n w) w (keepOutside_refl _ _))
    (by simp) (fun _ _ => by simp)

/-- **init keeps the forest on disk — on every exit** (the layers directory is neither of
    the two files `init` writes) -/
theorem init_forest {cfg : Config} {ds : List Bytes} (h : LD cfg ds) (hni : cfg.layerdirs ∉ initFiles cfg)
    (w : World) (hf : DiskForest cfg w.fs) (hT : TreeWF ((initBase cfg).run.run w).2.fs) :
    DiskForest cfg ((initBase cfg).run.run w).2.fs :=
  keepOutside_forest h hf hT (Hoare.extract _ _ (initBase_keepOutside cfg w) w (keepOutside_refl _ _))
    hni (fun a _ => cfgOf_not_initFile cfg a)

/-! ### before the first `init`: no layers directory yet -/

/-- **the invariant of a whole installation**: the tree is well-formed and either there is no
    layers directory yet, or the installation can be listed and is a forest -/
def DiskInv (cfg : Config) (fs : Tree) : Prop :=
  TreeWF fs ∧ (Fs.get fs cfg.layerdirs = none ∨ DiskForest cfg fs)

/-- without a layers directory there is no layerconfig -/
theorem absent_cfg {cfg : Config} {ds : List Bytes} (h : LD cfg ds) {fs : Tree} (hT : TreeWF fs)
    (hab : Fs.get fs cfg.layerdirs = none) (a : Bytes) (ha : CleanName a) : Fs.get fs (cfgOf cfg a) = none := by
  cases hg : Fs.get fs (cfgOf cfg a) with
  | none => rfl
  | some x =>
    exfalso
    have h1 : cfgOf cfg a ∈ keys fs := (present_iff fs _).mp (by rw [hg]; rfl)
    have h2 := key_parent hT _ h1 (cfgOf_ne_root h a ha)
    rw [pathDir_cfgOf h a ha] at h2
    have h3 : layerPath cfg a ≠ [47] := by
      rw [layerPath_eq h a ha]; exact absPath_ne_root _ (snoc_clean h.clean ha) (by simp)
    have h4 := key_parent hT _ h2 h3
    rw [layerPath_eq h a ha, pathDir_snoc' ds a h.clean ha, ← h.eq] at h4
    have := (present_iff fs _).mpr h4
    rw [hab] at this; cases this

/-- a layers directory that has just appeared holds no layer: a forest -/
theorem forest_of_fresh {cfg : Config} {ds : List Bytes} (h : LD cfg ds) {fs fs' : Tree} (hT : TreeWF fs)
    (hab : Fs.get fs cfg.layerdirs = none) (hT' : TreeWF fs') (hdir : Fs.get fs' cfg.layerdirs = some .dir)
    (hc : ∀ a, LegalNE a → Keep fs fs' (cfgOf cfg a)) : DiskForest cfg fs' := by
  have hnone : ∀ a, LegalNE a → Fs.get fs' (cfgOf cfg a) = none ∨ Fs.get fs' (cfgOf cfg a) = some .dir := by
    intro a ha
    have h0 := absent_cfg h hT hab a ha.clean
    rcases hc a ha with e | ⟨_, e⟩
    · left; rw [e, h0]
    · right; exact e
  have hok : DiskOK cfg fs' := by
    refine ⟨hT', hdir, ?_⟩
    intro a ha t
    rcases hnone a ha with e | e <;> rw [e] <;> intro hh <;> cases hh
  refine diskForest_of_table h hok [] rfl ?_
  intro a b
  constructor
  · intro hm; cases hm
  · rintro ⟨ha, hb⟩
    exfalso
    unfold cfgBase at hb
    rcases hnone a ha with e | e <;> rw [e] at hb <;> cases hb

/-- **init keeps the installation invariant — on every exit**; a first `init` that gets as
    far as creating the layers directory makes the installation listable -/
theorem init_inv {cfg : Config} {ds : List Bytes} (h : LD cfg ds) (hni : cfg.layerdirs ∉ initFiles cfg)
    (w : World) (hi : DiskInv cfg w.fs) (hT : TreeWF ((initBase cfg).run.run w).2.fs) :
    DiskInv cfg ((initBase cfg).run.run w).2.fs := by
  refine ⟨hT, ?_⟩
  rcases hi.2 with hab | hf
  · have hk := Hoare.extract _ _ (initBase_keepOutside cfg w) w (keepOutside_refl _ _)
    rcases hk _ hni with e | ⟨_, e⟩
    · left; rw [e]; exact hab
    · right
      exact forest_of_fresh h hi.1 hab hT e (fun a _ => hk _ (cfgOf_not_initFile cfg a))
  · exact Or.inr (init_forest h hni w hf hT)

/-! ### rename: a run that returns normally -/

/-- the relevant paths after the directory move and the rewriting of the children `done` -/
structure KInv (cfg : Config) (old new : Bytes) (done : List Layer) (w0 w : World) : Prop where
  pretend : w.pretend = false
  dir : Fs.get w.fs cfg.layerdirs = Fs.get w0.fs cfg.layerdirs
  moved : Fs.get w.fs (cfgOf cfg new) = Fs.get w0.fs (cfgOf cfg old)
  vacated : Fs.get w.fs (cfgOf cfg old) = none
  kids : ∀ k ∈ done, Fs.get w.fs (cfgOf cfg k.name) = some (newNode { k with base := new })
  others : ∀ a, LegalNE a → a ≠ old → a ≠ new → (∀ k ∈ done, k.name ≠ a) →
    Fs.get w.fs (cfgOf cfg a) = Fs.get w0.fs (cfgOf cfg a)

/-- one more child rewritten -/
theorem kinv_step {cfg : Config} {ds : List Bytes} (h : LD cfg ds) {old new : Bytes} {done : List Layer}
    {w0 w1 w : World} (k : Layer) (hk : Placed cfg k) (hko : k.name ≠ old) (hkn : k.name ≠ new)
    (hnd : ∀ j ∈ done, j.name = k.name → j = k) (hdl : ∀ j ∈ done, LegalNE j.name)
    (hi : KInv cfg old new done w0 w1) (hold : LegalNE old) (hnew : LegalNE new)
    (hw : Written { k with base := new } w1 w) (hp : w.pretend = w1.pretend) :
    KInv cfg old new (done ++ [k]) w0 w := by
  have hpl' : Placed cfg { k with base := new } := hk
  obtain ⟨hget, hdir, hother⟩ := written_relevant h hpl' hw
  have hget : Fs.get w.fs (cfgOf cfg k.name) = some (newNode { k with base := new }) := hget
  have hother : ∀ a, LegalNE a → a ≠ k.name → Fs.get w.fs (cfgOf cfg a) = Fs.get w1.fs (cfgOf cfg a) := hother
  refine ⟨hp.trans hi.pretend, hdir.trans hi.dir, ?_, ?_, ?_, ?_⟩
  · rw [hother new hnew (fun e => hkn e.symm)]; exact hi.moved
  · rw [hother old hold (fun e => hko e.symm)]; exact hi.vacated
  · intro j hj
    rcases List.mem_append.mp hj with hj | hj
    · by_cases e : j.name = k.name
      · rw [hnd j hj e]; exact hget
      · rw [hother j.name (hdl j hj) e]
        exact hi.kids j hj
    · simp at hj; rw [hj]; exact hget
  · intro a ha hao han hd
    have hak : a ≠ k.name := fun e => hd k (by simp) e.symm
    rw [hother a ha hak]
    exact hi.others a ha hao han (fun j hj => hd j (List.mem_append_left _ hj))

open Lc.RemoveLayer Lc.FsMove in
/-- the directory move: from a world that differs from the start only at the export links -/
theorem kinv_move {cfg : Config} {ds : List Bytes} (h : LD cfg ds) (hA : ExportsApart.ExportsApart cfg)
    (hex : isAbs cfg.exportdirs = true) (l : Layer) (hl : Placed cfg l) (new : Bytes) (hnew : LegalNE new)
    (hne : new ≠ l.name) {w0 w1 w : World} (hp0 : w0.pretend = false)
    (hs : Same (exPaths cfg l) w0 w1) (hr : Fs.rename w1.fs l.layerPath (layerPath cfg new) = .ok w.fs)
    (hp : w.pretend = w1.pretend) : KInv cfg l.name new [] w0 w := by
  have hold := placed_legal hl
  have hc := ex_clear h hA hex l hl
  have bo := below_layer h hold.clean
  have bn := below_layer h hnew.clean
  rw [← hl.1] at bo
  obtain ⟨o1, o2⟩ := bo.clear h
  obtain ⟨n1, n2⟩ := bn.clear h
  have hget := rename_get w1.fs w.fs _ _ hr (ExportsApart.placed_ne_root cfg l hl)
    (ExportsApart.placed_ne_root cfg { name := new, layerPath := layerPath cfg new } ⟨rfl, hnew⟩)
    (bn.apart h.clean bo hne)
  have hun := under_layer_cfg cfg new hnew.clean
  have huo := under_layer_cfg cfg l.name hold.clean
  rw [← hl.1] at huo
  refine ⟨hp.trans (hs.1.trans hp0), ?_, ?_, ?_, (fun k hk => absurd hk List.not_mem_nil), ?_⟩
  · rw [hget]
    unfold getMoved
    simp only [n1, o1, Bool.false_eq_true, if_false]
    exact hs.2 _ (fun m hm => (hc m hm).1)
  · -- the new layerconfig path holds what was at the old one
    rw [hget]
    unfold getMoved
    rw [if_pos hun, cfgOf_split cfg new hnew.clean, List.drop_left, hl.1, ← cfgOf_split cfg _ hold.clean]
    exact hs.2 _ (fun m hm => (hc m hm).2 _ hold)
  · rw [hget]
    unfold getMoved
    simp only [n2 _ hold.clean (Ne.symm hne), huo, Bool.false_eq_true, if_false, if_true]
  · intro a ha hao han _
    rw [hget]
    unfold getMoved
    simp only [n2 a ha.clean han, o2 a ha.clean hao, Bool.false_eq_true, if_false]
    exact hs.2 _ (fun m hm => (hc m hm).2 a ha)

/-- the relevant paths after a whole `rename` -/
structure KDone (cfg : Config) (old new : Bytes) (l' : Layer) (done : List Layer) (w0 w : World) : Prop where
  dir : Fs.get w.fs cfg.layerdirs = Fs.get w0.fs cfg.layerdirs
  top : Fs.get w.fs (cfgOf cfg new) = some (newNode l')
  vacated : Fs.get w.fs (cfgOf cfg old) = none
  kids : ∀ k ∈ done, Fs.get w.fs (cfgOf cfg k.name) = some (newNode { k with base := new })
  others : ∀ a, LegalNE a → a ≠ old → a ≠ new → (∀ k ∈ done, k.name ≠ a) →
    Fs.get w.fs (cfgOf cfg a) = Fs.get w0.fs (cfgOf cfg a)

/-- the renamed layer's own layerconfig written -/
theorem kdone_final {cfg : Config} {ds : List Bytes} (h : LD cfg ds) {old new : Bytes} {done : List Layer}
    {w0 w1 w : World} (l' : Layer) (hl' : Placed cfg l') (hn : l'.name = new) (hon : old ≠ new)
    (hdn : ∀ j ∈ done, j.name ≠ new) (hdl : ∀ j ∈ done, LegalNE j.name)
    (hi : KInv cfg old new done w0 w1) (hold : LegalNE old) (hw : Written l' w1 w) :
    KDone cfg old new l' done w0 w := by
  obtain ⟨hget, hdir, hother⟩ := written_relevant h hl' hw
  rw [hn] at hget hother
  refine ⟨hdir.trans hi.dir, hget, ?_, ?_, ?_⟩
  · rw [hother old hold hon]; exact hi.vacated
  · intro j hj
    rw [hother j.name (hdl j hj) (hdn j hj)]; exact hi.kids j hj
  · intro a ha hao han hd
    rw [hother a ha han]; exact hi.others a ha hao han hd

open Std.Do Lc.Hoare Lc.RemoveLayer Lc.CrashAdd in
/-- **rename, a normal return when not pretending**: the old layerconfig path is vacated, the
    new one holds the renamed layer's text, every child's layerconfig holds the child's text
    with the new base, the layers directory and every other layerconfig are as before -/
theorem renameLayer_done {cfg : Config} {ds : List Bytes} (h : LD cfg ds) (hA : ExportsApart.ExportsApart cfg)
    (hex : isAbs cfg.exportdirs = true) (d : Defs) (new : Bytes) (co : List Bytes)
    (l : Layer) (w0 : World) (hl : findLayer d l.name = some l) (hp : w0.pretend = false)
    (hwf : WF d) (hpl : ∀ k ∈ d.layers, Placed cfg k) :
    ⦃fun w => ⌜Same (exPaths cfg l) w0 w⌝⦄ renameLayer cfg d l.name new co
    ⦃post⟨fun _ w => ⌜KDone cfg l.name new { l with name := new, layerPath := layerPath cfg new }
            (kidsOf d l.name co) w0 w⌝, fun _ _ => ⌜True⌝⟩⦄ := by
  have hT : ∀ t, ⦃fun w => ⌜Same (exPaths cfg l) w0 w⌝⦄ testName d t
      ⦃post⟨fun _ w => ⌜Same (exPaths cfg l) w0 w ∧ t.all (fun t => testName1 d t.1 t.2) = true⌝,
            fun _ _ => ⌜True⌝⟩⦄ := by
    intro t; unfold testName; split <;> mvcgen [fail]
  have hE := errorIfError_inv (I := Same (exPaths cfg l) w0) (fun _ h => h)
  have hB := errorIfBusy_inv (I := Same (exPaths cfg l) w0) (fun _ h => h)
  have hX := removeLayerExportLinks_same w0 cfg l
  have hMv : LegalNE new → new ≠ l.name →
      ⦃fun w => ⌜Same (exPaths cfg l) w0 w⌝⦄ fsRename l.layerPath (layerPath cfg new)
      ⦃post⟨fun _ w => ⌜KInv cfg l.name new [] w0 w⌝, fun _ _ => ⌜True⌝⟩⦄ := by
    intro hnew hne
    apply lift_rel (fsRename l.layerPath (layerPath cfg new)) _ _ (fsStep_spec _ _) (Same (exPaths cfg l) w0)
    · rintro w1 _ w hs ⟨hpr, hh⟩
      rcases hh with ⟨ht, _⟩ | ⟨_, hok⟩
      · rw [hs.1, hp] at ht; cases ht
      · exact kinv_move h hA hex l (hpl l (findLayer_mem hl).1) new hnew hne hp hs hok hpr
    · intros; trivial
  have hg : getL d l.name = pure l := by simp [getL, hl]
  have hlm := (findLayer_mem hl).1
  have hold : LegalNE l.name := placed_legal (hpl l hlm)
  -- what the name test establishes
  have hname : ([(l.name, NAME_NEED), (new, NAME_FREE)].all fun t => testName1 d t.1 t.2) = true →
      LegalNE new ∧ ∀ k ∈ d.layers, k.name ≠ new := by
    intro ht
    simp only [List.all_cons, List.all_nil, Bool.and_true, Bool.and_eq_true] at ht
    obtain ⟨a1, a2, a3⟩ := (free_iff d new).mp ht.2
    exact ⟨⟨a1, a2⟩, findLayer_none d new a3⟩
  -- the children
  have hkid : ∀ k ∈ kidsOf d l.name co, k ∈ d.layers ∧ Placed cfg k ∧ k.name ≠ l.name := by
    intro k hk
    obtain ⟨hkm, hkb⟩ := kidsOf_mem d l.name co k hk
    refine ⟨hkm, hpl k hkm, ?_⟩
    intro e
    have : k = l := nodup_name_inj hwf.nodup hkm hlm e
    rw [this] at hkb
    exact self_base_ne d.layers hwf.acyclic l hlm hold.1 hkb
  unfold Holds at *
  unfold renameLayer reorder
  simp only [hg]
  mvcgen [hT, hE, hB, hX, hMv, fail, writeLayerFile_spec]
  case inv1 =>
    exact post⟨fun (cur, _) w => ⌜KInv cfg l.name new cur.prefix w0 w⌝, fun _ _ => ⌜True⌝⟩
  -- `hT` leaves `Same … ∧ verdict of the name test`: the first half is what the next step starts from
  case vc2 => exact (‹_ ∧ _›).1
  -- the two premises of the directory move `hMv`
  case vc5 => exact (hname (‹Same _ _ _ ∧ _›).2).1
  case vc6 => exact ((hname (‹Same _ _ _ ∧ _›).2).2 l hlm).symm
  -- one round of the loop: the layerconfig of the child `cur` written
  case vc8 =>
    rename_i pref cur suff hsplit b s1 hinv r s hrel
    obtain ⟨hnewL, hnotin⟩ := hname (‹Same _ _ _ ∧ _›).2
    have hinv' : KInv cfg l.name new pref w0 s1 := hinv
    have hsplit' : kidsOf d l.name co = pref ++ cur :: suff := hsplit
    have hcur := hkid cur (by rw [hsplit']; simp)
    have hprefm : ∀ j ∈ pref, j ∈ kidsOf d l.name co := fun j hj => by rw [hsplit']; simp [hj]
    show KInv cfg l.name new (pref ++ [cur]) w0 s
    rcases hrel.2 with ⟨ht, _⟩ | ⟨_, hwr⟩
    · rw [hinv'.pretend] at ht; cases ht
    · exact kinv_step h cur hcur.2.1 hcur.2.2 (hnotin cur hcur.1)
        (fun j hj e => nodup_name_inj hwf.nodup (hkid j (hprefm j hj)).1 hcur.1 e)
        (fun j hj => placed_legal (hkid j (hprefm j hj)).2.1)
        hinv' hold hnewL hwr hrel.1
  case vc9 => intros; trivial
  case vc10 => assumption
  -- after the loop: the layerconfig of the renamed layer written
  case vc11 =>
    rename_i s1 hinv o hx r s hrel
    obtain ⟨hnewL, hnotin⟩ := hname (‹Same _ _ _ ∧ _›).2
    have hinv' : KInv cfg l.name new (kidsOf d l.name co) w0 s1 := hinv
    rcases hrel.2 with ⟨ht, _⟩ | ⟨_, hwr⟩
    · rw [hinv'.pretend] at ht; cases ht
    · exact kdone_final h _ ⟨rfl, hnewL.1, hnewL.2⟩ rfl (hnotin l hlm) (fun j hj => hnotin j (hkid j hj).1)
        (fun j hj => placed_legal (hkid j hj).2.1) hinv' hold hwr

open Lc.RemoveLayer in
/-- **rename keeps the forest on disk** when it returns normally (pretending or not) -/
theorem rename_forest {cfg : Config} {ds : List Bytes} (h : LD cfg ds) (hA : ExportsApart.ExportsApart cfg)
    (hex : isAbs cfg.exportdirs = true) (d : Defs) (old new : Bytes) (co : List Bytes) (w : World)
    (hst : Start cfg w.fs d) (hf : DiskForest cfg w.fs) (d' : Defs) (w' : World)
    (hrun : (renameLayer cfg d old new co).run.run w = (.ok d', w')) (hT : TreeWF w'.fs) :
    DiskForest cfg w'.fs := by
  cases hpr : w.pretend with
  | true =>
    have := Hoare.extract (Pretend.PInv w) _ (Pretend.renameLayer_keeps w cfg d old new co) w ⟨rfl, rfl, rfl, rfl, hpr⟩
    rw [hrun] at this
    have e : w'.fs = w.fs := this.1
    rw [e]; exact hf
  | false =>
    obtain ⟨_, ht2, l, o, d1, hfl, hd1, ho, hd'⟩ := Hoare.ret_elim _ _ (renameLayer_ret cfg d old new co) w d' w' hrun
    have hlm := findLayer_mem hfl
    have hnl := hlm.2
    subst hnl
    obtain ⟨hne, hleg, hfree⟩ := (free_iff d new).mp ht2
    have hnewL : LegalNE new := ⟨hne, hleg⟩
    have hnotin := findLayer_none d new hfree
    have hpl := hst.placed l hlm.1
    have hold : LegalNE l.name := placed_legal hpl
    have hlb : l.base ≠ l.name := self_base_ne d.layers hst.wf.acyclic l hlm.1 hold.1
    let l' : Layer := { l with name := new, layerPath := layerPath cfg new }
    -- the table returned
    have hren : d1.layers.filter (·.name != l.name) ++ [l'] = renamed d.layers l.name new l' :=
      hd1 ▸ kids_foldl_renamed d hst.wf.nodup l.name new co l'
    rw [hren] at ho
    have hwf' := wf_rename d l.name new l l' o hst.wf hfl hne hleg hfree rfl rfl ho
    -- the tree left behind
    have hdone : KDone cfg l.name new l' (kidsOf d l.name co) w w' := by
      have := Hoare.extractBoth _ _ _ _
        (renameLayer_done h hA hex d new co l w hfl hpr hst.wf hst.placed) w (same_refl _ _)
      rw [hrun] at this
      exact this
    have hb_new : cfgBase cfg w'.fs new = some l.base := cfgBase_written (x := l') (hst.lf l hlm.1) hdone.top
    have hb_old : cfgBase cfg w'.fs l.name = none := by
      unfold cfgBase; rw [hdone.vacated]
    have hb_kid : ∀ x ∈ d.layers, x.base = l.name → cfgBase cfg w'.fs x.name = some new := by
      intro x hx hxb
      obtain ⟨k, hk, e⟩ := List.mem_map.mp (kidsOf_complete d l.name co x hx hxb)
      have hkm := (kidsOf_mem d l.name co k hk).1
      rw [← e]
      exact cfgBase_written (x := { k with base := new })
        ⟨Or.inr (legal_tok new hne hleg), (hst.lf k hkm).2.1, (hst.lf k hkm).2.2⟩ (hdone.kids k hk)
    have hb_other : ∀ a, LegalNE a → a ≠ l.name → a ≠ new → (∀ x ∈ d.layers, x.name = a → x.base ≠ l.name) →
        cfgBase cfg w'.fs a = cfgBase cfg w.fs a := by
      intro a ha h1 h2 h3
      unfold cfgBase
      rw [hdone.others a ha h1 h2 (fun k hk e => h3 k (kidsOf_mem d l.name co k hk).1 e (kidsOf_mem d l.name co k hk).2)]
    have hok' : DiskOK cfg w'.fs := diskOK_of_keep hf.ok hT (Or.inl hdone.dir) (fun a ha => by
      by_cases e1 : a = new
      · exact Or.inr (e1 ▸ get_written hdone.top)
      by_cases e2 : a = l.name
      · exact Or.inr (fun t hh => by rw [e2, hdone.vacated] at hh; cases hh)
      by_cases e3 : ∃ k ∈ kidsOf d l.name co, k.name = a
      · obtain ⟨k, hk, rfl⟩ := e3
        exact Or.inr (get_written (hdone.kids k hk))
      · exact Or.inl (Or.inl (hdone.others a ha e2 e1 (fun k hk e => e3 ⟨k, hk, e⟩))))
    refine diskForest_of_table h hok' (renamed d.layers l.name new l') hwf'.acyclic (fun a b => ?_)
    rw [mem_view_renamed d.layers l.name new l l' hst.wf.nodup hfl hlb rfl rfl]
    constructor
    · rintro ⟨x, hx, rfl, rfl⟩
      by_cases hxo : x.name = l.name
      · obtain rfl : x = l := nodup_name_inj hst.wf.nodup hx hlm.1 hxo
        rw [rn_old, rn_ne new hlb]
        exact ⟨hnewL, hb_new⟩
      · have hxL : LegalNE x.name := placed_legal (hst.placed x hx)
        rw [rn_ne new hxo]
        refine ⟨hxL, ?_⟩
        by_cases hxb : x.base = l.name
        · rw [hxb, rn_old]
          exact hb_kid x hx hxb
        · rw [rn_ne new hxb, hb_other x.name hxL hxo (hnotin x hx)
            (fun y hy e => nodup_name_inj hst.wf.nodup hy hx e ▸ hxb)]
          exact ((hst.agree x.name x.base).mp (List.mem_map.mpr ⟨x, hx, rfl⟩)).2
    · rintro ⟨ha, hb⟩
      by_cases e1 : a = new
      · rw [e1, hb_new] at hb
        exact ⟨l, hlm.1, by rw [rn_old, e1], by rw [rn_ne new hlb]; exact (Option.some.inj hb).symm⟩
      by_cases e2 : a = l.name
      · rw [e2, hb_old] at hb; cases hb
      by_cases e3 : ∃ x ∈ d.layers, x.name = a ∧ x.base = l.name
      · obtain ⟨x, hx, rfl, hxb⟩ := e3
        rw [hb_kid x hx hxb] at hb
        exact ⟨x, hx, (rn_ne new e2).symm, by rw [hxb, rn_old]; exact (Option.some.inj hb).symm⟩
      · rw [hb_other a ha e2 e1 (fun x hx e hxb => e3 ⟨x, hx, e, hxb⟩)] at hb
        obtain ⟨x, hx, e⟩ := List.mem_map.mp ((hst.agree a b).mpr ⟨ha, hb⟩)
        have ex1 : x.name = a := congrArg Prod.fst e
        have ex2 : x.base = b := congrArg Prod.snd e
        exact ⟨x, hx, by rw [ex1, rn_ne new e2],
          by rw [ex2, rn_ne new (fun hbb => e3 ⟨x, hx, ex1, ex2.trans hbb⟩)]⟩

end Lc.DiskCmd
