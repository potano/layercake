/- `total` of the chunk sizes, one chunk at a time (for Props/C10Stage). -/
import Lc.Model.OutFault

namespace Lc.OutFaultLemmas
open Lc.OutFault

theorem foldl_add (l : List Nat) (a : Nat) : l.foldl (· + ·) a = a + l.foldl (· + ·) 0 := by
  induction l generalizing a with
  | nil => simp
  | cons x xs ih => simp only [List.foldl_cons]; rw [ih (a + x), ih (0 + x)]; omega

theorem total_cons (c : Nat) (rest : List Nat) : total (c :: rest) = c + total rest := by
  simp only [total, List.foldl_cons]
  rw [foldl_add rest (0 + c)]
  omega

end Lc.OutFaultLemmas
