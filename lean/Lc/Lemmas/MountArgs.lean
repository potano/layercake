/-
  The arguments of the mount calls `mountOne` issues are well-formed for the kernel-table
  renderer (`KernelProbe.ArgsOK`) when the layer records and the configuration consist of byte
  strings (`DefsOK`); hence `mount` keeps a well-formed kernel table well-formed.
  Helper lemmas for Props/C01 (`mountOne_establishes_cache`, `mount_idempotent`).
-/
import Lc.Lemmas.MountKernel
import Lc.Lemmas.LayerfileRW
import Lc.Lemmas.Expand

namespace Lc.MountArgs
open Std.Do Lc Lc.Layers Lc.Hoare Lc.Mountinfo Lc.Kernel Lc.KernelProbe Lc.Trace Lc.MountTrace
open Lc.Spec Lc.Lemmas.Path Lc.Lemmas.LayerfileRW Lc.Expand Lc.MountKernel Lc.Layerfile

set_option mvcgen.warning false

/-! ### well-formed layer records -/

/-- the fields of a layer record that reach mount calls are byte strings; import types are
    tokens (they are `strings.Fields` tokens of the layerconfig) -/
structure LayerOK (l : Layer) : Prop where
  path : IsB l.layerPath
  imports : ∀ m ∈ l.cmounts, IsB m.mount ∧ IsB m.source ∧ TokenOK m.fstype

/-- `l` is a layer record of `d` that a lookup by name finds -/
def Found (d : Defs) (l : Layer) : Prop := ∃ n, findLayer d n = some l

/-- layer records and configuration are made of byte strings, and no overlay workdir — as the
    option parser of the kernel model reads it from the mount data — ends in a carriage return
    (C12's finding `mountinfo-cr-at-line-end`: such a mount would be misread) -/
structure DefsOK (cfg : Config) (d : Defs) : Prop where
  buildRoot : IsB cfg.buildRoot
  workdir : IsB cfg.workdir
  upperdir : IsB cfg.upperdir
  layers : ∀ l, Found d l → LayerOK l
  workLast : ∀ l bl, Found d l → Found d bl →
    (parseOverlayOpts (ovData cfg bl l)).work.getLast? ≠ some 13

theorem findLayer_mem {d : Defs} {n : Bytes} {l : Layer} (h : findLayer d n = some l) : Found d l := ⟨n, h⟩

theorem isB_buildPath {cfg : Config} {d : Defs} (hd : DefsOK cfg d) {l : Layer} (hl : Found d l) :
    IsB (buildPath cfg l) :=
  isB_pathJoin2 (hd.layers l hl).path hd.buildRoot

theorem isB_workPath {cfg : Config} {d : Defs} (hd : DefsOK cfg d) {l : Layer} (hl : Found d l) :
    IsB (workPath cfg l) :=
  isB_pathJoin2 (hd.layers l hl).path hd.workdir

theorem isB_upperPath {cfg : Config} {d : Defs} (hd : DefsOK cfg d) {l : Layer} (hl : Found d l) :
    IsB (upperPath cfg l) :=
  isB_pathJoin2 (hd.layers l hl).path hd.upperdir

theorem isB_ovData {cfg : Config} {d : Defs} (hd : DefsOK cfg d) {l bl : Layer} (hl : Found d l)
    (hbl : Found d bl) : IsB (ovData cfg bl l) := by
  unfold ovData
  simp only [isB_append]
  exact ⟨⟨⟨⟨⟨by simp [IsB], isB_buildPath hd hbl⟩, by simp [IsB]⟩, isB_upperPath hd hl⟩, by simp [IsB]⟩,
    isB_workPath hd hl⟩

theorem findLayerBase_mem (d : Defs) : ∀ (fuel : Nat) (l r : Layer),
    findLayerBase d fuel l = some r → r = l ∨ Found d r := by
  intro fuel
  induction fuel with
  | zero => intro l r h; simp [findLayerBase] at h
  | succ k ih =>
    intro l r h
    unfold findLayerBase at h
    split at h
    · split at h
      · rename_i p hp
        rcases ih p r h with e | e
        · right; rw [e]; exact findLayer_mem hp
        · right; exact e
      · cases h
    · cases h; left; rfl

theorem isB_adjust {p : Bytes} {res : Bytes → Option Bytes} {src : Bytes} (hp : IsB p)
    (hr : ∀ n pre, res n = some pre → IsB pre) (h : adjustPrefixedPath p res = .ok src) : IsB src := by
  unfold adjustPrefixedPath at h
  split at h
  · cases h; exact isB_nil
  · have ht : IsB (decomposePrefix p).2.2 := by
      unfold decomposePrefix
      exact isB_drop _ (isB_drop _ hp)
    generalize decomposePrefix p = trip at h ht
    obtain ⟨sigil, name, tail⟩ := trip
    simp only [] at h ht
    split at h
    · cases h
    · rename_i np hnp
      split at h
      · cases h
      · cases h
        by_cases c1 : (sigil == [126]) = true
        · rw [if_pos c1] at hnp; cases hnp
        · rw [if_neg c1] at hnp
          by_cases c2 : (sigil == [36, 36]) = true
          · rw [if_pos c2] at hnp
            split at hnp
            · rename_i pre hpre
              cases hnp
              exact isB_pathJoin2 (hr _ _ hpre) ht
            · cases hnp
          · rw [if_neg c2] at hnp
            by_cases c3 : sigil.length > 0
            · rw [if_pos c3] at hnp; cases hnp
            · rw [if_neg c3] at hnp; cases hnp; exact hp

/-- the arguments of the mount call for an expanded import are well-formed -/
theorem import_argsOK {cfg : Config} {d : Defs} (hd : DefsOK cfg d) {l : Layer} (hl : Found d l)
    {ex : List Expanded} (hex : expandConfigMounts cfg d l = .ok ex) {e : Expanded} (he : e ∈ ex) :
    ArgsOK e.source e.mount e.fstype (mountFlags e.fstype) [] := by
  obtain ⟨m, hm, h1, h2, _, _, h5⟩ := expand_mem hex e he
  have hmo := (hd.layers l hl).imports m hm
  refine ⟨?_, ?_, ?_, isB_nil, by decide⟩
  · apply isB_adjust hmo.2.1 _ h5
    intro n pre hn
    unfold resolver at hn
    split at hn
    · cases hb : findLayerBase d (d.layers.length + 1) l with
      | none => rw [hb] at hn; cases hn
      | some r =>
        rw [hb] at hn
        cases hn
        rcases findLayerBase_mem d _ l r hb with e | e
        · rw [e]; exact (hd.layers l hl).path
        · exact (hd.layers r e).path
    · split at hn
      · cases hn; exact (hd.layers l hl).path
      · cases hn
  · rw [h1]
    exact isB_pathJoin2 (isB_buildPath hd hl) hmo.1
  · intro _; rw [h2]; exact hmo.2.2

/-- the arguments of the overlay mount call are well-formed -/
theorem overlay_argsOK {cfg : Config} {d : Defs} (hd : DefsOK cfg d) {l bl : Layer} (hl : Found d l)
    (hbl : Found d bl) :
    ArgsOK b!"overlay" (buildPath cfg l) b!"overlay" (mountFlags b!"overlay") (ovData cfg bl l) :=
  ⟨by simp [IsB], isB_buildPath hd hl, fun _ => by simp [TokenOK], isB_ovData hd hl hbl, hd.workLast l bl hl hbl⟩

/-! ### `mount` keeps the kernel table well-formed -/

/-- the kernel table of the world is well-formed -/
def KW (w : World) : Prop := KWF w.kt

theorem gate_kw : Holds KW gate := gate_inv (fun _ h => h) (fun _ h => h)

theorem sysMount_kw (s t f : Bytes) (fl : Nat) (o : Bytes)
    (ha : isStructural fl = true → ArgsOK s t f fl o) : Holds KW (sysMount s t f fl o) :=
  sysMount_inv s t f fl o (fun _ h => h) (fun _ _ h hk => kmount_wf h ha hk)

theorem slave_not_structural : isStructural (MS_SLAVE + MS_REC) = false := by decide

theorem fsMount_kw (s t f o : Bytes) (ha : ArgsOK s t f (mountFlags f) o) : Holds KW (fsMount s t f o) :=
  fsMount_inv s t f o gate_kw (sysMount_kw s t f _ o (fun _ => ha))
    (sysMount_kw [] t [] _ o (fun h => by rw [slave_not_structural] at h; cases h))

theorem fsStep_kw (op : Op) (f) : Holds KW (fsStep op f) :=
  fsStep_inv op f gate_kw (fun _ h => h) (fun _ h => h) (fun _ _ h _ => h)

theorem getL_bind_holds {β} (I : World → Prop) (d : Defs) (n : Bytes) (f : Layer → M β)
    (hf : ∀ l, findLayer d n = some l → Holds I (f l)) : Holds I (getL d n >>= f) := by
  unfold getL
  cases h : findLayer d n with
  | none =>
    simp only []
    have : ((throw Fault.panic : M Layer) >>= f) = throw Fault.panic := rfl
    rw [this]
    exact throw_holds _ _
  | some l =>
    simp only [pure_bind]
    exact hf l h

theorem liftRes_bind_holds {α β} (I : World → Prop) (r : Res α) (f : α → M β)
    (hf : ∀ a, r = .ok a → Holds I (f a)) : Holds I (liftRes r >>= f) := by
  cases r with
  | error e => exact throw_holds _ _
  | ok a => exact hf a rfl

theorem mountOverlay_kw {cfg : Config} {d : Defs} (hd : DefsOK cfg d) {l : Layer} (hl : Found d l) :
    Holds KW (mountOverlay cfg d l) := by
  unfold mountOverlay
  split
  · split
    · apply getL_bind_holds
      intro bl hbl
      exact fsMount_kw _ _ _ _ (overlay_argsOK hd hl (findLayer_mem hbl))
    · exact pure_holds _ _
  · exact pure_holds _ _

theorem mountItem_kw (cfg : Config) (d : Defs) (m : Expanded)
    (ha : ArgsOK m.source m.mount m.fstype (mountFlags m.fstype) []) : Holds KW (mountItem cfg d m) := by
  have h1 := fsMount_kw _ _ _ _ ha
  have h2 := fsStep_kw
  have h3 := fExists_inv KW KW
  unfold Holds at *
  mvcgen [mountItem, fsMkdir, h1, h2, h3, fail]

theorem mountItems_kw (cfg : Config) (d : Defs) : ∀ (ex : List Expanded),
    (∀ m ∈ ex, ArgsOK m.source m.mount m.fstype (mountFlags m.fstype) []) → Holds KW (mountItems cfg d ex) := by
  intro ex
  induction ex with
  | nil => intro _; rw [mountItems_nil]; exact pure_holds _ _
  | cons m ms ih =>
    intro h
    rw [mountItems_cons]
    exact bind_holds _ _ _ (mountItem_kw cfg d m (h m (by simp))) (fun _ => ih (fun x hx => h x (by simp [hx])))

/-- `mountOne` keeps what its overlay block and its import loop keep; these may use which
    layer the name finds and what its imports expand to -/
theorem mountOne_holds (I : World → Prop) {cfg : Config} {d : Defs} {name : Bytes}
    (hov : ∀ l, findLayer d name = some l → Holds I (mountOverlay cfg d l))
    (hit : ∀ l ex, findLayer d name = some l → expandConfigMounts cfg d l = .ok ex →
      Holds I (mountItems cfg d ex)) : Holds I (mountOne cfg d name) := by
  rw [mountOne_eq]
  unfold mountOne'
  apply getL_bind_holds
  intro l hl
  simp only []
  have hrest : Holds I (do
        mountOverlay cfg d l
        let expanded ← liftRes (expandConfigMounts cfg d l)
        mountItems cfg d expanded
        let d ← refreshMountInfo cfg d
        let l ← getL d name
        let __do_lift ← getW
        let l' ← liftRes (findLayerstate cfg __do_lift.fs d l)
        pure (setLayer d l')) := by
    apply bind_holds _ _ _ (hov l hl)
    intro _
    apply liftRes_bind_holds
    intro ex hex
    apply bind_holds _ _ _ (hit l ex hl hex)
    intro _
    apply bind_holds _ _ _ (refreshMountInfo_inv (fun _ h => h) cfg d)
    intro d2
    apply bind_holds _ _ _ (getL_inv (fun _ h => h) d2 name)
    intro l2
    apply bind_holds _ _ _ (getW_holds _)
    intro w
    apply bind_holds _ _ _ (liftRes_holds _ _)
    intro l'
    exact pure_holds _ _
  split
  · apply bind_holds _ _ _ (fail_holds _ _)
    intro _
    exact hrest
  · exact hrest

theorem mountOne_kw {cfg : Config} {d : Defs} (hd : DefsOK cfg d) (name : Bytes) :
    Holds KW (mountOne cfg d name) :=
  mountOne_holds KW (fun _ hl => mountOverlay_kw hd (findLayer_mem hl))
    (fun _ ex hl hex => mountItems_kw cfg d ex (fun _ hm => import_argsOK hd (findLayer_mem hl) hex hm))

end Lc.MountArgs
