/-
  The part of a layer record that `mount` depends on (`core`: name, base, imports, layer
  path) and the lookups by name that agree on it (`LEq`, `Sub`).  `setLayer` with a
  re-classified layer, `refreshMountInfo`, `makedirs`, `mountOne` and the probe change only
  state, user flags and mount lists, so all of them keep every lookup's core.
  Helper lemmas for Props/C01 (`mount_idempotent`).
-/
import Lc.Lemmas.MountArgs
import Lc.Lemmas.StateProbeAll
import Lc.Lemmas.Forest

namespace Lc.LayerCore
open Lc Lc.Layers Lc.Mountinfo Lc.Layerfile Lc.MountArgs Lc.MountTrace Lc.KernelProbe

/-- what `mount` reads of a layer record -/
def core (l : Layer) : Bytes × Bytes × List NeededMount × Bytes := (l.name, l.base, l.cmounts, l.layerPath)

/-- every lookup by name finds a record with the same core in `d'` as in `d` (or none in both) -/
def LEq (d d' : Defs) : Prop := ∀ n, (findLayer d' n).map core = (findLayer d n).map core

theorem LEq.refl (d : Defs) : LEq d d := fun _ => rfl
theorem LEq.symm {d d' : Defs} (h : LEq d d') : LEq d' d := fun n => (h n).symm
theorem LEq.trans {a b c : Defs} (h1 : LEq a b) (h2 : LEq b c) : LEq a c := fun n => (h2 n).trans (h1 n)

/-- every record a lookup finds in `d` is found, with the same core, under the same name in `d'` -/
def Sub (d d' : Defs) : Prop := ∀ n l, findLayer d n = some l → ∃ l', findLayer d' n = some l' ∧ core l' = core l

theorem Sub.refl (d : Defs) : Sub d d := fun _ l h => ⟨l, h, rfl⟩
theorem Sub.trans {a b c : Defs} (h1 : Sub a b) (h2 : Sub b c) : Sub a c := by
  intro n l hl
  obtain ⟨l1, h1', e1⟩ := h1 n l hl
  obtain ⟨l2, h2', e2⟩ := h2 n l1 h1'
  exact ⟨l2, h2', e2.trans e1⟩

theorem LEq.sub {d d' : Defs} (h : LEq d d') : Sub d d' := by
  intro n l hl
  have := h n
  rw [hl] at this
  cases h' : findLayer d' n with
  | none => rw [h'] at this; cases this
  | some l' => rw [h'] at this; exact ⟨l', rfl, by simpa using this⟩

theorem LEq.of_layers {d d' : Defs} (h : d'.layers = d.layers) : LEq d d' := by
  intro n; unfold findLayer; rw [h]

theorem core_eq_iff {a b : Layer} :
    core a = core b ↔ a.name = b.name ∧ a.base = b.base ∧ a.cmounts = b.cmounts ∧ a.layerPath = b.layerPath := by
  simp [core]

/-- replacing the record found under a name by one with the same core keeps all lookups -/
theorem LEq.setLayer {d : Defs} {l l' : Layer} (hl : findLayer d l'.name = some l) (hc : core l' = core l) :
    LEq d (setLayer d l') := by
  intro n
  by_cases hn : n = l'.name
  · subst hn
    have := Forest.find?_setLayer_self d l l' l'.name hl rfl
    unfold findLayer
    rw [this]
    unfold findLayer at hl
    rw [hl]
    simp [hc]
  · have := Forest.find?_setLayer_other d l' n hn
    unfold findLayer
    rw [this]

theorem LEq.overlain (d : Defs) (m : Mounts) (f : Layer → Bool) :
    LEq d { d with mounts := m, layers := d.layers.map fun l => { l with overlain := f l } } := by
  intro n
  rw [findLayer_overlain]
  cases findLayer d n <;> rfl

theorem findLayerstate_core {cfg : Config} {fs : Fs.Tree} {d : Defs} {l l' : Layer}
    (h : findLayerstate cfg fs d l = .ok l') : core l' = core l := by
  obtain ⟨s, hs, _⟩ := StateProbe.findLayerstate_shape cfg fs d l l' h
  rw [hs]
  rfl

/-! ### `DefsOK` only depends on cores -/

theorem Sub.found {d d' : Defs} (h : Sub d' d) {l' : Layer} (hf : Found d' l') :
    ∃ l, Found d l ∧ core l = core l' := by
  obtain ⟨n, hn⟩ := hf
  obtain ⟨l, hl, e⟩ := h n l' hn
  exact ⟨l, ⟨n, hl⟩, e⟩

theorem ovData_core {cfg : Config} {l l' bl bl' : Layer} (h1 : core l' = core l) (h2 : core bl' = core bl) :
    ovData cfg bl' l' = ovData cfg bl l := by
  rw [core_eq_iff] at h1 h2
  unfold ovData buildPath upperPath workPath
  rw [h1.2.2.2, h2.2.2.2]

theorem DefsOK.of_sub {cfg : Config} {d d' : Defs} (hd : DefsOK cfg d) (h : Sub d' d) : DefsOK cfg d' := by
  refine ⟨hd.buildRoot, hd.workdir, hd.upperdir, ?_, ?_⟩
  · intro l' hf
    obtain ⟨l, hl, e⟩ := h.found hf
    rw [core_eq_iff] at e
    have := hd.layers l hl
    exact ⟨by rw [← e.2.2.2]; exact this.path, by rw [← e.2.2.1]; exact this.imports⟩
  · intro l' bl' hf hbf
    obtain ⟨l, hl, e⟩ := h.found hf
    obtain ⟨bl, hbl, eb⟩ := h.found hbf
    rw [← ovData_core e eb]
    exact hd.workLast l bl hl hbl

end Lc.LayerCore
