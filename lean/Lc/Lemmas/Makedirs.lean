/-
  `makedirs` (manage/layers.go Makedirs) recreates the missing directories: Hoare triple
  over the command monad (VCs by mvcgen), using the `Fs.mkdirAll` lemmas.  Helper for
  Props/C08; in namespace `Lc.StateProbe`, which Props/C08 has open.
-/
import Lc.Lemmas.Hoare
import Lc.Lemmas.FsMkdir
import Lc.Lemmas.WriteLayerFile

namespace Lc.StateProbe
open Std.Do Lc Lc.Layers Lc.Hoare

set_option mvcgen.warning false

/-- the directories `Makedirs` is responsible for: build root, and for a derived layer the
    overlay work and upper directories -/
def neededDirs (cfg : Config) (l : Layer) : List Bytes :=
  [buildPath cfg l] ++ (if l.base.length > 0 then [workPath cfg l, upperPath cfg l] else [])

theorem makedirs_triple (cfg : Config) (d : Defs) (name : Bytes) (l : Layer)
    (hl : findLayer d name = some l) (hs : l.state < S_complete) :
    ⦃fun w => ⌜w.pretend = false⌝⦄ makedirs cfg d name
    ⦃post⟨fun _ w => ⌜∀ q ∈ neededDirs cfg l, Fs.isDir w.fs q = true⌝, fun _ _ => ⌜True⌝⟩⦄ := by
  have hmk := fun p => Lemmas.WriteLF.fsStep_spec (.mkdir p) (fun fs => Fs.mkdirAll fs p)
  have hw : ∀ w : World, w.pretend = false → True := fun _ _ => trivial
  have htn := testName_inv hw d [(name, NAME_NEED)]
  have hee := errorIfError_inv hw l
  unfold Respects at htn hee
  unfold makedirs getL
  simp only [hl]
  mvcgen [fsMkdir, getW, liftRes, hmk, htn, hee] invariants
  · post⟨fun (c, _) w => ⌜w.pretend = false ∧
      ∀ q ∈ neededDirs cfg l, Fs.isDir w.fs q = true ∨ q ∈ c.suffix⌝, fun _ _ => ⌜True⌝⟩
  next =>
    -- one round of the loop: the new directory is there, the earlier ones still are
    rename_i hinv _ s hstep
    obtain ⟨hp, hq⟩ := hinv
    obtain ⟨hp', hstep⟩ := hstep
    have hmk' := (hstep.resolve_left (fun h => by rw [hp] at h; cases h.1)).2
    refine ⟨hp'.trans hp, fun q hqn => ?_⟩
    rcases hq q hqn with hdir | hmem
    · exact Or.inl (Fs.mkdirAll_keeps _ _ _ q hmk' hdir)
    · rcases List.mem_cons.mp hmem with rfl | hsuf
      · exact Or.inl (Fs.mkdirAll_isDir _ _ _ hmk')
      · exact Or.inr hsuf
  · -- entry of the loop: what is not yet a directory is in the to-do list
    rename_i s hp
    refine ⟨hp, fun q hqn => ?_⟩
    cases hd : Fs.isDir s.fs q with
    | true => exact Or.inl rfl
    | false => exact Or.inr (List.mem_filter.mpr ⟨hqn, by simp [hd]⟩)
  · rename_i h _ _
    obtain ⟨_, h⟩ := h
    exact fun q hq => (h q hq).resolve_right (by simp)

end Lc.StateProbe
