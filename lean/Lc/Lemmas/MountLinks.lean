/-
  `mountCmd` = mount phase (name test, chain, makedirs of the chain, mountOne of the chain)
  followed by the link pass over the chain (fix d8f34a4).  Helper lemmas for Props/C16:
  * the mount phase returns the base chain and a `Defs` in which every layer has the name and
    directory it had (`SamePaths`); it only ever ADDS directories to the tree (`Grow`),
  * the link pass, layer by layer: only directories and links of the chain's export pairs are
    added, and after a normal non-pretend return every automatic export entry of every chain
    layer whose source existed when the pass began is a symbolic link.
-/
import Lc.Lemmas.MountTrace
import Lc.Lemmas.ExportLinks
import Lc.Lemmas.Probe
import Lc.Lemmas.StateProbeAll

namespace Lc.MountLinks
open Std.Do Lc Lc.Layers Lc.Hoare Lc.ExportFs Lc.ExportLinks Lc.MountTrace Lc.Trace

set_option mvcgen.warning false

/-! ### the two phases -/

/-- everything `mountCmd` does before the link pass; returns the chain and the `Defs` after mounting -/
def mountPhase (cfg : Config) (d : Defs) (name : Bytes) : M (List Layer × Defs) := do
  testName d [(name, NAME_NEED)]
  let l ← getL d name
  errorIfError l
  let chain ← ancestorsAndSelf d (d.layers.length + 1) name []
  let d ← mkChainDirs cfg chain d
  let d ← mountChain cfg chain d
  pure (chain, d)

theorem mountPhase_eq (cfg : Config) (d : Defs) (name : Bytes) :
    mountPhase cfg d name = (do
      let chain ← mountPre d name
      let d ← mkChainDirs cfg chain d
      let d ← mountChain cfg chain d
      pure (chain, d)) := by
  simp only [mountPhase, mountPre, bind_assoc]

theorem mountCmd_phases (cfg : Config) (d : Defs) (name : Bytes) :
    mountCmd cfg d name = (do
      let r ← mountPhase cfg d name
      linkChain cfg r.2 r.1
      pure r.2) := by
  rw [mountCmd_eq, mountPhase_eq]
  simp only [bind_assoc, pure_bind]

/-! ### the mount phase only adds directories -/

/-- same pretend switch; relative to the tree `fs0` only directories were added -/
def Grow (pr : Bool) (fs0 : Fs.Tree) (w : World) : Prop := w.pretend = pr ∧ Added [] fs0 w.fs

theorem gate_grow (pr fs0) : Holds (Grow pr fs0) gate := gate_inv (fun _ h => h) (fun _ h => h)

theorem fsMkdir_grow (pr fs0 p) : Holds (Grow pr fs0) (fsMkdir p) :=
  fsStep_inv _ _ (gate_grow pr fs0) (fun _ h => h) (fun _ h => h)
    (fun _ _ h he => ⟨h.1, h.2.trans (added_mkdirAll [] _ _ p he)⟩)

theorem sysMount_grow (pr fs0 s t f fl o) : Holds (Grow pr fs0) (sysMount s t f fl o) :=
  sysMount_inv s t f fl o (fun _ h => h) (fun _ _ h _ => h)

theorem fsMount_grow (pr fs0 s t f o) : Holds (Grow pr fs0) (fsMount s t f o) :=
  fsMount_inv s t f o (gate_grow pr fs0) (sysMount_grow pr fs0 _ _ _ _ _) (sysMount_grow pr fs0 _ _ _ _ _)

theorem mountPhase_grow (pr fs0 cfg d name) : Holds (Grow pr fs0) (mountPhase cfg d name) := by
  rw [mountPhase_eq]
  exact bind_holds _ _ _ (mountPre_holds _ d name) fun chain =>
    bind_holds _ _ _ (mkChainDirs_inv (fun _ h => h) (fsMkdir_grow pr fs0) cfg chain d) fun d1 =>
    bind_holds _ _ _ (mountChain_inv (fun _ h => h) (fsMkdir_grow pr fs0) (fsMount_grow pr fs0) cfg chain d1) fun _ =>
    pure_holds _ _

/-! ### names and directories of the layers survive the mount phase -/

/-- every layer of `d'` is, by name, directory and export directives, a layer of `d` -/
def SamePaths (d d' : Defs) : Prop :=
  ∀ n l', findLayer d' n = some l' → ∃ l, findLayer d n = some l ∧ l'.name = l.name ∧
    l'.layerPath = l.layerPath ∧ l'.cexports = l.cexports

theorem SamePaths.refl (d : Defs) : SamePaths d d := fun _ l' h => ⟨l', h, rfl, rfl, rfl⟩

theorem SamePaths.trans {a b c : Defs} (h1 : SamePaths a b) (h2 : SamePaths b c) : SamePaths a c := by
  intro n l' h
  obtain ⟨l, hl, e1, e2, e3⟩ := h2 n l' h
  obtain ⟨l0, hl0, f1, f2, f3⟩ := h1 n l hl
  exact ⟨l0, hl0, e1.trans f1, e2.trans f2, e3.trans f3⟩

theorem SamePaths.of_layers {d d' : Defs} (h : d'.layers = d.layers) : SamePaths d d' := by
  intro n l' hl
  unfold findLayer at hl
  rw [h] at hl
  exact ⟨l', hl, rfl, rfl, rfl⟩

theorem setLayer_samePaths (d : Defs) (n : Bytes) (l l' : Layer) (hl : findLayer d n = some l)
    (hn : l'.name = l.name) (hp : l'.layerPath = l.layerPath) (hx : l'.cexports = l.cexports) :
    SamePaths d (setLayer d l') := by
  have hln : l.name = n := ForestInv.find_name hl
  intro m k hk
  by_cases hm : m = l'.name
  · subst hm
    have : findLayer (setLayer d l') l'.name = some l' :=
      Forest.find?_setLayer_self d l l' l'.name (by rw [hn, hln]; exact hl) rfl
    rw [this] at hk
    cases hk
    exact ⟨l, by rw [hn, hln]; exact hl, hn, hp, hx⟩
  · have : findLayer (setLayer d l') m = findLayer d m := Forest.find?_setLayer_other d l' m hm
    rw [this] at hk
    exact ⟨k, hk, rfl, rfl, rfl⟩

theorem overlain_samePaths (d : Defs) (m : Mountinfo.Mounts) (f : Layer → Bool) :
    SamePaths d { d with mounts := m, layers := d.layers.map fun l => { l with overlain := f l } } := by
  intro n k hk
  rw [findLayer_overlain] at hk
  cases hf : findLayer d n with
  | none => rw [hf] at hk; cases hk
  | some l0 =>
    rw [hf] at hk
    cases hk
    exact ⟨l0, rfl, rfl, rfl, rfl⟩

theorem findLayerstate_paths {cfg fs d l l'} (h : findLayerstate cfg fs d l = .ok l') :
    l'.name = l.name ∧ l'.layerPath = l.layerPath ∧ l'.cexports = l.cexports := by
  obtain ⟨s, rfl, _⟩ := StateProbe.findLayerstate_shape cfg fs d l l' h
  exact ⟨rfl, rfl, rfl⟩

theorem mountOne_ret (cfg d n) : Ret (mountOne cfg d n) (fun d' => SamePaths d d') :=
  ret_intro _ _ fun _ _ _ h => by
    obtain ⟨_, _, _, d2, l2, l', _, _, _, _, _, hlay, hl2, hst, rfl⟩ := mountOne_ok_inv h
    obtain ⟨e1, e2, e3⟩ := findLayerstate_paths hst
    exact ((overlain_samePaths d d2.mounts _).trans (SamePaths.of_layers hlay)).trans
      (setLayer_samePaths _ n _ _ hl2 e1 e2 e3)

theorem mountPhase_ret (cfg d name) :
    Ret (mountPhase cfg d name) (fun r => BaseChain d r.1 name ∧ SamePaths d r.2) := by
  rw [mountPhase_eq]
  have h1 := mountPre_ret d name
  have h5 : ∀ chain d, Ret (mkChainDirs cfg chain d) (SamePaths d) :=
    mkChainDirs_rel cfg SamePaths SamePaths.refl (fun _ _ _ => SamePaths.trans) (fun d n _ _ _ hl hs => by
      obtain ⟨e1, e2, e3⟩ := findLayerstate_paths hs
      exact setLayer_samePaths d n _ _ hl e1 e2 e3)
  have h6 : ∀ chain d, Ret (mountChain cfg chain d) (SamePaths d) :=
    foldlM_rel SamePaths SamePaths.refl (fun _ _ _ => SamePaths.trans) _ (fun b x => mountOne_ret cfg b x.name)
  unfold Ret at *
  mvcgen [h1, h5, h6]
  all_goals (try intros)
  exact ⟨‹BaseChain d _ name›, (‹SamePaths d _›).trans ‹_›⟩

/-- every layer of a base chain is found under its own name -/
theorem BaseChain.mem_find {d : Defs} {c : List Layer} {n : Bytes} (h : BaseChain d c n) :
    ∀ a ∈ c, findLayer d a.name = some a := by
  induction h with
  | nil _ => intro a ha; cases ha
  | @snoc c l n hl _ _ ih =>
    intro a ha
    rcases List.mem_append.mp ha with ha | ha
    · exact ih a ha
    · have : a = l := by simpa using ha
      subst this
      rw [ForestInv.find_name hl]
      exact hl

/-- the base chain of a name is unique -/
theorem BaseChain.unique {d : Defs} {c c' : List Layer} {n : Bytes} (h : BaseChain d c n)
    (h' : BaseChain d c' n) : c = c' := by
  induction h generalizing c' with
  | nil hn =>
    cases h' with
    | nil _ => rfl
    | snoc _ hne _ => exact absurd hn hne
  | snoc hl hne _ ih =>
    cases h' with
    | nil hn => exact absurd hn hne
    | snoc hl' _ hb' =>
      rw [hl] at hl'
      cases hl'
      rw [ih hb']

/-- the export pairs of a layer depend on its name, directory and export directives only -/
theorem exportPairs_congr (cfg : Config) (a k : Layer) (hn : k.name = a.name)
    (hp : k.layerPath = a.layerPath) (hx : k.cexports = a.cexports) :
    autoExportPaths cfg k = autoExportPaths cfg a ∧ exportPairs cfg k = exportPairs cfg a := by
  have h1 : autoExportPaths cfg k = autoExportPaths cfg a := by
    unfold autoExportPaths; rw [hn, hp]
  have h2 : expandConfigExports cfg k = expandConfigExports cfg a := by
    unfold expandConfigExports; rw [hn, hp, hx]
  refine ⟨h1, ?_⟩
  unfold exportPairs explicitPairs
  rw [h1, h2]

/-! ### the link pass -/

theorem linkChain_nil (cfg : Config) (d : Defs) : linkChain cfg d [] = (pure PUnit.unit : M PUnit) := rfl

theorem linkChain_cons (cfg : Config) (d : Defs) (a : Layer) (as : List Layer) :
    linkChain cfg d (a :: as) = (do
      let a' ← getL d a.name
      makeExportSymlinks cfg a'
      linkChain cfg d as) := by
  simp [linkChain]

/-- the (link, target) pairs the link pass over `chain` may create -/
def chainPairs (cfg : Config) (d : Defs) (chain : List Layer) : List (Bytes × Bytes) :=
  chain.flatMap fun a =>
    match findLayer d a.name with
    | some k => exportPairs cfg k
    | none => []

theorem mem_chainPairs {cfg : Config} {d : Defs} {chain : List Layer} {a k : Layer} (ha : a ∈ chain)
    (hk : findLayer d a.name = some k) : ∀ e ∈ exportPairs cfg k, e ∈ chainPairs cfg d chain := by
  intro e he
  unfold chainPairs
  exact List.mem_flatMap.mpr ⟨a, ha, by rw [hk]; exact he⟩

/-- **the link pass, run level**: on a normal return from a non-pretending world, only
    directories and links of the chain's export pairs were added, and for every chain layer
    (as `d` has it) every automatic export entry whose source existed when the pass began is a
    symbolic link -/
theorem linkChain_run (cfg : Config) (d : Defs) (chain : List Layer) : ∀ (w : World), w.pretend = false →
    ∀ u, ((linkChain cfg d chain).run.run w).1 = .ok u →
    ((linkChain cfg d chain).run.run w).2.pretend = false ∧
    Added (chainPairs cfg d chain) w.fs ((linkChain cfg d chain).run.run w).2.fs ∧
    ∀ a ∈ chain, ∃ k, findLayer d a.name = some k ∧
      ∀ e ∈ autoExportPaths cfg k, Fs.lexists w.fs e.2 = true →
        Fs.isSymlink ((linkChain cfg d chain).run.run w).2.fs e.1 = true := by
  induction chain with
  | nil =>
    intro w hp u _
    exact ⟨hp, Added.refl _ _, fun a ha => by cases ha⟩
  | cons a as ih =>
    intro w hp u hok
    rw [linkChain_cons, RunM.run_bind] at hok ⊢
    cases hk : findLayer d a.name with
    | none =>
      have hg : (getL d a.name).run.run w = (.error Fault.panic, w) := by
        unfold getL; rw [hk]; rfl
      rw [hg] at hok
      cases hok
    | some k =>
      rw [RunM.run_getL hk w] at hok ⊢
      simp only at hok ⊢
      rw [RunM.run_bind] at hok ⊢
      have h1 := extract2 _ _ _ _ (makeExportSymlinks_spec cfg k w.fs w.pretend) w ⟨rfl, Added.refl _ _⟩
      generalize (makeExportSymlinks cfg k).run.run w = r1 at h1 hok ⊢
      obtain ⟨x, w1⟩ := r1
      cases x with
      | error e => cases hok
      | ok u1 =>
        simp only at hok ⊢
        unfold Outcome at h1
        simp only at h1
        obtain ⟨hp1, hadd1, hlinks1⟩ := h1
        rw [hp] at hp1
        obtain ⟨hp2, hadd2, hlinks2⟩ := ih w1 hp1 u hok
        have hmono1 : Added (chainPairs cfg d (a :: as)) w.fs w1.fs :=
          hadd1.mono (mem_chainPairs (List.mem_cons_self) hk)
        have hmono2 : Added (chainPairs cfg d (a :: as)) w1.fs ((linkChain cfg d as).run.run w1).2.fs :=
          hadd2.mono (by
            intro e he
            unfold chainPairs at he ⊢
            rw [List.flatMap_cons]
            exact List.mem_append_right _ he)
        refine ⟨hp2, hmono1.trans hmono2, ?_⟩
        intro b hb
        rcases List.mem_cons.mp hb with hb | hb
        · subst hb
          refine ⟨k, hk, fun e he hsrc => ?_⟩
          exact hadd2.isSymlink e.1 (hlinks1 hp e he hsrc)
        · obtain ⟨k', hk', hl'⟩ := hlinks2 b hb
          exact ⟨k', hk', fun e he hsrc => hl' e he (hadd1.lexists e.2 hsrc)⟩

/-- **`mountCmd`, composed**: a normal return from a non-pretending world `w0` went through a
    mount phase that returned the base chain and the final `Defs` in a world `wm` (tree: `w0`'s
    plus directories), then through the link pass from `wm` -/
theorem mountCmd_links (cfg : Config) (d : Defs) (name : Bytes) (w0 : World) (hp : w0.pretend = false)
    (d' : Defs) (hok : ((mountCmd cfg d name).run.run w0).1 = .ok d') :
    ∃ chain wm, (mountPhase cfg d name).run.run w0 = (.ok (chain, d'), wm) ∧
      BaseChain d chain name ∧ SamePaths d d' ∧ Added [] w0.fs wm.fs ∧
      Added (chainPairs cfg d' chain) wm.fs ((mountCmd cfg d name).run.run w0).2.fs ∧
      ∀ a ∈ chain, ∃ k, findLayer d' a.name = some k ∧
        ∀ e ∈ autoExportPaths cfg k, Fs.lexists wm.fs e.2 = true →
          Fs.isSymlink ((mountCmd cfg d name).run.run w0).2.fs e.1 = true := by
  have hgrow := extract _ _ (mountPhase_grow false w0.fs cfg d name) w0 ⟨hp, Added.refl _ _⟩
  have hval := fun a => Hoare.ret_elim _ _ (mountPhase_ret cfg d name) w0 a
  rw [mountCmd_phases, RunM.run_bind] at hok ⊢
  generalize (mountPhase cfg d name).run.run w0 = r at hgrow hval hok ⊢
  obtain ⟨x, wm⟩ := r
  cases x with
  | error e => cases hok
  | ok a =>
    obtain ⟨chain, dm⟩ := a
    simp only at hok ⊢ hgrow
    obtain ⟨hbc, hsp⟩ := hval (chain, dm) wm rfl
    simp only at hbc hsp
    rw [RunM.run_bind] at hok ⊢
    have hl := linkChain_run cfg dm chain wm hgrow.1
    generalize (linkChain cfg dm chain).run.run wm = r2 at hl hok ⊢
    obtain ⟨y, wf⟩ := r2
    cases y with
    | error e => cases hok
    | ok u =>
      have hd : dm = d' := by
        have : (Except.ok dm : Except Fault Defs) = .ok d' := hok
        cases this; rfl
      subst hd
      obtain ⟨_, hadd, hlinks⟩ := hl u rfl
      exact ⟨chain, wm, rfl, hbc, hsp, hgrow.2, hadd, hlinks⟩

end Lc.MountLinks
