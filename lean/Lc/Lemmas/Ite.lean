namespace Lc

/-- A property of both branches holds of the conditional.  Applied by unification it descends
    into nested `if`s one level at a time; `split` on the whole term is slow to check. -/
theorem ite_ind {α : Sort _} {P : α → Prop} {c : Prop} [Decidable c] {a b : α}
    (ha : P a) (hb : P b) : P (if c then a else b) := by split <;> assumption

/-- `ite_ind` with the condition at hand in each branch -/
theorem ite_cases {α : Sort _} {P : α → Prop} {c : Prop} [Decidable c] {a b : α}
    (ha : c → P a) (hb : ¬c → P b) : P (if c then a else b) := by
  split
  · exact ha ‹_›
  · exact hb ‹_›

end Lc
