/-
  "Inside the layers directory": the code walks up with `path.Dir` while the path is at
  least as long as `Layerdirs` (manage/probe.go inAnyLayerDirectory); the manual says "the
  layers directory or below it" (`Spec.World.underLayers`, a prefix test).  For clean
  absolute paths the two agree (`inLayers_agree`).  Likewise for "inside the build
  directory" on export sources: for clean paths the code's `IsDescendant`-or-equal test is
  the manual's prefix test (`relProper_clean`, `exportSrcAgree_clean`).  And the paths in
  question are clean: expanded import sources (`expanded_source_clean`), the import sources
  the layerconfig reader stores (`diskLayers_sources`).  Helper lemmas for Props/C08 section 8.
-/
import Lc.Lemmas.AbsPath
import Lc.Lemmas.ProbeRound

namespace Lc.InLayers
open Lc Lc.Lemmas.Path Lc.ExportPath Lc.Layers

/-- the code's walk, on components: each round drops the last component, and stops at the
    directory itself or at a path shorter than it -/
theorem inAny_iff (cfg : Config) (ds : List Bytes) (hd : ∀ c ∈ ds, CleanName c) (hne : ds ≠ [])
    (hld : cfg.layerdirs = absPath ds) :
    ∀ fuel (cs : List Bytes), (∀ c ∈ cs, CleanName c) → cs.length + 1 ≤ fuel →
      (inAnyLayerDirectory cfg fuel (absPath cs) = true ↔ ds <+: cs) := by
  intro fuel
  induction fuel with
  | zero =>
    intro cs _ hf
    omega
  | succ f ih =>
    intro cs hc hf
    unfold inAnyLayerDirectory
    rw [hld]
    by_cases hlt : (absPath cs).length < (absPath ds).length
    · simp only [hlt, ↓reduceIte, Bool.false_eq_true, false_iff]
      intro hp
      have := absPath_prefix_length ds _ hne hp
      omega
    simp only [hlt, ↓reduceIte]
    by_cases heq : absPath cs = absPath ds
    · simp only [heq, beq_self_eq_true, ↓reduceIte, true_iff]
      rw [absPath_inj _ _ hc hd heq]
      exact List.prefix_refl _
    have hne' : (absPath cs == absPath ds) = false := by simpa using heq
    simp only [hne', Bool.false_eq_true, ↓reduceIte]
    rcases List.eq_nil_or_concat cs with rfl | ⟨cs', c, rfl⟩
    · -- "/" is shorter than the directory
      exfalso
      apply hlt
      have : 1 ≤ ds.length := List.length_pos_iff.mpr hne
      have := absPath_length_ge ds hd
      show 1 < _
      omega
    rw [List.concat_eq_append] at *
    have hc' : ∀ x ∈ cs', CleanName x := fun x hx => hc x (by simp [hx])
    have hf' : cs'.length + 1 ≤ f := by
      simp only [List.length_append, List.length_cons, List.length_nil] at hf
      omega
    rw [pathDir_snoc cs' c hc, ih cs' hc' hf']
    constructor
    · intro h
      exact h.trans (List.prefix_append _ _)
    · intro h
      rcases List.prefix_concat_iff.mp h with h | h
      · exfalso
        apply heq
        rw [h]
      · exact h

/-- **The two "inside the layers directory" tests agree** on every clean absolute path, when
    `Layerdirs` is a clean absolute path other than "/". -/
theorem inLayers_agree (cfg : Config) (p : Bytes)
    (hlc : pathClean cfg.layerdirs = cfg.layerdirs) (hla : isAbs cfg.layerdirs = true)
    (hlr : cfg.layerdirs ≠ [SLASH])
    (hpc : pathClean p = p) (hpa : isAbs p = true) :
    inAnyLayerDirectory cfg (p.length + 1) p
      = (p == cfg.layerdirs || hasPrefix p (cfg.layerdirs ++ [47])) := by
  obtain ⟨ds, hd, hld⟩ := cleanAbs_shape _ hlc hla
  obtain ⟨cs, hc, hp⟩ := cleanAbs_shape _ hpc hpa
  have hne : ds ≠ [] := by
    intro e
    apply hlr
    rw [hld, e]
    rfl
  have hfuel : cs.length + 1 ≤ p.length + 1 := by
    have := absPath_length_ge cs hc
    rw [hp]
    omega
  have h1 := inAny_iff cfg ds hd hne hld (p.length + 1) cs hc hfuel
  have h2 := atOrBelow_iff ds cs hd hc hne
  rw [← hp, ← hld] at h2
  rw [← hp] at h1
  have : (47 : Nat) = SLASH := rfl
  rw [this]
  exact Bool.eq_iff_iff.mpr (h1.trans h2.symm)

/-! ### a clean path below a clean directory is a proper relative path (fix eeedaf2) -/

/-- A relative path whose first component is not ".." is none of "", ".", ".." and does not
    begin with "../": each of those has no component at all or ".." as its first. -/
theorem proper_of_comps {t e : Bytes} {es : List Bytes} (h : pathComps t = e :: es)
    (he : e ≠ dotdot) :
    (t.length > 0 && t != [46] && t != [46, 46] && !hasPrefix t [46, 46, 47]) = true := by
  have hdd : pathComps [46, 46] = [dotdot] := by decide
  have hw : ∀ w, pathComps w = [] ∨ pathComps w = [dotdot] → t ≠ w := by
    rintro w hw rfl
    rw [h] at hw
    rcases hw with hw | hw
    · cases hw
    · cases hw
      exact he rfl
  have h3 : hasPrefix t [46, 46, 47] = false := by
    apply Bool.eq_false_iff.mpr
    intro hp
    obtain ⟨r, rfl⟩ := (hasPrefix_iff _ _).mp hp
    rw [show [46, 46, 47] ++ r = [46, 46] ++ SLASH :: r from rfl, pathComps_append_sep, hdd] at h
    cases h
    exact he rfl
  simp [hw [] (Or.inl (by decide)), hw [46] (Or.inl (by decide)), hw [46, 46] (Or.inr hdd), h3,
    List.length_pos_iff]

open Lc.StateProbe in
/-- for clean absolute paths the `IsDescendant`-or-equal test of fix eeedaf2 is the manual's "the
    directory or below it": `relProper` (the plain form of `ExportSrcAgree`) always holds.  What
    follows the directory and its "/" in the path has the path's remaining components, which
    are clean names. -/
theorem relProper_clean (dir p : Bytes) (hdc : pathClean dir = dir) (hda : isAbs dir = true)
    (hpc : pathClean p = p) (hpa : isAbs p = true) : relProper dir p = true := by
  obtain ⟨ds, hd, rfl⟩ := cleanAbs_shape _ hdc hda
  obtain ⟨cs, hc, rfl⟩ := cleanAbs_shape _ hpc hpa
  unfold relProper
  cases hpre : hasPrefix (absPath cs) (absPath ds ++ [47]) with
  | false => rfl
  | true =>
    obtain ⟨t, ht⟩ := (hasPrefix_iff _ _).mp hpre
    have hcomps := congrArg pathComps ht
    rw [pathComps_absPath cs hc, List.append_assoc, show [47] ++ t = SLASH :: t from rfl,
      pathComps_append_sep, pathComps_absPath ds hd] at hcomps
    have hdrop : (absPath cs).drop ((absPath ds).length + 1) = t := by
      rw [ht, List.drop_left' (by simp)]
    rw [hdrop]
    cases hts : pathComps t with
    | nil =>
      -- then the path has the directory's components and is the directory, which is shorter
      rw [hts, List.append_nil] at hcomps
      have hlen := congrArg List.length ht
      rw [hcomps] at hlen
      simp at hlen
    | cons e es =>
      have he : CleanName e := hc e (by simp [hcomps, hts])
      exact proper_of_comps hts he.2

open Lc.StateProbe Lc.Spec.World in
/-- **`ExportSrcAgree` holds without a hypothesis on the source** (fix eeedaf2): with an
    absolute `Layerdirs` and a build directory other than "/", the `IsDescendant`-or-equal
    test and the manual's "the build directory or below it" agree on every export source. -/
theorem exportSrcAgree_clean (i : Inst) (n : Bytes) (e : Layerfile.NeededMount)
    (hla : isAbs i.cfg.layerdirs = true) (hbd : buildDir i n ≠ [47]) : ExportSrcAgree i n e := by
  have hld := pathJoin_head_shape i.cfg.layerdirs [n] hla
  have hbdc := pathJoin_head_shape (layerDir i n) [i.cfg.buildRoot] hld.2
  have hsrc := pathJoin_head_shape (layerDir i n) [i.cfg.buildRoot, e.source] hld.2
  rw [export_src_agree_iff i n e hbd]
  exact relProper_clean _ _ hbdc.1 hbdc.2 hsrc.1 hsrc.2

/-! ### expanded import sources are clean absolute paths -/

open Lc.StateProbe Lc.Layerfile Lc.Spec.World in
theorem adjustPrefixedPath_clean {p np : Bytes} {r : Bytes → Option Bytes}
    (h : adjustPrefixedPath p r = .ok np) (hpc : pathClean p = p)
    (hr : ∀ s pre, r s = some pre → pre ≠ []) : pathClean np = np := by
  rcases (adjustPrefixedPath_ok h).2 with rfl | ⟨s, pre, tail, hs, rfl⟩
  · exact hpc
  · exact pathJoin_clean (hr s pre hs) _

open Lc.StateProbe Lc.Layerfile Lc.Spec.World in
/-- every expanded import source is a clean path, when the configured sources are clean (what
    the layerconfig reader stores) and `$$self` and `$$base` resolve to paths that are not empty -/
theorem expanded_source_clean {cfg : Config} {d : Defs} {l : Layer} {imports : List Expanded}
    (hexp : expandConfigMounts cfg d l = .ok imports)
    (hsrc : ∀ m ∈ l.cmounts, pathClean m.source = m.source)
    (hr : ∀ s pre, Lc.Expand.resolver d l s = some pre → pre ≠ []) :
    ∀ e ∈ imports, pathClean e.source = e.source := by
  intro e he
  obtain ⟨m, hm, -, -, -, -, hsrc'⟩ := Lc.Expand.expand_mem hexp e he
  exact adjustPrefixedPath_clean hsrc' (hsrc m hm) hr

/-! ### the layerconfig reader stores clean, non-empty import sources -/

open Lc.Layerfile in
/-- a line of a layerconfig leaves the import list alone or appends one import, whose paths
    went through `path.Clean` -/
theorem readStep_mounts (P : List NeededMount → Prop) (l : LayerFile) (line : Bytes)
    (h0 : P l.mounts) (h1 : ∀ t s m, P (l.mounts ++ [⟨pathClean m, pathClean s, t⟩])) :
    P (readStep l line).mounts := by
  unfold readStep
  simp only []
  repeat' split
  all_goals first | exact h0 | exact h1 _ _ _

open Lc.Layerfile in
theorem readStep_sources (l : LayerFile) (line : Bytes)
    (h : ∀ m ∈ l.mounts, m.source ≠ [] ∧ pathClean m.source = m.source) :
    ∀ m ∈ (readStep l line).mounts, m.source ≠ [] ∧ pathClean m.source = m.source := by
  refine readStep_mounts (fun ms => ∀ m ∈ ms, m.source ≠ [] ∧ pathClean m.source = m.source)
    l line h fun t s m x hx => ?_
  rcases List.mem_append.mp hx with hx | hx
  · exact h x hx
  · obtain rfl := List.mem_singleton.mp hx
    exact ⟨pathClean_ne_nil _, pathClean_idem _⟩

open Lc.Layerfile in
theorem readLayerFile_sources (content : Bytes) :
    ∀ m ∈ (readLayerFile content).mounts, m.source ≠ [] ∧ pathClean m.source = m.source := by
  unfold readLayerFile readLines
  generalize Mountinfo.scanLines content = lines
  have : ∀ (l : LayerFile), (∀ m ∈ l.mounts, m.source ≠ [] ∧ pathClean m.source = m.source) →
      ∀ m ∈ (lines.foldl readStep l).mounts, m.source ≠ [] ∧ pathClean m.source = m.source := by
    induction lines with
    | nil => intro l h; exact h
    | cons x xs ih => intro l h; exact ih _ (readStep_sources l x h)
  exact this {} (by intro m hm; cases hm)

open Lc.Spec.World Lc.Layerfile in
/-- … so every layer the specification reads from the disk has them -/
theorem diskLayers_sources (i : Inst) :
    ∀ dl ∈ diskLayers i, ∀ m ∈ dl.file.mounts, m.source ≠ [] ∧ pathClean m.source = m.source := by
  intro dl hdl
  unfold diskLayers at hdl
  rw [List.mem_filterMap] at hdl
  obtain ⟨n, -, hn⟩ := hdl
  split at hn
  · cases hn
  · split at hn
    · cases hn
      exact readLayerFile_sources _
    · cases hn

end Lc.InLayers
