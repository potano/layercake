/-
  Lemmas behind C14, about the atom parser (Lc/Model/AtomParse.lean) and the tokenizer
  (Lc/Model/Depend.lean): every cursor function returns a suffix of the cursor it was given,
  and a parsed atom has consumed at least one byte (`rawParse_consumes`); no function of the
  parser or the tokenizer panics (`NoPanic`, the `_no_panic` lemmas); a version that the
  name/version split finds has a non-empty base, so `versionFields` does not fail on it.
-/
import Lc.Model.Depend
import Lc.Lemmas.Ite
import Lc.Lemmas.Faults

namespace Lc.Lemmas.Depend
open Lc Lc.AtomParse Lc.Depend

open Lc.Res (NoPanic)

/-! ### cursors only move forward -/

theorem take_suffix (c : Cur) : take c <:+ c := List.tail_suffix c

theorem slotFin_suffix (s sub : Bytes) (c : Cur) : (slotFin s sub c).2.2.2 <:+ c := by
  unfold slotFin; split
  · exact List.tail_suffix c
  · exact List.suffix_refl c

theorem slotComp_suffix {c : Cur} {s : Bytes} {c' : Cur} (h : slotComp c = some (s, c')) :
    c' <:+ c := by
  unfold slotComp at h
  split at h
  · simp at h
  · split at h
    · simp at h; obtain ⟨_, rfl⟩ := h
      exact (List.dropWhile_suffix _).trans (List.suffix_cons _ _)
    · simp at h

theorem takeSlot_suffix (c : Cur) : (takeSlot c).2.2.2 <:+ c := by
  have fin {s sub : Bytes} {c' : Cur} (h : c' <:+ c) : (slotFin s sub c').2.2.2 <:+ c :=
    (slotFin_suffix s sub c').trans h
  have comp {c' c'' : Cur} {s : Bytes} (h : c' <:+ c) (e : slotComp (take c') = some (s, c'')) :
      c'' <:+ c := (slotComp_suffix e).trans ((take_suffix c').trans h)
  have I {p : Prop} [Decidable p] {a b : Bytes × Bytes × Bytes × Cur} :
      a.2.2.2 <:+ c → b.2.2.2 <:+ c → (if p then a else b).2.2.2 <:+ c :=
    ite_ind (P := fun x : Bytes × Bytes × Bytes × Cur => x.2.2.2 <:+ c)
  unfold takeSlot
  refine I (List.suffix_refl c) ?_
  dsimp only
  split
  · exact fin (take_suffix c)
  · rename_i slot c2 h1
    have s2 := comp (List.suffix_refl c) h1
    refine I (fin s2) ?_
    split
    · exact fin ((take_suffix c2).trans s2)
    · rename_i sub c4 h2
      have s4 := comp s2 h2
      refine I (fin s4) ?_
      split
      · exact fin ((take_suffix c4).trans s4)
      · rename_i x c6 h3
        exact fin (comp s4 h3)

theorem takeRepo_suffix (c : Cur) : (takeRepo c).2 <:+ c := by
  unfold takeRepo
  split
  · exact List.suffix_refl c
  · simp only
    split
    · exact List.drop_suffix 2 c
    · exact (List.dropWhile_suffix _).trans (List.drop_suffix 2 c)

theorem takeUseDepString_suffix (c : Cur) : (takeUseDepString c).2 <:+ c := by
  unfold takeUseDepString
  split
  · exact List.suffix_refl c
  · simp only
    split
    · exact List.suffix_refl c
    · exact (List.tail_suffix _).trans ((List.dropWhile_suffix _).trans (List.tail_suffix c))

theorem takeBlockers_suffix (c : Cur) : (takeBlockers c).2.2 <:+ c := by
  unfold takeBlockers
  split
  · simp only
    split
    · exact (take_suffix _).trans (take_suffix c)
    · exact take_suffix c
  · exact List.suffix_refl c

theorem takeRelop_suffix (c : Cur) : (takeRelop c).2 <:+ c := by
  unfold takeRelop
  have I {p : Prop} [Decidable p] {a b : Nat × Cur} :
      a.2 <:+ c → b.2 <:+ c → (if p then a else b).2 <:+ c := ite_ind (P := fun x : Nat × Cur => x.2 <:+ c)
  have t := take_suffix c
  exact I t (I (I t (I ((take_suffix _).trans t) (I t t))) (List.suffix_refl c))

/-! ### no panic in the atom parser -/

theorem takeUseDefault_no_panic (c : Cur) : NoPanic (takeUseDefault c) := by
  unfold takeUseDefault
  exact ite_ind .ok (ite_ind .ok (ite_ind .ok (.err nofun)))

theorem takeUseDefault2_no_panic (d : Nat) (c : Cur) : NoPanic (takeUseDefault2 d c) :=
  ite_ind (takeUseDefault_no_panic c) .ok

theorem parseUseDepItem_no_panic (c : Cur) : NoPanic (parseUseDepItem c) := by
  unfold parseUseDepItem
  dsimp only
  refine ite_ind (.err nofun) ?_
  split
  · exact (takeUseDefault_no_panic _).pass ‹_›
  · split
    · exact (takeUseDefault2_no_panic _ _).pass ‹_›
    · split
      · exact .err nofun
      · exact .ok

theorem parseUseDepsLoop_no_panic (n : Nat) (cur : Cur) : NoPanic (parseUseDepsLoop n cur) := by
  induction n generalizing cur with
  | zero => exact .err nofun
  | succ n ih =>
    unfold parseUseDepsLoop
    split
    · exact (parseUseDepItem_no_panic _).pass ‹_›
    · refine ite_ind .ok (ite_ind (.err nofun) ?_)
      split
      · exact .ok
      · exact (ih _).pass ‹_›

theorem makeComparableGo_ne (s acc : Bytes) (h : s ≠ [] ∨ acc ≠ []) :
    makeComparableGo s acc ≠ [] := by
  induction s generalizing acc with
  | nil =>
    have : acc ≠ [] := by cases h with | inl h => exact absurd rfl h | inr h => exact h
    simp [makeComparableGo, flushDigits, this, padNumericSegment]
  | cons c cs ih =>
    unfold makeComparableGo
    split
    · exact ih _ (Or.inr (by simp))
    · simp

theorem versionFields_ok (da : ParsedAtom) (relop : Nat) (v : VerMatch)
    (h : v.baseVer ≠ []) : ∃ da', versionFields da relop v = .ok da' := by
  unfold versionFields
  simp only
  have : makeComparable v.baseVer ≠ [] := makeComparableGo_ne _ _ (Or.inl h)
  split
  · rename_i hl
    simp [List.getLast?_eq_none_iff] at hl
    exact absurd hl this
  · exact ⟨_, rfl⟩

theorem matchVersion_base_ne {s : Bytes} {v : VerMatch} (h : matchVersion s = some v) :
    v.baseVer ≠ [] := by
  cases s with
  | nil => cases h
  | cons d ds =>
    unfold matchVersion at h
    dsimp only at h
    by_cases hd : (!isDigit d) = true
    · rw [if_pos hd] at h; cases h
    · rw [if_neg hd] at h
      generalize hq : (if isLower _ = true then _ else (_ : Bytes × Bytes)) = q at h
      have hb : q.1 ≠ [] := hq ▸
        ite_ind (P := fun q : Bytes × Bytes => q.1 ≠ []) (List.cons_ne_nil _ _) (List.cons_ne_nil _ _)
      clear hq
      revert h
      have found {su rv : Bytes} {w : Bool} : some (VerMatch.mk q.1 su rv w) = some v → v.baseVer ≠ [] :=
        fun h => Option.some.inj h ▸ hb
      split
      · nofun
      · split
        · nofun
        · have i := @ite_ind _ fun r : Option VerMatch => r = some v → v.baseVer ≠ []
          exact i found (i found nofun)

theorem findVersion_base_ne {s n : Bytes} {v : VerMatch} (h : findVersion s = some (n, v)) :
    v.baseVer ≠ [] := by
  induction s generalizing n with
  | nil => cases h
  | cons c cs ih =>
    have tl : (findVersion cs).map (fun r => (c :: r.1, r.2)) = some (n, v) → v.baseVer ≠ [] := by
      intro h
      obtain ⟨a, hab, e⟩ := Option.map_eq_some_iff.mp h
      cases e
      exact ih hab
    unfold findVersion at h
    revert h
    refine ite_ind (P := (· = some (n, v) → _)) ?_ tl
    split
    · intro h; cases h; exact matchVersion_base_ne ‹_›
    · exact tl

theorem atomSplit_no_panic (sc : AtomScan) (vnr : Bool) : NoPanic (atomSplit sc vnr) := by
  unfold atomSplit
  split
  · exact ite_ind (.err nofun) .ok
  · exact ite_ind (.err nofun) .ok

theorem atomSplit_ret (sc : AtomScan) (vnr : Bool) : (atomSplit sc vnr).Returns fun p =>
    (∀ v, p.2.2 = some v → v.baseVer ≠ []) ∧ (sc.run = [] → p.1 = []) := by
  unfold atomSplit
  split
  · rename_i np v hf
    exact ite_ind .error (.ok ⟨fun _ e => Option.some.inj e ▸ findVersion_base_ne hf,
      fun hr => by rw [hr] at hf; cases hf⟩)
  · exact ite_ind .error (.ok ⟨nofun, id⟩)

theorem atomBuild_no_panic (sc : AtomScan) (t : Bytes) (vnr : Bool) : NoPanic (atomBuild sc t vnr) := by
  unfold atomBuild
  split
  · exact (atomSplit_no_panic _ _).pass ‹_›
  · rename_i namePart relop vm hs
    split
    · exact .err nofun
    · rename_i cat name hcn
      dsimp only
      split
      · rename_i v
        obtain ⟨da', hda⟩ := versionFields_ok
          { blocker := sc.blocker, hardBlock := sc.hardBlock, repo := sc.repo, useDeps := sc.useDeps,
            category := cat, name := name, atom := t } relop v ((atomSplit_ret _ _ _ hs).1 v rfl)
        rw [hda]; exact .ok
      · exact .ok

/-! ### the scanning half: no panic, forward movement -/

theorem atomTrailer_no_panic (ac : Cur) (dep : Bool) : NoPanic (atomTrailer ac dep) := by
  unfold atomTrailer
  refine ite_ind (ite_ind ?_ .ok) (ite_ind (.err nofun) .ok)
  split
  · exact .ok
  · exact (parseUseDepsLoop_no_panic _ _).pass ‹_›

theorem atomTrailer_suffix (ac : Cur) (dep : Bool) :
    (atomTrailer ac dep).Returns (·.2 <:+ ac) := by
  unfold atomTrailer
  have t := takeUseDepString_suffix ac
  refine ite_ind (ite_ind ?_ (.ok t)) (ite_ind .error (.ok (List.suffix_refl ac)))
  split
  · exact .ok t
  · exact .error

theorem atomScan_no_panic (ac0 : Cur) (dep : Bool) : NoPanic (atomScan ac0 dep) := by
  unfold atomScan
  dsimp only
  split
  · exact (atomTrailer_no_panic _ _).pass ‹_›
  · exact .ok

theorem atomScan_consumes (ac0 : Cur) (dep : Bool) :
    (atomScan ac0 dep).Returns fun p => p.2 <:+ ac0 ∧ (p.1.run ≠ [] → p.2.length < ac0.length) := by
  unfold atomScan
  dsimp only
  split
  · exact .error
  · rename_i u ac h1
    have sN := (atomTrailer_suffix _ _ _ h1).trans ((takeRepo_suffix _).trans (takeSlot_suffix _))
    have sR := (takeRelop_suffix _).trans (takeBlockers_suffix ac0)
    refine .ok ⟨sN.trans ((List.dropWhile_suffix _).trans sR), fun hrun => ?_⟩
    dsimp only at sN hrun ⊢
    have hpos := List.length_pos_iff.mpr hrun
    have hl := congrArg List.length
      (List.takeWhile_append_dropWhile (p := isNameVerChar) (l := (takeRelop (takeBlockers ac0).2.2).2))
    rw [List.length_append] at hl
    have l1 := sN.length_le
    have l2 := sR.length_le
    omega

theorem matchCatName_nil : matchCatName [] = none := by
  simp [matchCatName, splitOn, matchName]

theorem atomBuild_run_ne {sc : AtomScan} {t : Bytes} {vnr : Bool} {pa : ParsedAtom}
    (h : atomBuild sc t vnr = .ok pa) : sc.run ≠ [] := by
  intro hr
  unfold atomBuild at h
  split at h
  · cases h
  · rename_i namePart relop vm hs
    cases (atomSplit_ret _ _ _ hs).2 hr
    rw [matchCatName_nil] at h
    cases h

theorem rawParse_no_panic (ac0 : Cur) (vnr dep : Bool) :
    NoPanic (rawParseAtomAtCursor ac0 vnr dep) := by
  unfold rawParseAtomAtCursor
  split
  · exact (atomScan_no_panic _ _).pass ‹_›
  · split
    · exact (atomBuild_no_panic _ _ _).pass ‹_›
    · exact .ok

theorem rawParse_consumes {ac0 : Cur} {vnr dep : Bool} {pa : ParsedAtom} {ac : Cur}
    (h : rawParseAtomAtCursor ac0 vnr dep = .ok (pa, ac)) :
    ac <:+ ac0 ∧ ac.length < ac0.length := by
  unfold rawParseAtomAtCursor at h
  split at h
  · cases h
  · rename_i sc ac' hs
    split at h
    · cases h
    · rename_i pa' hb
      cases h
      have := atomScan_consumes _ _ _ hs
      exact ⟨this.1, this.2 (atomBuild_run_ne hb)⟩

/-! ### the tokenizer never panics -/

theorem classify_no_panic {tok : Bytes} (h : tok ≠ []) : NoPanic (classify tok) := by
  unfold classify
  refine ite_ind (ite_ind .ok .ok) ?_
  cases hl : tok.getLast? with
  | none => exact absurd (List.getLast?_eq_none_iff.mp hl) h
  | some last => exact ite_ind (ite_ind .ok .ok) .ok

theorem getToken_no_panic (ac : Cur) : NoPanic (getToken ac) := by
  unfold getToken
  dsimp only
  split
  · exact .ok
  · rename_i hne
    split
    · refine (classify_no_panic ?_).pass ‹_›
      cases hd : List.dropWhile (fun c => decide (c ≤ 32)) ac with
      | nil => simp [hd] at hne
      | cons c cs =>
        have hc := List.head?_dropWhile_not (fun c => decide (c ≤ 32)) ac
        simp only [hd, List.head?_cons, decide_eq_false_iff_not, Nat.not_le] at hc
        simp [hc]
    · exact .ok

end Lc.Lemmas.Depend
