/-
  Clean member names through the member-set pipeline (helper lemmas for Props/C06, C17).

  `CleanAbs n` (`Lc.TreeWF.CleanAbs`: `path.Clean n = n` and `n` starts with '/') is what
  `parseLine` guarantees for the name of an add-files line since fix 4c7567e, "add-files names
  are cleaned when a line is read" (`pathClean_cleanAbs`).  For such names the loop step of
  `AddMissingStageDirs` (`parentOf`: cut at the last slash) and `path.Dir` agree and yield a
  clean name again (`pathDir_of_clean`); the invariant `NamesClean` (every member name is
  clean and absolute) is kept by every pipeline step whose own names are clean
  (`NamesClean.stepInv`), in particular by `AddMissingStageDirs` (`addMissing_clean`).
-/
import Lc.Lemmas.StageClosure
import Lc.Lemmas.TreeWF

namespace Lc.Stage
open Lc Lc.Lemmas.Path Lc.ExportPath Lc.InLayers
open Lc.TreeWF (CleanAbs cleanAbs_absPath parent_shape absPath_snoc_eq pfx pathDir_root)

/-- **what the parser's `path.Clean` buys**: the cleaned form of an absolute name is clean
    and absolute -/
theorem pathClean_cleanAbs (s : Bytes) (h : isAbs s = true) : CleanAbs (pathClean s) :=
  ⟨pathClean_idem s, isAbs_pathClean_of_isAbs s h⟩

theorem cleanAbs_root : CleanAbs [SLASH] := by decide

theorem cleanAbs_ne_nil {n : Bytes} (h : CleanAbs n) : n ≠ [] := by
  intro e; rw [e] at h; exact absurd h.2 (by decide)

theorem cleanAbs_head {n : Bytes} (h : CleanAbs n) : ∃ r, n = SLASH :: r := by
  have h2 := h.2
  unfold isAbs at h2
  split at h2
  · exact ⟨_, rfl⟩
  · cases h2

theorem lastSlash_snoc (X c : Bytes) (hc : SLASH ∉ c) :
    lastSlash (X ++ SLASH :: c) = some X.length := by
  unfold lastSlash
  have hr : (X ++ SLASH :: c).reverse = c.reverse ++ SLASH :: X.reverse := by simp
  simp only [hr]
  rw [InUseLemmas.indexByte_append SLASH c.reverse X.reverse (by simpa using hc)]
  simp only [List.length_append, List.length_cons, List.length_reverse]
  congr 1
  omega

/-- the loop step of `AddMissingStageDirs` on `X/c`: `X`, unless `X` is empty -/
theorem parentOf_snoc (X c : Bytes) (hc : SLASH ∉ c) :
    parentOf (X ++ SLASH :: c) = if X = [] then none else some X := by
  unfold parentOf
  rw [lastSlash_snoc X c hc]
  cases X with
  | nil => simp
  | cons x xs =>
    have : ¬ ((x :: xs).length < 1) := by simp
    simp only [this, if_false]
    simp

theorem parentOf_root : parentOf [SLASH] = none := by decide

/-- a clean absolute name other than `/` is `X/c` with `c` a single clean element; `X` is
    empty for a name directly below the root and the clean path of the elements before
    otherwise; `path.Dir` gives the path of the elements before -/
theorem cleanAbs_split {n : Bytes} (hn : CleanAbs n) (hne : n ≠ [SLASH]) :
    ∃ pre c, (∀ x ∈ pre, CleanName x) ∧ CleanName c ∧ n = pfx pre ++ SLASH :: c ∧
      pathDir n = absPath pre := by
  obtain ⟨pre, c, hpre, hc, hk, hd⟩ := parent_shape n hn hne
  exact ⟨pre, c, hpre, hc, by rw [hk, absPath_snoc_eq], hd⟩

theorem pathDir_cleanAbs {n : Bytes} (hn : CleanAbs n) : CleanAbs (pathDir n) := by
  by_cases hne : n = [SLASH]
  · rw [hne]
    have : pathDir [SLASH] = [SLASH] := pathDir_root
    rw [this]; exact cleanAbs_root
  · obtain ⟨pre, c, hpre, _, _, hd⟩ := cleanAbs_split hn hne
    rw [hd]; exact cleanAbs_absPath pre hpre

theorem parentOf_clean {n : Bytes} (hn : CleanAbs n) :
    parentOf n = if pathDir n = [SLASH] then none else some (pathDir n) := by
  by_cases hne : n = [SLASH]
  · have hR : pathDir [SLASH] = [SLASH] := pathDir_root
    rw [hne, parentOf_root, if_pos hR]
  · obtain ⟨pre, c, hpre, hc, hk, hd⟩ := cleanAbs_split hn hne
    rw [hd, hk, parentOf_snoc _ _ hc.1.2.2]
    unfold pfx
    by_cases hpe : pre = []
    · rw [hpe]; rfl
    · have hX : absPath pre ≠ [] := by unfold absPath; simp
      have hR : absPath pre ≠ [SLASH] := TreeWF.absPath_ne_root pre hpre hpe
      rw [if_neg hpe, if_neg hX, if_neg hR]

/-- For a clean absolute name the loop step `parentOf` (cut at the last
    slash, `none` at the top level) yields `path.Dir` of the name, and that is clean and
    absolute again.  (`n ≠ "/"` need not be assumed: `parentOf "/" = none`.) -/
theorem pathDir_of_clean {n p : Bytes} (hn : CleanAbs n) (hp : parentOf n = some p) :
    pathDir n = p ∧ CleanAbs p := by
  rw [parentOf_clean hn] at hp
  split at hp
  · cases hp
  · cases hp
    exact ⟨rfl, pathDir_cleanAbs hn⟩

theorem Anc.clean {d n : Bytes} (h : Anc d n) : CleanAbs n → CleanAbs d := by
  induction h with
  | step hp => intro hn; exact (pathDir_of_clean hn hp).2
  | trans hp _ ih => intro hn; exact ih (pathDir_of_clean hn hp).2

theorem not_anc_root (d : Bytes) : ¬ Anc d [SLASH] := by
  intro h
  obtain ⟨p, hp, _⟩ := anc_iff.mp h
  rw [parentOf_root] at hp
  cases hp

def NamesClean (m : EMap) : Prop := ∀ n ∈ m.names, CleanAbs n

instance (m : EMap) : Decidable (NamesClean m) := by unfold NamesClean; infer_instance

theorem NamesClean.nil : NamesClean [] := by intro n h; cases h

/-- the names a step brings in are clean and absolute: the entry of an add, the new name of a
    cloned device node, the candidates of the symlink recovery.  Deletions, the exclusion and
    `AddMissingStageDirs` bring in no names of their own. -/
def StepClean : Step → Prop
  | .add e => CleanAbs e.name
  | .del _ => True
  | .delGlob _ => True
  | .unstaged _ => True
  | .recover cs => ∀ c ∈ cs, CleanAbs c.name
  | .clone _ name _ => CleanAbs name
  | .exclude => True
  | .closure => True
  | .fail => True

instance (s : Step) : Decidable (StepClean s) := by
  cases s <;> unfold StepClean <;> infer_instance

/-- `AddMissingStageDirs` keeps the names clean: what it adds are `path.Dir`s of members and
    their ancestors -/
theorem addMissing_clean {env : Env} {m m' : EMap} (h : addMissingStageDirs env m = .ok m')
    (hm : NamesClean m) : NamesClean m' := by
  intro n hn
  rcases (addMissing_names h n).mp hn with h0 | ⟨e, he, _, hnd⟩
  · exact hm n h0
  · have hdc := pathDir_cleanAbs (hm e.name (List.mem_map.mpr ⟨e, he, rfl⟩))
    rcases hnd with rfl | ha
    · exact hdc
    · exact ha.clean hdc

/-- **every pipeline step keeps the member names clean** when the names it brings in are -/
theorem NamesClean.stepInv (env : Env) : StepInv env NamesClean CleanAbs where
  filter p h := fun n hn => h n ((names_filter_sublist _ p).subset hn)
  add h he hm := fun n hn => ((addEntry_names h).2 n hn).elim (fun e => e ▸ he) (hm n)
  closure := addMissing_clean

theorem stepClean_iff (x : Step) : StepClean x ↔ ∀ n ∈ x.newNames, CleanAbs n := by
  cases x <;> simp [StepClean, Step.newNames]

end Lc.Stage
