/-
  Insertion sort (`sortBy`, Lc/Base/Sort.lean) returns a permutation of its input in
  which no later element is smaller than an earlier one, for any asymmetric transitive
  `lt`.  Used for Props/C02 (normalizeOrder) and C03 (getMountAndSubmounts).
-/
import Lc.Base.Sort

namespace Lc
theorem insertBy_perm {α} (lt : α → α → Bool) (x : α) (l : List α) : (insertBy lt x l).Perm (x :: l) := by
  induction l with
  | nil => exact List.Perm.refl _
  | cons y ys ih =>
    unfold insertBy
    split
    · exact List.Perm.refl _
    · exact (List.Perm.cons y ih).trans (List.Perm.swap x y ys)

theorem sortBy_perm {α} (lt : α → α → Bool) (l : List α) : (sortBy lt l).Perm l := by
  induction l with
  | nil => exact List.Perm.refl _
  | cons x xs ih =>
    unfold sortBy
    exact (insertBy_perm lt x _).trans (List.Perm.cons x ih)

theorem mem_sortBy {α} (lt : α → α → Bool) (l : List α) (a : α) : a ∈ sortBy lt l ↔ a ∈ l :=
  (sortBy_perm lt l).mem_iff

/-- insertion sort yields a list in which no later element is smaller than an earlier one -/
theorem insertBy_sorted {α} (lt : α → α → Bool)
    (asymm : ∀ a b, lt a b = true → lt b a = false)
    (trans : ∀ a b c, lt a b = true → lt b c = true → lt a c = true)
    (x : α) (l : List α) (hs : l.Pairwise (fun a b => lt b a = false)) :
    (insertBy lt x l).Pairwise (fun a b => lt b a = false) := by
  induction l with
  | nil => simp [insertBy]
  | cons y ys ih =>
    have hp := List.pairwise_cons.mp hs
    unfold insertBy
    split
    · rename_i hxy
      refine List.pairwise_cons.mpr ⟨?_, hs⟩
      intro z hz
      rcases List.mem_cons.mp hz with rfl | hz
      · exact asymm _ _ hxy
      · cases hzx : lt z x with
        | false => rfl
        | true =>
          have := trans _ _ _ hzx hxy
          rw [hp.1 z hz] at this; cases this
    · rename_i hxy
      refine List.pairwise_cons.mpr ⟨?_, ih hp.2⟩
      intro z hz
      rcases List.mem_cons.mp ((insertBy_perm lt x ys).mem_iff.mp hz) with rfl | hz
      · simpa using hxy
      · exact hp.1 z hz

theorem sortBy_sorted {α} (lt : α → α → Bool)
    (asymm : ∀ a b, lt a b = true → lt b a = false)
    (trans : ∀ a b c, lt a b = true → lt b c = true → lt a c = true)
    (l : List α) : (sortBy lt l).Pairwise (fun a b => lt b a = false) := by
  induction l with
  | nil => simp [sortBy]
  | cons x xs ih => unfold sortBy; exact insertBy_sorted lt asymm trans x _ ih

/-- in such a list a strictly smaller element stands before a strictly larger one -/
theorem sorted_lt_before {α} (lt : α → α → Bool) (irrefl : ∀ a, lt a a = false)
    {l : List α} (hs : l.Pairwise (fun a b => lt b a = false)) {a b : α}
    (ha : a ∈ l) (hb : b ∈ l) (hlt : lt a b = true) : ∃ l1 l2, l = l1 ++ a :: l2 ∧ b ∈ l2 := by
  induction l with
  | nil => cases ha
  | cons x xs ih =>
    have hp := List.pairwise_cons.mp hs
    rcases List.mem_cons.mp ha with ha | ha
    · rcases List.mem_cons.mp hb with hb | hb
      · exfalso; rw [ha, hb, irrefl] at hlt; cases hlt
      · exact ⟨[], xs, by rw [ha]; rfl, hb⟩
    · rcases List.mem_cons.mp hb with hb | hb
      · exfalso
        have h1 := hp.1 a ha
        rw [hb] at hlt
        rw [h1] at hlt; cases hlt
      · obtain ⟨l1, l2, e, hb2⟩ := ih hp.2 ha hb
        exact ⟨x :: l1, l2, by rw [e]; rfl, hb2⟩
end Lc
