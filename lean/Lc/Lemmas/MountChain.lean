/-
  The pass of `mount` over the base chain (`mountChain`) on the kernel table, in a first and
  in a second run: helper lemmas for Props/C01 (`mount_idempotent`); the whole command is
  put together in Lemmas/MountTwice.

  * what directory creation and `mountOne` return: the same cache, the same layer cores,
  * first run: after a successful, non-pretending `mountChain` every chain layer has all its
    mountpoints mounted in the kernel table (`mountChain_mounts`),
  * second run: with all mountpoints of the chain mounted and a cache that shows them,
    `mountChain` leaves the world untouched (`mountChain_noop`).
-/
import Lc.Lemmas.LayerCore
import Lc.Lemmas.ForestInv
import Lc.Lemmas.MountKernel
import Lc.Lemmas.MountArgs

namespace Lc.MountChain
open Std.Do Lc Lc.Layers Lc.Hoare Lc.Mountinfo Lc.Kernel Lc.KernelProbe Lc.Trace Lc.MountTrace
open Lc.FsGrow Lc.MountKernel Lc.MountArgs Lc.LayerCore

/-! ### what the blocks return -/

theorem leq_setLayer_of_state {cfg : Config} {fs : Fs.Tree} {d dx : Defs} {n : Bytes} {l l' : Layer}
    (hl : findLayer d n = some l) (h : findLayerstate cfg fs dx l = .ok l') : LEq d (setLayer d l') := by
  have hc := findLayerstate_core h
  have hn : l'.name = n := by
    rw [core_eq_iff] at hc
    rw [hc.1]
    exact ForestInv.find_name hl
  exact LEq.setLayer (l := l) (by rw [hn]; exact hl) hc

theorem mkChainDirs_ret (cfg : Config) (chain : List Layer) (d : Defs) :
    Hoare.Ret (mkChainDirs cfg chain d) (fun d' => d'.mounts = d.mounts ∧ LEq d d') :=
  mkChainDirs_rel cfg (fun d d' => d'.mounts = d.mounts ∧ LEq d d') (fun _ => ⟨rfl, LEq.refl _⟩)
    (fun _ _ _ h1 h2 => ⟨h2.1.trans h1.1, h1.2.trans h2.2⟩)
    (fun _ _ _ _ _ hl hs => ⟨rfl, leq_setLayer_of_state hl hs⟩) chain d

/-- `mountOne` returns the same layer cores -/
theorem mountOne_leq {cfg : Config} {d d' : Defs} {name : Bytes} {w w' : World}
    (h : (mountOne cfg d name).run.run w = (.ok d', w')) : LEq d d' := by
  obtain ⟨_, _, _, d2, l2, l', _, _, _, _, _, hlay, hl2, hst, rfl⟩ := mountOne_ok_inv h
  exact ((LEq.overlain d d2.mounts _).trans (LEq.of_layers hlay)).trans (leq_setLayer_of_state hl2 hst)

/-! ### first run: every chain layer ends up with all its mountpoints mounted -/

/-- the build path of a derived layer and every import mountpoint carry a mount in `k` -/
def PointsMounted (cfg : Config) (l : Layer) (k : KTable) : Prop :=
  (l.base.length > 0 → HasMount k (buildPath cfg l)) ∧
  ∀ m ∈ l.cmounts, HasMount k (pathJoin [buildPath cfg l, m.mount])

theorem PointsMounted.ext {cfg : Config} {l : Layer} {k k' : KTable} (h : PointsMounted cfg l k)
    (he : Ext k k') : PointsMounted cfg l k' :=
  ⟨fun hb => he.hasMount (h.1 hb), fun m hm => he.hasMount (h.2 m hm)⟩

theorem PointsMounted.core {cfg : Config} {l l' : Layer} {k : KTable} (h : PointsMounted cfg l k)
    (hc : core l' = core l) : PointsMounted cfg l' k := by
  rw [core_eq_iff] at hc
  unfold PointsMounted buildPath at *
  rw [hc.2.1, hc.2.2.1, hc.2.2.2]
  exact h

/-- the cache shows no mountpoint the kernel table does not have -/
def CacheSound (d : Defs) (w : World) : Prop := ∀ p, getMount d.mounts p ≠ none → HasMount w.kt p

/-- one layer of the chain: the hypotheses hold again for the next layer, and this layer's
    mountpoints are mounted -/
theorem mountOne_step {cfg : Config} {d d' : Defs} {name : Bytes} {w w' : World}
    (hp : NP w) (hwf : KWF w.kt) (hd : DefsOK cfg d) (hcs : CacheSound d w)
    (h : (mountOne cfg d name).run.run w = (.ok d', w')) :
    NP w' ∧ KWF w'.kt ∧ KGrow w w' ∧ LEq d d' ∧ DefsOK cfg d' ∧ CacheSound d' w' ∧
      Kernel.probe w'.kt = .ok d'.mounts ∧
      ∃ l, findLayer d name = some l ∧ PointsMounted cfg l w'.kt := by
  obtain ⟨hp', hext, hprobe, l, ex, hl, hex, hov, hit, _⟩ := mountOne_run_ok cfg d name w w' d' hp h
  have hwf' : KWF w'.kt := by
    have := extract KW _ (mountOne_kw hd name) w hwf
    rw [h] at this
    exact this
  have hk : KGrow w w' := by
    have := extract (KGrow w) _ (mountOne_kgrow w cfg d name) w (KGrow.refl w)
    rw [h] at this
    exact this
  have hle := mountOne_leq h
  refine ⟨hp', hwf', hk, hle, LayerCore.DefsOK.of_sub hd hle.symm.sub, ?_, hprobe, l, hl, ?_, ?_⟩
  · intro p hpne
    exact (probe_getMount_iff hwf' hprobe p).mp hpne
  · intro hb
    rcases hov hb with hc | hm
    · exact hext.hasMount (hcs _ hc)
    · exact hm
  · intro m hm
    obtain ⟨e, he, hme⟩ := (Expand.expand_forall₂ hex).mem_left m hm
    rw [← hme.1]
    rcases hit e he with hc | hm
    · exact hext.hasMount (hcs _ hc)
    · exact hm

theorem mountChain_nil (cfg : Config) (d : Defs) (w : World) :
    (mountChain cfg [] d).run.run w = (.ok d, w) := rfl

theorem mountChain_cons (cfg : Config) (a : Layer) (as : List Layer) (d : Defs) :
    mountChain cfg (a :: as) d = (mountOne cfg d a.name >>= fun d1 => mountChain cfg as d1) := by
  unfold mountChain
  rw [List.foldlM_cons]

/-- **first run**: after a successful, non-pretending pass over the chain the kernel table is
    still well-formed, only grew, and carries a mount on every mountpoint of every chain layer;
    the returned cache is sound for it -/
theorem mountChain_mounts (cfg : Config) : ∀ (chain : List Layer) (d d' : Defs) (w w' : World),
    NP w → KWF w.kt → DefsOK cfg d → CacheSound d w →
    (mountChain cfg chain d).run.run w = (.ok d', w') →
    NP w' ∧ KWF w'.kt ∧ KGrow w w' ∧ LEq d d' ∧
      ∀ a ∈ chain, ∀ l, findLayer d a.name = some l → PointsMounted cfg l w'.kt := by
  intro chain
  induction chain with
  | nil =>
    intro d d' w w' hp hwf _ _ h
    rw [mountChain_nil] at h
    cases h
    exact ⟨hp, hwf, KGrow.refl _, LEq.refl _, fun a ha => by cases ha⟩
  | cons a as ih =>
    intro d d' w w' hp hwf hd hcs h
    rw [mountChain_cons] at h
    obtain ⟨d1, w1, h1, h2⟩ := RunM.bind_ok_inv _ _ _ _ _ h
    obtain ⟨hp1, hwf1, hk1, hle1, hd1, hcs1, _, la, hla, hpa⟩ := mountOne_step hp hwf hd hcs h1
    obtain ⟨hp2, hwf2, hk2, hle2, hrest⟩ := ih d1 d' w1 w' hp1 hwf1 hd1 hcs1 h2
    refine ⟨hp2, hwf2, hk1.trans hk2, hle1.trans hle2, ?_⟩
    intro x hx l hl
    rcases List.mem_cons.mp hx with rfl | hx
    · rw [hla] at hl
      cases hl
      exact hpa.ext hk2.2.1
    · obtain ⟨l1, hl1, hc1⟩ := hle1.sub _ l hl
      exact (hrest x hx l1 hl1).core hc1.symm

/-! ### second run: with everything mounted and cached, nothing happens -/

/-- the cache shows every mountpoint the kernel table has -/
def CacheComplete (d : Defs) (w : World) : Prop := ∀ p, HasMount w.kt p → getMount d.mounts p ≠ none

theorem mountOverlay_cached {cfg : Config} {d : Defs} {l : Layer}
    (h : l.base.length > 0 → Cached d (buildPath cfg l)) : mountOverlay cfg d l = pure () := by
  unfold mountOverlay
  split
  · rename_i hb
    have hc := h hb
    unfold Cached at hc
    cases hg : getMount d.mounts (buildPath cfg l) with
    | none => exact absurd hg hc
    | some x => simp
  · rfl

theorem mountItem_cached {cfg : Config} {d : Defs} {m : Expanded} (h : Cached d m.mount) :
    mountItem cfg d m = pure () := by
  unfold mountItem
  unfold Cached at h
  cases hg : getMount d.mounts m.mount with
  | none => exact absurd hg h
  | some x => simp

theorem mountItems_cached {cfg : Config} {d : Defs} : ∀ (ex : List Expanded),
    (∀ e ∈ ex, Cached d e.mount) → mountItems cfg d ex = pure () := by
  intro ex
  induction ex with
  | nil => intro _; rfl
  | cons m ms ih =>
    intro h
    rw [mountItems_cons, mountItem_cached (h m (by simp)), pure_bind]
    exact ih (fun e he => h e (by simp [he]))

/-- the world is the reference world -/
def Same (w0 w : World) : Prop := w = w0

/-- with the mountpoints of the layer mounted and the cache complete, `mountOne` does not touch
    the world (whatever it returns) -/
theorem mountOne_noop {cfg : Config} {d : Defs} {name : Bytes} (w0 : World)
    (hcc : CacheComplete d w0) (hpts : ∀ l, findLayer d name = some l → PointsMounted cfg l w0.kt) :
    Holds (Same w0) (mountOne cfg d name) := by
  apply mountOne_holds
  · intro l hl
    rw [mountOverlay_cached (fun hb => hcc _ ((hpts l hl).1 hb))]
    exact pure_holds _ _
  · intro l ex hl hex
    rw [mountItems_cached ex]
    · exact pure_holds _ _
    · intro e he
      obtain ⟨m, hm, hme⟩ := Expand.expand_mem hex e he
      unfold Cached
      rw [hme.1]
      exact hcc _ ((hpts l hl).2 m hm)

/-- **second run**: with every mountpoint of every chain layer mounted, a well-formed table
    and a complete cache, the pass over the chain leaves the world as it is -/
theorem mountChain_noop (cfg : Config) : ∀ (chain : List Layer) (d : Defs) (w : World),
    NP w → KWF w.kt → CacheComplete d w →
    (∀ a ∈ chain, ∀ l, findLayer d a.name = some l → PointsMounted cfg l w.kt) →
    ((mountChain cfg chain d).run.run w).2 = w := by
  intro chain
  induction chain with
  | nil => intro d w _ _ _ _; rfl
  | cons a as ih =>
    intro d w hp hwf hcc hpts
    rw [mountChain_cons, RunM.run_bind]
    have hsame := extract (Same w) _ (mountOne_noop w hcc (hpts a (by simp))) w rfl
    generalize hr : (mountOne cfg d a.name).run.run w = r at hsame
    obtain ⟨res, w1⟩ := r
    have hw1 : w1 = w := hsame
    subst hw1
    cases res with
    | error e => rfl
    | ok d1 =>
      simp only []
      obtain ⟨_, _, hprobe, _⟩ := mountOne_run_ok cfg d a.name w1 w1 d1 hp hr
      have hle := mountOne_leq hr
      apply ih d1 w1 hp hwf
      · intro p hm
        exact (probe_getMount_iff hwf hprobe p).mpr hm
      · intro x hx l1 hl1
        obtain ⟨l, hl, hc⟩ := hle.symm.sub _ l1 hl1
        exact (hpts x (by simp [hx]) l hl).core hc.symm

end Lc.MountChain
