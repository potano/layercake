/-
  The reader with bufio.Scanner's 64 KiB token limit (`readLayerFileScanner`) against the
  reader of the command model (`readLayerFile`), and bufio.ScanLines on text written one
  line per chunk: helper lemmas for Props/C11 and for the mountinfo parser.
-/
import Lc.Model.Layerfile

namespace Lc.Lemmas.LayerfileScanner
open Lc Lc.Layerfile Lc.Mountinfo

theorem scanLines_eq_rawLines (text : Bytes) : scanLines text = (rawLines text).map dropCR := by
  unfold scanLines rawLines
  simp only
  generalize splitOn 10 text = parts
  rcases hr : parts.reverse with _ | ⟨a, r⟩
  · rfl
  · cases a <;> rfl

theorem takeWhile_all {α} (p : α → Bool) (l : List α) (h : ∀ a ∈ l, p a = true) : l.takeWhile p = l := by
  simpa using List.takeWhile_append_of_pos (l₂ := []) h

theorem takeWhile_short {α} (p : α → Bool) (l : List α) (h : ∃ a ∈ l, p a = false) :
    (l.takeWhile p).length < l.length := by
  induction l with
  | nil => obtain ⟨a, ha, _⟩ := h; cases ha
  | cons x xs ih =>
    simp only [List.takeWhile_cons]
    by_cases hx : p x = true
    · simp only [hx, if_true, List.length_cons]
      obtain ⟨a, ha, hpa⟩ := h
      have : a ∈ xs := by
        rcases List.mem_cons.mp ha with rfl | h'
        · rw [hx] at hpa; cases hpa
        · exact h'
      have := ih ⟨a, this, hpa⟩
      omega
    · simp [hx]

/-! ### bufio.ScanLines on "one line per chunk" text -/

theorem dropCR_id (b : Bytes) (h : 13 ∉ b) : dropCR b = b := by
  unfold dropCR
  split
  · rename_i r hr
    exact absurd (List.mem_reverse.mp (hr ▸ List.mem_cons_self)) h
  · rfl

theorem splitOn_lines (bodies : List Bytes) (h : ∀ b ∈ bodies, 10 ∉ b) :
    splitOn 10 (bodies.flatMap (· ++ [10])) = bodies ++ [[]] := by
  induction bodies with
  | nil => rfl
  | cons b rest ih =>
    simp only [List.flatMap_cons, List.append_assoc, List.singleton_append]
    rw [splitOn_append_sep 10 b _ (h b (by simp)), ih (fun x hx => h x (by simp [hx]))]
    rfl

theorem scanLines_lines (bodies : List Bytes) (h10 : ∀ b ∈ bodies, 10 ∉ b)
    (hcr : ∀ b ∈ bodies, dropCR b = b) : scanLines (bodies.flatMap (· ++ [10])) = bodies := by
  unfold scanLines
  rw [splitOn_lines bodies h10]
  simp only [List.reverse_append, List.reverse_cons, List.reverse_nil, List.nil_append,
    List.singleton_append, List.reverse_reverse]
  rw [List.map_congr_left hcr, List.map_id']

end Lc.Lemmas.LayerfileScanner
