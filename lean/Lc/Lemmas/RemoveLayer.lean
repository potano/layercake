/-
  `removeLayer` relative to a reference world `w0`.  Helper lemmas for Props/C09.

  `Same ex w0 w`: world `w` differs from `w0` at most at or below the paths `ex` (the automatic
  export links) and has the same pretend switch.  Everything before the end block `removeFiles`
  (Lemmas/CmdBlocks.lean) keeps it.  `removeLayer_via` walks the command up to that block and
  hands its caller what is known there; each outcome (`removeLayer_outcome`, `_deleted`,
  `_blocked`, `_rm_kept`) is then a statement about the block alone.  `remove_outcome` is
  `removeLayer_outcome` for a run from `w0` itself, path by path.
-/
import Lc.Lemmas.Trace
import Lc.Lemmas.FsRename
namespace Lc.RemoveLayer
open Std.Do Lc Lc.Layers Lc.Hoare Lc.FsRename
set_option mvcgen.warning false

def Same (ex : List Bytes) (w0 w : World) : Prop :=
  w.pretend = w0.pretend ∧ ∀ p, (∀ m ∈ ex, Fs.under m p = false) → Fs.get w.fs p = Fs.get w0.fs p

theorem same_refl (ex : List Bytes) (w : World) : Same ex w w := ⟨rfl, fun _ _ => rfl⟩

theorem fsStep_done (ex : List Bytes) (w0 : World) (hp : w0.pretend = false) (op : Op)
    (f : Fs.Tree → Except String Fs.Tree) (Q : World → Prop)
    (hok : ∀ w fs', Same ex w0 w → f w.fs = .ok fs' → Q { w.log op with fs := fs' }) :
    HoldsOk (Same ex w0) (fun _ w => Q w) (fsStep op f) :=
  triple_of_run _ _ _ _ fun w hs => by
    rw [RunM.run_fsStep]
    rcases RunM.gate_cases w with ⟨hpr, _⟩ | ⟨_, e, h⟩ | ⟨_, h⟩
    · rw [hs.1, hp] at hpr
      cases hpr
    · rw [h]
      trivial
    · rw [h]
      dsimp only
      cases hf : f w.tick.fs
      · trivial
      · exact hok w.tick _ hs hf

theorem fsRemove_same (ex : List Bytes) (w0 : World) (m : Bytes) (hm : m ∈ ex) :
    Holds (Same ex w0) (fsRemove m) :=
  Trace.fsStep_inv _ _ (Trace.gate_inv (fun _ h => h) (fun _ h => h)) (fun _ h => h) (fun _ h => h)
    fun w fs' hs hf => by
      cases hf
      exact ⟨hs.1, fun p hp => (get_removeAll_not_under _ _ _ (hp m hm)).trans (hs.2 p hp)⟩

def exPaths (cfg : Config) (l : Layer) : List Bytes := (autoExportPaths cfg l).map (·.1)

theorem removeLayerExportLinks_same (w0 : World) (cfg : Config) (l : Layer) :
    Holds (Same (exPaths cfg l) w0) (removeLayerExportLinks cfg l) := by
  have h := fsRemove_same (exPaths cfg l) w0
  have h1 := fExists_inv (Same (exPaths cfg l) w0) (Same (exPaths cfg l) w0)
  have h2 := fIsSymlink_inv (Same (exPaths cfg l) w0) (Same (exPaths cfg l) w0)
  unfold Holds Respects at *
  mvcgen [removeLayerExportLinks, fail, h, h1, h2] invariants
  · post⟨fun _ w => ⌜Same (exPaths cfg l) w0 w⌝, fun _ w => ⌜Same (exPaths cfg l) w0 w⌝⟩
  -- left: the link removed is one of the export paths
  have hsplit := ‹autoExportPaths cfg l = _›
  exact List.mem_map.2 ⟨_, by rw [hsplit]; exact List.mem_append_right _ (List.mem_cons_self ..), rfl⟩

def Deleted (lp : Bytes) (w : World) : Prop :=
  (∀ p, Fs.under lp p = true → Fs.get w.fs p = none) ∧ Op.remove lp ∈ w.trace

theorem fsRemove_deleted (ex : List Bytes) (w0 : World) (lp : Bytes) (hp : w0.pretend = false) :
    HoldsOk (Same ex w0) (fun _ w => Deleted lp w) (fsRemove lp) :=
  fsStep_done ex w0 hp _ _ _ fun w fs' _ hf => by
    cases hf
    exact ⟨fun p hu => get_removeAll_under _ _ _ hu, List.mem_append_right _ (List.mem_singleton.2 rfl)⟩

def Moved (ex : List Bytes) (lp new : Bytes) (w0 w : World) : Prop :=
  ∀ rest, Tail rest → (∀ m ∈ ex, Fs.under m (lp ++ rest) = false) →
    Fs.get w.fs (new ++ rest) = Fs.get w0.fs (lp ++ rest)

theorem fsRename_moved (ex : List Bytes) (w0 : World) (lp : Bytes) (hp : w0.pretend = false) :
    HoldsOk (Same ex w0)
      (fun _ w => lp ≠ [47] ∧ Moved ex lp (lp ++ removedSuffix) w0 w ∧ Op.rename lp (lp ++ removedSuffix) ∈ w.trace)
      (fsRename lp (lp ++ removedSuffix)) :=
  fsStep_done ex w0 hp _ _ _ fun w fs' hs hr => by
    have hlp : lp ≠ [47] := by
      rintro rfl
      exact (Fs.rename_ok _ _ _ _ hr).2.2.1 (by simp [Fs.under, hasPrefix, removedSuffix])
    refine ⟨hlp, fun rest ht hex => ?_, List.mem_append_right _ (List.mem_singleton.2 rfl)⟩
    exact (rename_moves _ _ _ _ hr hlp
      (fun e _ hu => under_sibling_disjoint lp b!"removed" e.1 126 (by decide) hlp hu) rest ht).trans (hs.2 _ hex)

/-- a pure fact about the reference world: every entry at or below the layer directory (and
    not at/below an automatic export link) is a directory or one of the layer's own files -/
def OwnOnly (cfg : Config) (l : Layer) (w0 : World) : Prop :=
  ∀ p node, (∀ m ∈ exPaths cfg l, Fs.under m p = false) → Fs.under l.layerPath p = true →
    Fs.get w0.fs p = some node → node = .dir ∨ p ∈ ownFiles cfg l

theorem ownOnly_of_same (cfg : Config) (l : Layer) (w0 w : World)
    (hs : Same (exPaths cfg l) w0 w) (ho : onlyOwnFiles cfg l w.fs = true) : OwnOnly cfg l w0 := by
  intro p node hex hu hget
  rw [← hs.2 p hex] at hget
  have hm := Fs.get_some_mem _ _ _ hget
  unfold onlyOwnFiles at ho
  have := (List.all_eq_true.1 ho) _ hm
  simp only [hu, Bool.not_true, Bool.false_or, Bool.or_eq_true,
    List.contains_eq_mem, decide_eq_true_eq] at this
  rcases this with h | h
  · cases node
    · exact .inl rfl
    all_goals cases h
  · exact .inr h

/-- `removeLayer` of a layer found in the table, given what its end block does.  The block is
    reached only when nothing depends on the layer, and deletes outright only with `-files` or
    when the layer was probed as not yet populated and holds nothing but its own files. -/
theorem removeLayer_via (cfg : Config) (d : Defs) (name : Bytes) (files : Bool) (l : Layer) (w0 : World)
    (hl : findLayer d name = some l) {Q E : World → Prop} (hE : ∀ w, Same (exPaths cfg l) w0 w → E w)
    (ht : hasChild d name = false → ∀ o, (o = true → files = true ∨ l.state = S_complete ∧ OwnOnly cfg l w0) →
      (files = true → o = true) →
      ⦃fun w => ⌜Same (exPaths cfg l) w0 w⌝⦄ removeFiles d name l o ⦃post⟨fun _ w => ⌜Q w⌝, fun _ w => ⌜E w⌝⟩⦄) :
    ⦃fun w => ⌜Same (exPaths cfg l) w0 w⌝⦄ removeLayer cfg d name files
    ⦃post⟨fun _ w => ⌜Q w⌝, fun _ w => ⌜E w⌝⟩⦄ := by
  have h1 := testName_inv hE d
  have h2 := errorIfError_inv hE
  have h3 := errorIfBusy_inv hE
  have h4 := removeLayerExportLinks_same w0 cfg l
  have hg : getL d name = pure l := by simp [getL, hl]
  unfold Holds Respects at *
  rw [removeLayer_eq, hg]
  mvcgen [h1, h2, h3, h4, ht, fail, getW, holdsOnlyOwnFiles]
  all_goals first
    | exact hE _ ‹_›
    | exact hE _
    | exact Bool.eq_false_iff.2 ‹_›
    | exact Or.inl ‹_›
    | exact fun ho => Or.inr ⟨eq_of_beq ‹_›, ownOnly_of_same _ _ _ _ ‹_› ho⟩
    | (intro h; first | trivial | cases h | exact absurd h ‹_›)

/-- `remove` without `-files`, any probed state: after a normal return either the directory
    was renamed to `<dir>~removed` (everything moved), or it was deleted outright — and then
    the probed state was "not yet populated" and the directory held directories and the
    layer's own files only -/
theorem removeLayer_outcome (cfg : Config) (d : Defs) (name : Bytes) (l : Layer) (w0 : World)
    (hl : findLayer d name = some l) (hp : w0.pretend = false) :
    HoldsOk (Same (exPaths cfg l) w0)
      (fun _ w => (l.layerPath ≠ [47] ∧ Moved (exPaths cfg l) l.layerPath (l.layerPath ++ removedSuffix) w0 w
        ∧ Op.rename l.layerPath (l.layerPath ++ removedSuffix) ∈ w.trace)
        ∨ (Deleted l.layerPath w ∧ l.state = S_complete ∧ OwnOnly cfg l w0))
      (removeLayer cfg d name false) := by
  refine removeLayer_via cfg d name false l w0 hl (fun _ _ => trivial) fun _ o ho _ => ?_
  cases o
  · have hR := fsRename_moved (exPaths cfg l) w0 l.layerPath hp
    have hx := fExists_inv (Same (exPaths cfg l) w0) (fun _ => True)
    unfold HoldsOk Respects at *
    mvcgen [removeFiles, reorder, fail, hx, hR]
    exact Or.inl ‹_›
  · obtain ⟨hst, hown⟩ := (ho rfl).resolve_left Bool.false_ne_true
    have hD := fsRemove_deleted (exPaths cfg l) w0 l.layerPath hp
    unfold HoldsOk at *
    mvcgen [removeFiles, reorder, hD]
    exact Or.inr ⟨‹_›, hst, hown⟩

/-- `remove` without `-files` after a normal return, path by path: either one `rename` moved
    the layer directory to `<layerPath>~removed` (every path below it that is not at/below an
    automatic export link is found, present or absent, at the same relative place), or the
    directory was deleted outright, and then the probed state was "not yet populated" and the
    directory held only directories and the layer's own files. -/
theorem remove_outcome (cfg : Config) (d d' : Defs) (name : Bytes) (l : Layer)
    (w0 w' : World) (hl : findLayer d name = some l) (hp : w0.pretend = false)
    (hrun : (removeLayer cfg d name false).run.run w0 = (.ok d', w')) :
    ((∀ p, Fs.under l.layerPath p = true →
        (∀ m ∈ autoExportPaths cfg l, Fs.under m.1 p = false) →
        Fs.get w'.fs (l.layerPath ++ removedSuffix ++ p.drop l.layerPath.length) = Fs.get w0.fs p) ∧
      Op.rename l.layerPath (l.layerPath ++ removedSuffix) ∈ w'.trace) ∨
    (Deleted l.layerPath w' ∧ l.state = S_complete ∧ OwnOnly cfg l w0) := by
  have h := extractBoth _ _ _ _ (removeLayer_outcome cfg d name l w0 hl hp) w0 (same_refl _ w0)
  rw [hrun] at h
  rcases h with ⟨hlp, hm, ht⟩ | h
  · refine Or.inl ⟨fun p hu hexp => ?_, ht⟩
    obtain ⟨rest, htl, rfl⟩ := (under_iff l.layerPath p hlp).1 hu
    rw [List.drop_left]
    exact hm rest htl (List.forall_mem_map.2 hexp)
  · exact Or.inr h

theorem removeLayer_deleted (cfg : Config) (d : Defs) (name : Bytes) (l : Layer) (w0 : World)
    (hl : findLayer d name = some l) (hp : w0.pretend = false) :
    HoldsOk (Same (exPaths cfg l) w0) (fun _ w => Deleted l.layerPath w) (removeLayer cfg d name true) := by
  refine removeLayer_via cfg d name true l w0 hl (fun _ _ => trivial) fun _ o _ ho => ?_
  have hD := fsRemove_deleted (exPaths cfg l) w0 l.layerPath hp
  rw [ho rfl]
  unfold HoldsOk at *
  mvcgen [removeFiles, reorder, hD]

theorem removeFiles_blocked (cfg : Config) (d : Defs) (name : Bytes) (l : Layer) (w0 : World)
    (hre : Fs.lexists w0.fs (l.layerPath ++ removedSuffix) = true)
    (hexp : ∀ m ∈ exPaths cfg l, Fs.under m (l.layerPath ++ removedSuffix) = false)
    {Q E : World → Prop} (hE : ∀ w, Same (exPaths cfg l) w0 w → E w) :
    ⦃fun w => ⌜Same (exPaths cfg l) w0 w⌝⦄ removeFiles d name l false
    ⦃post⟨fun _ w => ⌜Q w⌝, fun _ w => ⌜E w⌝⟩⦄ := by
  mvcgen [removeFiles, fail, fExists, getW]
  · exact hE _ ‹_›
  · rename_i s hs _ hc
    have := hs.2 _ hexp
    unfold Fs.lexists at hre hc
    rw [this] at hc
    exact absurd hre hc

/-- the run fails, and the world differs from the start only below the export paths -/
theorem removeLayer_blocked (cfg : Config) (d : Defs) (name : Bytes) (l : Layer) (w0 : World)
    (hl : findLayer d name = some l) (hst : l.state = S_complete → ¬ OwnOnly cfg l w0)
    (hre : Fs.lexists w0.fs (l.layerPath ++ removedSuffix) = true)
    (hexp : ∀ m ∈ exPaths cfg l, Fs.under m (l.layerPath ++ removedSuffix) = false) :
    ⦃fun w => ⌜Same (exPaths cfg l) w0 w⌝⦄ removeLayer cfg d name false
    ⦃post⟨fun _ _ => ⌜False⌝, fun _ w => ⌜Same (exPaths cfg l) w0 w⌝⟩⦄ := by
  refine removeLayer_via cfg d name false l w0 hl (fun _ h => h) fun _ o ho _ => ?_
  cases o
  · exact removeFiles_blocked cfg d name l w0 hre hexp fun _ h => h
  · obtain ⟨hs, hown⟩ := (ho rfl).resolve_left Bool.false_ne_true
    exact absurd hown (hst hs)

/-- `remove` without `-files` when `<dir>~removed` exists, any probed state, any exit: the
    world differs from the start only at/below the layer directory itself and the export
    paths — in particular not at/below `<dir>~removed` -/
theorem removeLayer_rm_kept (cfg : Config) (d : Defs) (name : Bytes) (l : Layer) (w0 : World)
    (hl : findLayer d name = some l)
    (hre : Fs.lexists w0.fs (l.layerPath ++ removedSuffix) = true)
    (hexp : ∀ m ∈ exPaths cfg l, Fs.under m (l.layerPath ++ removedSuffix) = false) :
    ⦃fun w => ⌜Same (exPaths cfg l) w0 w⌝⦄ removeLayer cfg d name false
    ⦃post⟨fun _ w => ⌜Same (l.layerPath :: exPaths cfg l) w0 w⌝,
          fun _ w => ⌜Same (l.layerPath :: exPaths cfg l) w0 w⌝⟩⦄ := by
  have hmono : ∀ w, Same (exPaths cfg l) w0 w → Same (l.layerPath :: exPaths cfg l) w0 w :=
    fun w h => ⟨h.1, fun p hp => h.2 p fun m hm => hp m (List.mem_cons_of_mem _ hm)⟩
  refine removeLayer_via cfg d name false l w0 hl hmono fun _ o _ _ => ?_
  cases o
  · exact removeFiles_blocked cfg d name l w0 hre hexp hmono
  · have hD := fsRemove_same (l.layerPath :: exPaths cfg l) w0 l.layerPath (List.mem_cons_self ..)
    unfold Holds at *
    mvcgen [removeFiles, reorder, hD]
    exact hmono _ ‹_›

end Lc.RemoveLayer
