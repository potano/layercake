/-
  Rune-level facts about Go's UTF-8 decoding as modelled in Lc/Base/Utf8.lean:
  decoding is local (an ASCII byte, or any byte that is not a continuation byte, starts a
  new rune whatever precedes it), `strings.Fields` yields space-free non-empty tokens
  that stay single tokens when re-joined with blanks, `strings.TrimSpace` leaves such a
  join alone (helper lemmas for Props/C11, read_write_read).  Last section: the stretches
  of code points in which `unicode.IsLetter`/`IsDigit` are false (`not_letter`; white space
  lies in them, `space_not_letter`), used for layer names.
-/
import Lc.Base.Utf8
import Lc.Lemmas.Ite

namespace Lc.Lemmas.Runes
open Lc

abbrev Rune := Nat × Bytes

/-- runes without their byte offsets -/
def rs (s : Bytes) : List Rune := (runes s).map (·.2)

/-- effective width of the first rune (Go never advances by 0) -/
def width (s : Bytes) : Nat := if (decodeRune s).2 = 0 then 1 else (decodeRune s).2

/-! ### decodeRune: case analysis -/

/-- the first byte (if any) is not a UTF-8 continuation byte -/
def NCH (t : Bytes) : Prop := ∀ c, t.head? = some c → isCont c = false

theorem ite_same {α} {c : Prop} [Decidable c] {x x' y y' : α} (hx : x = x') (hy : y = y') :
    ite c x y = ite c x' y' := by rw [hx, hy]

/-- the window Go allows for the second byte of a 3- or 4-byte sequence lies inside the
    continuation bytes -/
theorem window_cont (lo hi c : Nat) (hlo : 0x80 ≤ lo) (hhi : hi ≤ 0xBF) (hc : isCont c = false) :
    (decide (lo ≤ c) && decide (c ≤ hi)) = false := by
  simp [isCont] at hc ⊢; omega

/- Both sides are the same decision tree on `b0`; in each lead-byte class the bytes looked at
   are either all in `a`, or the first one taken from `t` fails its test. -/
theorem decodeRune_append (b0 : Nat) (a t : Bytes) (h : NCH t) :
    decodeRune (b0 :: (a ++ t)) = decodeRune (b0 :: a) := by
  unfold decodeRune
  refine ite_same rfl (ite_same ?_ (ite_same ?_ (ite_same ?_ rfl)))
  · rcases a with _ | ⟨b1, tl⟩
    · rcases t with _ | ⟨c1, tl⟩
      · rfl
      · simp [h c1 rfl]
    · rfl
  · rcases a with _ | ⟨b1, _ | ⟨b2, tl⟩⟩
    · rcases t with _ | ⟨c1, _ | ⟨c2, tl⟩⟩
      · rfl
      · rfl
      · have := h c1 rfl
        simp only [List.nil_append]
        rw [window_cont _ _ c1 (by split <;> omega) (by split <;> omega) this]
        rfl
    · rcases t with _ | ⟨c1, tl⟩
      · rfl
      · simp [h c1 rfl]
    · rfl
  · rcases a with _ | ⟨b1, _ | ⟨b2, _ | ⟨b3, tl⟩⟩⟩
    · rcases t with _ | ⟨c1, _ | ⟨c2, _ | ⟨c3, tl⟩⟩⟩
      · rfl
      · rfl
      · rfl
      · have := h c1 rfl
        simp only [List.nil_append]
        rw [window_cont _ _ c1 (by split <;> omega) (by split <;> omega) this]
        rfl
    · rcases t with _ | ⟨c1, _ | ⟨c2, tl⟩⟩
      · rfl
      · rfl
      · simp [h c1 rfl]
    · rcases t with _ | ⟨c1, tl⟩
      · rfl
      · simp [h c1 rfl]
    · rfl

theorem ite_bd {α} {c : Prop} [Decidable c] (x y : α × Nat) (n : Nat)
    (hx : 1 ≤ x.2 ∧ x.2 ≤ n) (hy : 1 ≤ y.2 ∧ y.2 ≤ n) :
    1 ≤ (if c then x else y).2 ∧ (if c then x else y).2 ≤ n :=
  ite_ind (P := fun v : α × Nat => 1 ≤ v.2 ∧ v.2 ≤ n) hx hy

theorem decodeRune_width (b0 : Nat) (rest : Bytes) :
    1 ≤ (decodeRune (b0 :: rest)).2 ∧ (decodeRune (b0 :: rest)).2 ≤ (b0 :: rest).length := by
  unfold decodeRune
  refine ite_bd _ _ _ (by simp) (ite_bd _ _ _ ?_ (ite_bd _ _ _ ?_ (ite_bd _ _ _ ?_ (by simp)))) <;>
  · split
    · exact ite_bd _ _ _ (by simp) (by simp)
    · simp

theorem width_cons (b0 : Nat) (rest : Bytes) :
    width (b0 :: rest) = (decodeRune (b0 :: rest)).2 ∧ 1 ≤ width (b0 :: rest) ∧
      width (b0 :: rest) ≤ (b0 :: rest).length := by
  have h := decodeRune_width b0 rest
  unfold width
  have : (decodeRune (b0 :: rest)).2 ≠ 0 := by omega
  rw [if_neg this]
  exact ⟨rfl, h⟩

theorem runesAux_nil (fuel off : Nat) : runesAux fuel off [] = [] := by
  cases fuel <;> rfl

theorem runesAux_cons (fuel off b0 : Nat) (rest : Bytes) :
    runesAux (fuel + 1) off (b0 :: rest) =
      (off, (decodeRune (b0 :: rest)).1, (b0 :: rest).take (width (b0 :: rest))) ::
        runesAux fuel (off + width (b0 :: rest)) ((b0 :: rest).drop (width (b0 :: rest))) := by
  rfl

theorem runesAux_indep (fuel : Nat) : ∀ (fuel' off off' : Nat) (s : Bytes), s.length ≤ fuel → s.length ≤ fuel' →
    (runesAux fuel off s).map (·.2) = (runesAux fuel' off' s).map (·.2) := by
  induction fuel with
  | zero =>
    intro fuel' off off' s h _
    have : s = [] := by cases s <;> simp_all
    subst this; simp [runesAux_nil]
  | succ k ih =>
    intro fuel' off off' s h h'
    cases s with
    | nil => simp [runesAux_nil]
    | cons b0 rest =>
      cases fuel' with
      | zero => simp at h'
      | succ k' =>
        obtain ⟨_, hw1, hw2⟩ := width_cons b0 rest
        rw [runesAux_cons, runesAux_cons]
        simp only [List.map_cons]
        congr 1
        apply ih
        · simp only [List.length_drop, List.length_cons] at *; omega
        · simp only [List.length_drop, List.length_cons] at *; omega

theorem rs_nil : rs [] = [] := rfl

theorem rs_cons (b0 : Nat) (rest : Bytes) :
    rs (b0 :: rest) = ((decodeRune (b0 :: rest)).1, (b0 :: rest).take (width (b0 :: rest))) ::
      rs ((b0 :: rest).drop (width (b0 :: rest))) := by
  obtain ⟨_, hw1, hw2⟩ := width_cons b0 rest
  unfold rs runes
  simp only [List.length_cons]
  rw [runesAux_cons]
  simp only [List.map_cons]
  congr 1
  apply runesAux_indep
  · simp only [List.length_drop, List.length_cons] at *; omega
  · simp

/-! ### the rune list: concatenation, suffixes -/

def flat (l : List Rune) : Bytes := l.flatMap (·.2)

theorem flat_nil : flat [] = [] := rfl
theorem flat_cons (x : Rune) (l : List Rune) : flat (x :: l) = x.2 ++ flat l := by
  simp [flat]
theorem flat_append (a b : List Rune) : flat (a ++ b) = flat a ++ flat b := by
  simp [flat]

theorem rs_induction {P : Bytes → Prop} (nil : P [])
    (cons : ∀ b0 rest, P ((b0 :: rest).drop (width (b0 :: rest))) → P (b0 :: rest)) (s : Bytes) : P s := by
  generalize hn : s.length = n
  induction n using Nat.strongRecOn generalizing s with
  | _ n ih =>
    cases s with
    | nil => exact nil
    | cons b0 rest =>
      have hw := (width_cons b0 rest).2.1
      exact cons b0 rest (ih _ (by rw [← hn, List.length_drop, List.length_cons]; omega) _ rfl)

/-- the raw bytes of the runes concatenate to the string -/
theorem flat_rs (s : Bytes) : flat (rs s) = s := by
  induction s using rs_induction with
  | nil => rfl
  | cons b0 rest ih => rw [rs_cons, flat_cons, ih, List.take_append_drop]

theorem rs_ne_nil (s : Bytes) (h : s ≠ []) : rs s ≠ [] := by
  cases s with
  | nil => exact absurd rfl h
  | cons b0 rest => rw [rs_cons]; simp

theorem width_append (b0 : Nat) (a t : Bytes) (h : NCH t) :
    width (b0 :: (a ++ t)) = width (b0 :: a) := by
  unfold width; rw [decodeRune_append b0 a t h]

/-- decoding is local: a string whose first byte is not a continuation byte is decoded
    the same way whatever precedes it -/
theorem rs_append (a t : Bytes) (ht : NCH t) : rs (a ++ t) = rs a ++ rs t := by
  induction a using rs_induction with
  | nil => rfl
  | cons b0 rest ih =>
    have hw2 := (width_cons b0 rest).2.2
    rw [rs_cons b0 rest, List.cons_append, rs_cons b0 (rest ++ t), width_append b0 rest t ht,
      decodeRune_append b0 rest t ht, ← List.cons_append, List.take_append_of_le_length hw2,
      List.drop_append_of_le_length hw2, ih]
    rfl

theorem decodeRune_ascii (c : Nat) (rest : Bytes) (h : c < 128) : decodeRune (c :: rest) = (c, 1) := by
  unfold decodeRune; exact if_pos h

theorem rs_ascii_cons (c : Nat) (rest : Bytes) (h : c < 128) : rs (c :: rest) = (c, [c]) :: rs rest := by
  rw [rs_cons]
  have : width (c :: rest) = 1 := by unfold width; rw [decodeRune_ascii c rest h]; rfl
  rw [this, decodeRune_ascii c rest h]
  rfl

theorem nch_ascii (c : Nat) (rest : Bytes) (h : c < 128) : NCH (c :: rest) := by
  intro d hd
  simp at hd
  subst hd
  simp [isCont]; omega

/-- an ASCII byte is always a rune of its own -/
theorem rs_split_ascii (a : Bytes) (c : Nat) (b : Bytes) (h : c < 128) :
    rs (a ++ c :: b) = rs a ++ (c, [c]) :: rs b := by
  rw [rs_append a _ (nch_ascii c b h), rs_ascii_cons c b h]

theorem rs_suffix (l1 : List Rune) : ∀ (l2 : List Rune) (s : Bytes), rs s = l1 ++ l2 → rs (flat l2) = l2 := by
  induction l1 with
  | nil =>
    intro l2 s h
    simp only [List.nil_append] at h
    rw [← h, flat_rs]
  | cons x l1 ih =>
    intro l2 s h
    cases s with
    | nil => simp [rs_nil] at h
    | cons b0 rest =>
      rw [rs_cons] at h
      simp only [List.cons_append, List.cons.injEq] at h
      exact ih l2 _ h.2

/-- a continuation byte is below every lead-byte class -/
theorem decodeRune_cont (b0 : Nat) (rest : Bytes) (h : isCont b0 = true) :
    (decodeRune (b0 :: rest)).1 = runeError := by
  simp only [isCont, Bool.and_eq_true, decide_eq_true_eq] at h
  have w : ∀ lo hi, 0xC0 ≤ lo → ¬ (decide (lo ≤ b0) && decide (b0 ≤ hi)) = true := by
    intro lo hi hlo; simp only [Bool.and_eq_true, decide_eq_true_eq]; omega
  unfold decodeRune
  dsimp only
  rw [if_neg (show ¬ b0 < 0x80 by omega), if_neg (w _ _ (by omega)), if_neg (w _ _ (by omega)),
    if_neg (w _ _ (by omega))]

/-- the bytes of a rune list that starts with a white-space rune do not start with a
    continuation byte -/
theorem nch_of_space (x : Rune) (l : List Rune) (s : Bytes) (h : rs s = x :: l)
    (hx : isSpaceRune x.1 = true) : NCH s := by
  cases s with
  | nil => simp [rs_nil] at h
  | cons b0 rest =>
    intro c hc
    simp at hc
    subst hc
    rw [rs_cons] at h
    simp only [List.cons.injEq] at h
    cases hcont : isCont b0 with
    | false => rfl
    | true =>
      have := decodeRune_cont b0 rest hcont
      rw [← h.1] at hx
      simp only [this] at hx
      exact absurd hx (by decide)

/-- a run of runes that is followed by a white-space rune or by the end of the string
    decodes to itself when taken out of its context -/
theorem rs_mid (s : Bytes) (pre mid post : List Rune) (h : rs s = pre ++ mid ++ post)
    (hp : post = [] ∨ ∃ x post', post = x :: post' ∧ isSpaceRune x.1 = true) :
    rs (flat mid) = mid := by
  have hpm : rs (flat pre ++ flat mid) = pre ++ mid := by
    rcases hp with hp | ⟨x, post', hp, hx⟩
    · subst hp
      simp only [List.append_nil] at h
      rw [← flat_append, ← h, flat_rs, h]
    · have hpost : rs (flat post) = post := rs_suffix (pre ++ mid) post s h
      have hn : NCH (flat post) := nch_of_space x post' (flat post) (by rw [hpost, hp]) hx
      have hs : s = (flat pre ++ flat mid) ++ flat post := by
        rw [← flat_append, ← flat_append, ← h, flat_rs]
      have h2 := rs_append (flat pre ++ flat mid) (flat post) hn
      rw [← hs, h, hpost] at h2
      exact (List.append_cancel_right h2).symm
  exact rs_suffix pre mid _ hpm

/-! ### strings.Fields -/

def NS (s : Bytes) : Prop := ∀ x ∈ rs s, isSpaceRune x.1 = false

def Tok (f : Bytes) : Prop := f ≠ [] ∧ ∀ x ∈ rs f, isSpaceRune x.1 = false

def fieldsAux : Bytes → List Rune → List Bytes
  | cur, [] => if cur.isEmpty then [] else [cur]
  | cur, x :: xs =>
    if isSpaceRune x.1 then (if cur.isEmpty then fieldsAux [] xs else cur :: fieldsAux [] xs)
    else fieldsAux (cur ++ x.2) xs

def fstep (acc : List Bytes × Bytes) (x : Nat × Nat × Bytes) : List Bytes × Bytes :=
  if isSpaceRune x.2.1 then
    (if acc.2.isEmpty then acc.1 else acc.1 ++ [acc.2], [])
  else (acc.1, acc.2 ++ x.2.2)

def ffinish (r : List Bytes × Bytes) : List Bytes := if r.2.isEmpty then r.1 else r.1 ++ [r.2]

theorem fields_def (s : Bytes) : fields s = ffinish ((runes s).foldl fstep ([], [])) := rfl

theorem fold_fieldsAux (l : List (Nat × Nat × Bytes)) : ∀ (acc : List Bytes) (cur : Bytes),
    ffinish (l.foldl fstep (acc, cur)) = acc ++ fieldsAux cur (l.map (·.2)) := by
  induction l with
  | nil => intro acc cur; simp only [List.foldl_nil, ffinish, List.map_nil, fieldsAux]; split <;> simp_all
  | cons x xs ih =>
    intro acc cur
    simp only [List.foldl_cons, List.map_cons, fieldsAux, fstep]
    by_cases hs : isSpaceRune x.2.1 = true
    · simp only [hs, if_true]
      by_cases hc : cur.isEmpty = true
      · simp only [hc, if_true]; exact ih acc []
      · simp only [hc]
        rw [ih]; simp
    · simp only [hs]
      exact ih acc _

theorem fields_eq (s : Bytes) : fields s = fieldsAux [] (rs s) := by
  rw [fields_def, fold_fieldsAux]; rfl

theorem tok_mid (s : Bytes) (pre mid post : List Rune) (h : rs s = pre ++ mid ++ post)
    (hp : post = [] ∨ ∃ x post', post = x :: post' ∧ isSpaceRune x.1 = true)
    (hns : ∀ x ∈ mid, isSpaceRune x.1 = false) (hne : ¬ (flat mid).isEmpty = true) : Tok (flat mid) :=
  ⟨fun e => hne (by rw [e]; rfl), by rw [rs_mid s pre mid post h hp]; exact hns⟩

/- `curR` are the runes collected into the current field, `pre` those already passed. -/
theorem fieldsAux_tok (s : Bytes) (l : List Rune) : ∀ (pre curR : List Rune),
    rs s = pre ++ curR ++ l → (∀ x ∈ curR, isSpaceRune x.1 = false) →
    ∀ f ∈ fieldsAux (flat curR) l, Tok f := by
  induction l with
  | nil =>
    intro pre curR h hns f hf
    simp only [fieldsAux] at hf
    by_cases hc : (flat curR).isEmpty = true
    · simp [hc] at hf
    · rw [if_neg hc, List.mem_singleton] at hf
      exact hf ▸ tok_mid s pre curR [] h (.inl rfl) hns hc
  | cons x xs ih =>
    intro pre curR h hns f hf
    simp only [fieldsAux] at hf
    by_cases hs : isSpaceRune x.1 = true
    · rw [if_pos hs] at hf
      have hrest : ∀ f ∈ fieldsAux [] xs, Tok f :=
        ih (pre ++ curR ++ [x]) [] (by simp [h]) (by simp)
      by_cases hc : (flat curR).isEmpty = true
      · rw [if_pos hc] at hf; exact hrest f hf
      · rw [if_neg hc] at hf
        rcases List.mem_cons.mp hf with e | e
        · exact e ▸ tok_mid s pre curR (x :: xs) h (.inr ⟨x, xs, rfl, hs⟩) hns hc
        · exact hrest f e
    · rw [if_neg hs, show flat curR ++ x.2 = flat (curR ++ [x]) by simp [flat]] at hf
      refine ih pre (curR ++ [x]) (by simp [h]) (fun y hy => ?_) f hf
      rcases List.mem_append.mp hy with e | e
      · exact hns y e
      · rw [List.mem_singleton.mp e]; simpa using hs

/-- every field of `strings.Fields` is a non-empty white-space-free token -/
theorem fields_tok (s : Bytes) : ∀ f ∈ fields s, Tok f := by
  rw [fields_eq]
  exact fieldsAux_tok s (rs s) [] [] (by simp) (by simp)

theorem fieldsAux_nonspace (R : List Rune) (hR : ∀ x ∈ R, isSpaceRune x.1 = false) :
    ∀ (cur : Bytes) (l : List Rune), fieldsAux cur (R ++ l) = fieldsAux (cur ++ flat R) l := by
  induction R with
  | nil => intro cur l; simp [flat_nil]
  | cons x xs ih =>
    intro cur l
    have hx : isSpaceRune x.1 = false := hR x (by simp)
    simp only [List.cons_append, fieldsAux, hx, Bool.false_eq_true, if_false]
    rw [ih (fun y hy => hR y (by simp [hy])), flat_cons, List.append_assoc]

theorem rs_join_cons (c : Nat) (h : c < 128) (f g : Bytes) (rest : List Bytes) :
    rs (joinWith c (f :: g :: rest)) = rs f ++ (c, [c]) :: rs (joinWith c (g :: rest)) :=
  rs_split_ascii f c _ h

/-- tokens re-joined with single blanks split into the same tokens -/
theorem fields_join (fs : List Bytes) (h : ∀ f ∈ fs, Tok f) : fields (joinWith 32 fs) = fs := by
  rw [fields_eq]
  induction fs with
  | nil => rfl
  | cons f rest ih =>
    obtain ⟨hne, hns⟩ := h f (by simp)
    have he : f.isEmpty = false := by
      cases f with
      | nil => exact absurd rfl hne
      | cons _ _ => rfl
    cases rest with
    | nil =>
      rw [joinWith, ← List.append_nil (rs f), fieldsAux_nonspace (rs f) hns, flat_rs]
      simp only [List.nil_append, fieldsAux, he, Bool.false_eq_true, if_false]
    | cons g rest' =>
      rw [rs_join_cons 32 (by omega), fieldsAux_nonspace (rs f) hns, flat_rs]
      simp only [List.nil_append, fieldsAux, show isSpaceRune 32 = true from rfl, if_true, he,
        Bool.false_eq_true, if_false]
      rw [ih (fun x hx => h x (by simp [hx]))]

/-! ### strings.TrimSpace -/

/-- first and last rune are not white space -/
def Ends (R : List Rune) : Prop :=
  (∃ x R', R = x :: R' ∧ isSpaceRune x.1 = false) ∧ (∃ R' y, R = R' ++ [y] ∧ isSpaceRune y.1 = false)

theorem trimSpace_eq (s : Bytes) : trimSpace s =
    flat (((rs s).dropWhile (isSpaceRune ·.1)).reverse.dropWhile (isSpaceRune ·.1)).reverse := by
  simp only [rs, flat, List.dropWhile_map, ← List.map_reverse, List.flatMap_map]
  rfl

theorem trimSpace_ends (s : Bytes) (h : Ends (rs s)) : trimSpace s = s := by
  obtain ⟨⟨x, R', h1, hx⟩, R'', y, h2, hy⟩ := h
  rw [trimSpace_eq, h1, List.dropWhile_cons_of_neg (by simp [hx]), ← h1, h2, List.reverse_append,
    List.reverse_singleton, List.singleton_append, List.dropWhile_cons_of_neg (by simp [hy]),
    List.reverse_cons, List.reverse_reverse, ← h2, flat_rs]

theorem ends_tok (f : Bytes) (h : Tok f) : Ends (rs f) := by
  obtain ⟨hne, hns⟩ := h
  have hr := rs_ne_nil f hne
  constructor
  · cases hrs : rs f with
    | nil => exact absurd hrs hr
    | cons x R' => exact ⟨x, R', rfl, hns x (by simp [hrs])⟩
  · exact ⟨(rs f).dropLast, (rs f).getLast hr, (List.dropLast_concat_getLast hr).symm,
      hns _ (List.getLast_mem hr)⟩

theorem ends_join (fs : List Bytes) (hne : fs ≠ []) (h : ∀ f ∈ fs, Tok f) : Ends (rs (joinWith 32 fs)) := by
  induction fs with
  | nil => exact absurd rfl hne
  | cons f rest ih =>
    cases rest with
    | nil => exact ends_tok f (h f (by simp))
    | cons g rest' =>
      rw [rs_join_cons 32 (by omega)]
      obtain ⟨⟨x, R', h1, hx⟩, _⟩ := ends_tok f (h f (by simp))
      obtain ⟨_, ⟨R'', y, h2, hy⟩⟩ := ih (by simp) (fun x hx => h x (by simp [hx]))
      exact ⟨⟨x, R' ++ (32, [32]) :: rs (joinWith 32 (g :: rest')), by rw [h1]; rfl, hx⟩,
        ⟨rs f ++ (32, [32]) :: R'', y, by rw [h2]; simp, hy⟩⟩

/-- tokens joined with single blanks have nothing to trim -/
theorem trimSpace_join (fs : List Bytes) (hne : fs ≠ []) (h : ∀ f ∈ fs, Tok f) :
    trimSpace (joinWith 32 fs) = joinWith 32 fs := trimSpace_ends _ (ends_join fs hne h)

theorem trimSpace_nil : trimSpace [] = [] := rfl

/-! ### tokens: ASCII white space, splitting and joining at an ASCII byte -/

theorem tok_no_ascii_space (f : Bytes) (h : Tok f) (c : Nat) (hc : c ∈ f) (h128 : c < 128) :
    isSpaceRune c = false := by
  obtain ⟨a, b, rfl⟩ := List.append_of_mem hc
  exact h.2 (c, [c]) (by rw [rs_split_ascii a c b h128]; simp)

theorem tok_no_lf (f : Bytes) (h : Tok f) : 10 ∉ f := by
  intro hc
  have := tok_no_ascii_space f h 10 hc (by omega)
  exact absurd this (by decide)

theorem tok_no_cr (f : Bytes) (h : Tok f) : 13 ∉ f := by
  intro hc
  have := tok_no_ascii_space f h 13 hc (by omega)
  exact absurd this (by decide)

theorem ns_split (a : Bytes) (c : Nat) (b : Bytes) (h : c < 128) :
    NS (a ++ c :: b) ↔ NS a ∧ isSpaceRune c = false ∧ NS b := by
  unfold NS
  rw [rs_split_ascii a c b h]
  constructor
  · intro hh
    exact ⟨fun x hx => hh x (by simp [hx]), hh (c, [c]) (by simp), fun x hx => hh x (by simp [hx])⟩
  · intro ⟨h1, h2, h3⟩ x hx
    rcases List.mem_append.mp hx with e | e
    · exact h1 x e
    · rcases List.mem_cons.mp e with e | e
      · subst e; exact h2
      · exact h3 x e

theorem ns_nil : NS [] := by intro x hx; simp [rs_nil] at hx

theorem ns_joinWith (c : Nat) (h : c < 128) (hc : isSpaceRune c = false) (cs : List Bytes) :
    NS (joinWith c cs) ↔ ∀ p ∈ cs, NS p := by
  induction cs with
  | nil => simp [joinWith, ns_nil]
  | cons x rest ih =>
    cases rest with
    | nil => simp [joinWith]
    | cons y rest' =>
      simp only [joinWith]
      rw [ns_split x c _ h, ih]
      simp [hc]

/-! ### code points that are neither letters nor digits -/

def gapFree (a b : Nat) (t : List (Nat × Nat)) : Bool :=
  t.all fun p => decide (p.2 < a) || decide (b < p.1)

theorem inRanges_gap (a b r : Nat) (ha : a ≤ r) (hb : r ≤ b) :
    ∀ t, gapFree a b t = true → inRanges r t = false := by
  intro t
  induction t with
  | nil => intro _; rfl
  | cons p t ih =>
    intro h
    simp only [gapFree, List.all_cons, Bool.and_eq_true, Bool.or_eq_true, decide_eq_true_eq] at h
    obtain ⟨lo, hi⟩ := p
    simp only [inRanges, Bool.or_eq_false_iff, Bool.and_eq_false_iff, decide_eq_false_iff_not]
    exact ⟨by omega, ih h.2⟩

/-- The stretches of the `unicode.L ∪ unicode.Nd` table that the development needs to be
    empty: up to '/' (the first digit is 48), from '{' to U+00A9 (U+00AA is a letter), and
    around the white-space runes above U+00FF.  The one place where the table is walked. -/
theorem letter_gaps :
    ([(0, 47), (123, 169), (0x1680, 0x1680), (0x2000, 0x2070), (0x3000, 0x3000)] : List (Nat × Nat)).all
      (fun g => gapFree g.1 g.2 Lc.Generated.letterDigitRanges) = true := by decide +kernel

theorem not_letter (r : Nat)
    (h : r ≤ 47 ∨ (123 ≤ r ∧ r ≤ 169) ∨ r = 0x1680 ∨ (0x2000 ≤ r ∧ r ≤ 0x2070) ∨ r = 0x3000) :
    isLetterOrDigit r = false := by
  have g := letter_gaps
  simp only [List.all_cons, List.all_nil, Bool.and_true, Bool.and_eq_true] at g
  obtain ⟨g1, g2, g3, g4, g5⟩ := g
  unfold isLetterOrDigit
  rcases h with h | h | h | h | h
  · exact inRanges_gap _ _ r (Nat.zero_le r) h _ g1
  · exact inRanges_gap _ _ r h.1 h.2 _ g2
  · exact inRanges_gap _ _ r (by omega) (by omega) _ g3
  · exact inRanges_gap _ _ r h.1 h.2 _ g4
  · exact inRanges_gap _ _ r (by omega) (by omega) _ g5

theorem space_not_letter (r : Nat) (h : isSpaceRune r = true) : isLetterOrDigit r = false := by
  unfold isSpaceRune at h
  simp only [Bool.or_eq_true, Bool.and_eq_true, beq_iff_eq, decide_eq_true_eq] at h
  -- each alternative of `unicode.IsSpace` lies in one of the gaps
  rcases h with ((((((((((h|h)|h)|h)|h)|h)|h)|h)|h)|h)|h) <;> exact not_letter r (by omega)

end Lc.Lemmas.Runes
