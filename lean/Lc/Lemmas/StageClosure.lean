/-
  Helper lemmas for `AddMissingStageDirs`: the loop `dir = dir[:LastIndexByte(dir,'/')]`
  gets strictly shorter (so `dir.length + 1` iterations of fuel suffice), every ancestor
  `Anc · dir` is a proper prefix, and the names after the loop are the names before, `dir` and
  its ancestors (`addChain_names`, `addMissing_names`).
-/
import Lc.Lemmas.StageList
import Lc.Lemmas.StageEntry
import Lc.Lemmas.InUse

namespace Lc.Stage

theorem lastSlash_lt {s : Bytes} {pos : Nat} (h : lastSlash s = some pos) : pos < s.length := by
  unfold lastSlash at h
  simp only at h
  split at h
  · cases h
  · rename_i i hi
    cases h
    have := InUseLemmas.indexByte_lt SLASH _ i hi
    simp at this
    omega

/-- one step of the loop: the next directory, if any -/
def parentOf (n : Bytes) : Option Bytes :=
  match lastSlash n with
  | none => none
  | some pos => if pos < 1 then none else some (n.take pos)

theorem parentOf_split {n p : Bytes} (h : parentOf n = some p) :
    ∃ s, s ≠ [] ∧ n = p ++ s ∧ p ≠ [] := by
  unfold parentOf at h
  split at h
  · cases h
  · rename_i pos hp
    split at h
    · cases h
    · cases h
      have hlt := lastSlash_lt hp
      refine ⟨n.drop pos, ?_, (List.take_append_drop pos n).symm, ?_⟩
      · rw [Ne, List.drop_eq_nil_iff]
        omega
      · rw [Ne, List.take_eq_nil_iff]
        rintro (h0 | h0)
        · omega
        · rw [h0] at hlt
          cases hlt

theorem parentOf_length {n p : Bytes} (h : parentOf n = some p) : p.length < n.length := by
  obtain ⟨s, hs, hn, _⟩ := parentOf_split h
  rw [hn, List.length_append]
  have := List.length_pos_iff.mpr hs
  omega

/-- `Anc d n`: `d` is reached from `n` by one or more loop steps (a proper ancestor directory
    other than the root) -/
inductive Anc : Bytes → Bytes → Prop where
  | step {n p : Bytes} : parentOf n = some p → Anc p n
  | trans {n p d : Bytes} : parentOf n = some p → Anc d p → Anc d n

theorem Anc.snoc {d n p : Bytes} (h : Anc n d) (hp : parentOf n = some p) : Anc p d := by
  induction h with
  | step h1 => exact Anc.trans h1 (Anc.step hp)
  | trans h1 _ ih => exact Anc.trans h1 (ih hp)

theorem Anc.prefix {d n : Bytes} (h : Anc d n) : ∃ s, s ≠ [] ∧ n = d ++ s := by
  induction h with
  | step h1 =>
    obtain ⟨s, hs, hn, _⟩ := parentOf_split h1
    exact ⟨s, hs, hn⟩
  | trans h1 _ ih =>
    obtain ⟨s1, hs1, hn1, _⟩ := parentOf_split h1
    obtain ⟨s2, _, hn2⟩ := ih
    refine ⟨s2 ++ s1, ?_, ?_⟩
    · intro h; exact hs1 (List.append_eq_nil_iff.mp h).2
    · rw [hn1, hn2, List.append_assoc]

/-- a directory entry is always stored: `addSingleFile` stores nothing only under `absent=skip` -/
theorem addEntry_dir {env : Env} {m m' : EMap} {d : Bytes}
    (h : addEntry env m { ltype := ltDir, name := d } = .ok m') :
    (∀ n, n ∈ m'.names ↔ n = d ∨ n ∈ m.names) := by
  rcases addEntry_cases h with ⟨_, hs⟩ | ⟨e, hn, _, rfl⟩
  · cases hs
  · intro n
    rw [mem_names_insert, hn]

theorem addChain_succ (env : Env) (fuel : Nat) (m : EMap) (dir : Bytes) :
    addChain env (fuel + 1) m dir =
      match (if m.has dir then .ok m else addEntry env m { ltype := ltDir, name := dir }) with
      | .error f => .error f
      | .ok m' =>
        match parentOf dir with
        | none => .ok m'
        | some p => addChain env fuel m' p := by
  simp only [addChain, parentOf]
  generalize (if m.has dir then Except.ok m else addEntry env m { ltype := ltDir, name := dir }) = r
  cases r with
  | error f => rfl
  | ok m' =>
    cases lastSlash dir with
    | none => rfl
    | some pos => by_cases hp : pos < 1 <;> simp only [hp, if_true, if_false]

theorem anc_iff {d n : Bytes} : Anc d n ↔ ∃ p, parentOf n = some p ∧ (d = p ∨ Anc d p) := by
  constructor
  · intro h
    cases h with
    | step hp => exact ⟨_, hp, Or.inl rfl⟩
    | trans hp h => exact ⟨_, hp, Or.inr h⟩
  · rintro ⟨p, hp, rfl | h⟩
    · exact .step hp
    · exact .trans hp h

theorem addChain_names {env : Env} : ∀ (fuel : Nat) {m m' : EMap} {dir : Bytes},
    addChain env fuel m dir = .ok m' → dir.length < fuel →
    ∀ n, n ∈ m'.names ↔ n ∈ m.names ∨ n = dir ∨ Anc n dir := by
  intro fuel
  induction fuel with
  | zero => intro m m' dir _ hl; omega
  | succ f ih =>
    intro m m' dir h hl n
    rw [addChain_succ] at h
    split at h
    · cases h
    · rename_i m1 h1
      -- after the first statement: `dir` is a member, nothing else changed
      have hm1 : n ∈ m1.names ↔ n ∈ m.names ∨ n = dir := by
        split at h1
        · rename_i hh
          cases h1
          exact ⟨Or.inl, fun hn => hn.elim id (fun hn => hn ▸ (has_iff _ _).mp hh)⟩
        · rw [addEntry_dir h1, or_comm]
      rw [anc_iff]
      split at h
      · rename_i hp
        cases h
        simp [hm1, hp]
      · rename_i p hp
        rw [ih h (by have := parentOf_length hp; omega), hm1, or_assoc]
        simp [hp]

theorem addChains_names {env : Env} (ds : List Bytes) : ∀ {m m' : EMap},
    addChains env m ds = .ok m' →
    ∀ n, n ∈ m'.names ↔ n ∈ m.names ∨ ∃ d ∈ ds, n = d ∨ Anc n d := by
  induction ds with
  | nil => intro m m' h n; cases h; simp
  | cons d ds ih =>
    intro m m' h n
    simp only [addChains] at h
    split at h
    · cases h
    · rename_i m1 h1
      rw [ih h, addChain_names _ h1 (by omega)]
      simp only [List.mem_cons, or_and_right, exists_or, exists_eq_left, or_assoc]

theorem addMissing_names {env : Env} {m m' : EMap} (h : addMissingStageDirs env m = .ok m')
    (n : Bytes) : n ∈ m'.names ↔ n ∈ m.names ∨
      ∃ e ∈ m, pathDir e.name ≠ [] ∧ (n = pathDir e.name ∨ Anc n (pathDir e.name)) := by
  refine (addChains_names _ h n).trans (or_congr_right ?_)
  simp only [List.mem_filter, List.mem_map, Bool.not_eq_true', List.isEmpty_eq_false_iff, ne_eq]
  constructor
  · rintro ⟨_, ⟨⟨e, he, rfl⟩, hne⟩, hn⟩
    exact ⟨e, he, hne, hn⟩
  · rintro ⟨e, he, hne, hn⟩
    exact ⟨_, ⟨⟨e, he, rfl⟩, hne⟩, hn⟩

end Lc.Stage
