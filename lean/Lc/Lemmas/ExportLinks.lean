/-
  The export-link functions of the command model, for Props/C16.  First the way from a triple
  to the run function (`Outcome`, `extract2` and the readers `onAll`, `onOk`, `neverOk`) and
  `fsStep_gen`, the triple of a gated file-system step.  Then the specifications (Std.Do /
  mvcgen): `removeLayerExportLinks` only removes links at the automatic export paths
  (`RemovedOnly`); `makeSymlinkInDirectory` and `makeExportSymlinks` only add directories and
  the links asked for (`Added`).  "No entry at the old export paths" (`NoneAt`) is carried
  through the rest of `removeLayer` and `renameLayer`.  Last the cases whose result and final
  world are known exactly: a link already at the target of `makeSymlinkInDirectory` (nothing
  happens), a non-link there, and a non-link at the first automatic path of
  `removeLayerExportLinks` (both refused).
-/
import Lc.Lemmas.Hoare
import Lc.Lemmas.Trace
import Lc.Lemmas.ExportFs
import Lc.Lemmas.WriteLayerFile
import Lc.Lemmas.ForestCmd
namespace Lc.ExportLinks
open Std.Do Lc Lc.Layers Lc.Hoare Lc.ExportFs
set_option mvcgen.warning false

/-- what a run ended in: `Q` on a normal return, `E` on an error -/
def Outcome {α} (r : Except Fault α × World) (Q : α → World → Prop) (E : Fault → World → Prop) : Prop :=
  match r with
  | (.ok a, w') => Q a w'
  | (.error e, w') => E e w'

/-- `Trace.run_of_triple` with its conclusion under the name `Outcome` -/
theorem extract2 {α} (P : World → Prop) (Q : α → World → Prop) (E : Fault → World → Prop) (m : M α)
    (h : ⦃fun w => ⌜P w⌝⦄ m ⦃post⟨fun a w => ⌜Q a w⌝, fun e w => ⌜E e w⌝⟩⦄) (w : World) (hw : P w) :
    Outcome (m.run.run w) Q E :=
  Trace.run_of_triple m P Q E h w hw

theorem onAll {α} {m : M α} {w0 : World} {Q : α → World → Prop} {E : Fault → World → Prop}
    {R : World → Prop} (h : Outcome (m.run.run w0) Q E)
    (hq : ∀ a w', Q a w' → R w') (he : ∀ e w', E e w' → R w') : R (m.run.run w0).2 :=
  match m.run.run w0, h with
  | (.ok a, w'), h => hq a w' h
  | (.error e, w'), h => he e w' h

theorem onOk {α} {m : M α} {w0 : World} {Q : α → World → Prop} {E : Fault → World → Prop}
    (h : Outcome (m.run.run w0) Q E) (a : α) (hr : (m.run.run w0).1 = .ok a) :
    Q a (m.run.run w0).2 :=
  match m.run.run w0, h, hr with
  | (.ok _, _), h, hr => Except.ok.inj hr ▸ h
  | (.error _, _), _, hr => nomatch hr

theorem neverOk {α} {m : M α} {w0 : World} {E : Fault → World → Prop}
    (h : Outcome (m.run.run w0) (fun _ _ => False) E) :
    ∃ e, (m.run.run w0).1 = .error e ∧ E e (m.run.run w0).2 :=
  match m.run.run w0, h with
  | (.ok _, _), h => h.elim
  | (.error e, _), h => ⟨e, rfl, h⟩

def isOk {α} (r : Except Fault α) : Bool :=
  match r with
  | .ok _ => true
  | .error _ => false

theorem isOk_ex {α} (r : Except Fault α) (h : isOk r = true) : ∃ a, r = .ok a := by
  cases r with
  | ok u => exact ⟨u, rfl⟩
  | error e => cases h

theorem isOk_unit (r : Except Fault Unit) (h : isOk r = true) : r = .ok () :=
  (isOk_ex r h).elim fun _ h => h

/-- generic step: a gated file-system operation either is skipped (pretend), fails
    (fault, crash, os error: tree unchanged) or applies `f` -/
theorem fsStep_gen (op : Op) (f : Fs.Tree → Except String Fs.Tree) (pr : Bool) (P Q R : Fs.Tree → Prop)
    (h1 : ∀ fs fs', P fs → f fs = .ok fs' → Q fs') (h2 : pr = true → ∀ fs, P fs → Q fs)
    (h3 : ∀ fs, P fs → R fs) :
    ⦃fun w => ⌜w.pretend = pr ∧ P w.fs⌝⦄ fsStep op f
    ⦃post⟨fun _ w => ⌜w.pretend = pr ∧ Q w.fs⌝, fun _ w => ⌜w.pretend = pr ∧ R w.fs⌝⟩⦄ :=
  lift_rel _ _ _ (Lemmas.WriteLF.fsStep_spec op f) _ _ _
    (fun w1 _ w ⟨hp, hP⟩ ⟨hp', h⟩ => ⟨hp'.trans hp, by
      rcases h with ⟨ht, hfs⟩ | ⟨_, hf⟩
      · exact hfs ▸ h2 (hp ▸ ht) _ hP
      · exact h1 _ _ hP hf⟩)
    (fun w1 w ⟨hp, hP⟩ ⟨hfs, hp'⟩ => ⟨hp'.trans hp, hfs ▸ h3 _ hP⟩)

def autoMounts (cfg : Config) (l : Layer) : List Bytes := (autoExportPaths cfg l).map (·.1)

/-- no OTHER automatic export path of the layer lies at/above `m` -/
def Apart (S : List Bytes) (m : Bytes) : Prop := ∀ m' ∈ S, m' ≠ m → Fs.under m' m = false

theorem sep_absent {S : List Bytes} {fs0 fs : Fs.Tree} (h : RemovedOnly S fs0 fs) (m : Bytes)
    (hn : Fs.lexists fs m = false) (hs : Apart S m) (he : Fs.lexists fs0 m = true) :
    Fs.isSymlink fs0 m = true := by
  rcases h m with h | ⟨_, m', hm', hu, hsym⟩
  · rw [Fs.lexists, ← h] at he
    rw [Fs.lexists] at hn
    simp [hn] at he
  · by_cases hmm : m' = m
    · subst hmm; exact hsym
    · rw [hs m' hm' hmm] at hu
      cases hu

/-- a property of the entries a loop has passed holds of one more -/
theorem forall_snoc {α} {P : α → Prop} {pref : List α} {c : α}
    (h : ∀ e ∈ pref, P e) (hc : P c) : ∀ e ∈ pref ++ [c], P e :=
  List.forall_mem_append.mpr ⟨h, List.forall_mem_singleton.mpr hc⟩

theorem removeLayerExportLinks_spec (cfg : Config) (l : Layer) (fs0 : Fs.Tree) (pr : Bool) :
    ⦃fun w => ⌜w.pretend = pr ∧ RemovedOnly (autoMounts cfg l) fs0 w.fs⌝⦄
    removeLayerExportLinks cfg l
    ⦃post⟨fun _ w => ⌜w.pretend = pr ∧ RemovedOnly (autoMounts cfg l) fs0 w.fs ∧
        (pr = false → ∀ m ∈ autoMounts cfg l, Fs.get w.fs m = none) ∧
        (∀ m ∈ autoMounts cfg l, Apart (autoMounts cfg l) m → Fs.lexists fs0 m = true → Fs.isSymlink fs0 m = true)⌝,
      fun _ w => ⌜w.pretend = pr ∧ RemovedOnly (autoMounts cfg l) fs0 w.fs⌝⟩⦄ := by
  have snoc : ∀ {P : Bytes → Prop} {pref : List (Bytes × Bytes)} {c : Bytes × Bytes},
      (∀ m ∈ pref.map (·.1), P m) → P c.1 → ∀ m ∈ (pref ++ [c]).map (·.1), P m := by
    intro P pref c h hc
    rw [List.map_append]
    exact forall_snoc h hc
  have hrm (done : List Bytes) (m : Bytes) := fsStep_gen (.remove m) (fun fs => .ok (Fs.removeAll fs m)) pr
    (fun fs => RemovedOnly (autoMounts cfg l) fs0 fs ∧ m ∈ autoMounts cfg l ∧ Fs.isSymlink fs m = true ∧
        (pr = false → ∀ x ∈ done, Fs.get fs x = none))
    (fun fs => RemovedOnly (autoMounts cfg l) fs0 fs ∧ (pr = false → ∀ x ∈ done ++ [m], Fs.get fs x = none))
    (RemovedOnly (autoMounts cfg l) fs0)
    (by
      rintro fs fs' ⟨h1, h2, h3, h4⟩ he
      cases he
      refine ⟨h1.step m h2 h3, fun hp x hx => ?_⟩
      rcases List.mem_append.mp hx with hx | hx
      · exact get_removeAll_none _ _ _ (h4 hp x hx)
      · rw [List.mem_singleton.mp hx]
        exact get_removeAll_self _ _)
    (fun hp fs h => ⟨h.1, fun hp' => by rw [hp] at hp'; cases hp'⟩)
    (fun _ h => h.1)
  mvcgen [removeLayerExportLinks, fsRemove, fExists, fIsSymlink, getW, fail, hrm] invariants
  · post⟨fun (xs, _) w => ⌜w.pretend = pr ∧ RemovedOnly (autoMounts cfg l) fs0 w.fs ∧
        (pr = false → ∀ m ∈ xs.prefix.map (·.1), Fs.get w.fs m = none) ∧
        (∀ m ∈ xs.prefix.map (·.1), Apart (autoMounts cfg l) m → Fs.lexists fs0 m = true → Fs.isSymlink fs0 m = true)⌝,
      fun _ w => ⌜w.pretend = pr ∧ RemovedOnly (autoMounts cfg l) fs0 w.fs⌝⟩
  case vc3.done => rename_i pref _ _ _ _ _ _ _ _ _; exact pref.map (·.1)
  · -- nothing at `cur`: skipped
    rename_i pref cur suff hsplit _ s hinv hne
    obtain ⟨h1, h2, h3, h4⟩ := hinv
    have hne : Fs.lexists s.fs cur.1 = false := by simpa using hne
    exact ⟨h1, h2, fun hp => snoc (h3 hp) ((lexists_false_iff _ _).mp hne),
      snoc h4 (fun ha he => sep_absent h2 _ hne ha he)⟩
  · -- something other than a link: refused
    rename_i hinv _ _ _
    exact ⟨hinv.1, hinv.2.1⟩
  · -- a link: it is one of the automatic paths, so `hrm` applies
    rename_i pref cur suff hsplit _ s hinv _ _ hsym
    refine ⟨hinv.1, hinv.2.1, ?_, by simpa using hsym, hinv.2.2.1⟩
    exact List.mem_map.mpr ⟨cur, by rw [hsplit]; simp, rfl⟩
  · -- removed: it was a link in `s0` already, removal only takes links away
    rename_i pref cur suff hsplit _ s0 hinv _ _ hsym _ s hpost
    have hsym : Fs.isSymlink s0.fs cur.1 = true := by simpa using hsym
    exact ⟨hpost.1, hpost.2.1, fun hp m hm => hpost.2.2 hp m (by rw [List.map_append] at hm; exact hm), snoc hinv.2.2.2 (fun _ _ => hinv.2.1.isSymlink_ref _ hsym)⟩
  · rename_i h
    exact ⟨h.1, h.2, fun _ _ hm => (nomatch hm), fun _ hm => (nomatch hm)⟩

/-- `makeSymlinkInDirectory src mnt`: only new directories and the link `mnt → src` can
    appear; links in `D` stay links; on a normal non-pretend return `mnt` is a link -/
theorem makeSymlinkInDirectory_spec (L : List (Bytes × Bytes)) (fs0 : Fs.Tree) (pr : Bool) (D : List Bytes)
    (src mnt : Bytes) :
    ⦃fun w => ⌜w.pretend = pr ∧ (Added L fs0 w.fs ∧ (mnt, src) ∈ L ∧ ∀ x ∈ D, Fs.isSymlink w.fs x = true)⌝⦄
    makeSymlinkInDirectory src mnt
    ⦃post⟨fun _ w => ⌜w.pretend = pr ∧ (Added L fs0 w.fs ∧ (∀ x ∈ D, Fs.isSymlink w.fs x = true) ∧
        (pr = false → Fs.isSymlink w.fs mnt = true))⌝,
      fun _ w => ⌜w.pretend = pr ∧ (Added L fs0 w.fs ∧ ∀ x ∈ D, Fs.isSymlink w.fs x = true)⌝⟩⦄ := by
  let P (fs : Fs.Tree) : Prop := Added L fs0 fs ∧ (mnt, src) ∈ L ∧ ∀ x ∈ D, Fs.isSymlink fs x = true
  let R (fs : Fs.Tree) : Prop := Added L fs0 fs ∧ ∀ x ∈ D, Fs.isSymlink fs x = true
  have hmk := fsStep_gen (.mkdir (pathDir mnt)) (fun fs => Fs.mkdirAll fs (pathDir mnt)) pr P P R
    (fun fs fs' ⟨h1, hm, h2⟩ he =>
      have ha := added_mkdirAll L fs fs' _ he
      ⟨h1.trans ha, hm, fun x hx => ha.isSymlink x (h2 x hx)⟩)
    (fun _ _ h => h) (fun _ h => ⟨h.1, h.2.2⟩)
  have hsl := fsStep_gen (.symlink mnt src) (fun fs => Fs.symlink fs src mnt) pr P
    (fun fs => Added L fs0 fs ∧ (∀ x ∈ D, Fs.isSymlink fs x = true) ∧
      (pr = false → Fs.isSymlink fs mnt = true)) R
    (fun fs fs' ⟨h1, hm, h2⟩ he =>
      have ha := added_symlink L fs fs' src mnt hm he
      ⟨h1.trans ha, fun x hx => ha.isSymlink x (h2 x hx),
        fun _ => (isSymlink_iff _ _).mpr ⟨src, get_symlink fs fs' src mnt he⟩⟩)
    (fun hp _ h => ⟨h.1, h.2.2, fun hp' => by rw [hp] at hp'; cases hp'⟩) (fun _ h => ⟨h.1, h.2.2⟩)
  mvcgen [makeSymlinkInDirectory, fIsSymlink, fIsDir, getW, fsMkdir, fsSymlink, hmk, hsl]
  rename_i s h hn
  exact ⟨h.1, h.2.1, h.2.2.2, fun _ => by simpa using hn⟩

/-- the (link, target) pairs `makeExportSymlinks` may create: explicit directives, then
    the two automatic ones -/
def explicitPairs (cfg : Config) (l : Layer) : List (Bytes × Bytes) :=
  match expandConfigExports cfg l with
  | .ok es => es.map fun e => (e.mount, e.source)
  | .error _ => []

def exportPairs (cfg : Config) (l : Layer) : List (Bytes × Bytes) :=
  explicitPairs cfg l ++ autoExportPaths cfg l

theorem mem_exportPairs_explicit (cfg : Config) (l : Layer) (es : List Expanded)
    (hE : expandConfigExports cfg l = .ok es) (e : Expanded) (he : e ∈ es) :
    (e.mount, e.source) ∈ exportPairs cfg l := by
  unfold exportPairs explicitPairs
  rw [hE]
  exact List.mem_append_left _ (List.mem_map.mpr ⟨e, he, rfl⟩)

theorem mem_exportPairs_auto (cfg : Config) (l : Layer) (e : Bytes × Bytes)
    (he : e ∈ autoExportPaths cfg l) : e ∈ exportPairs cfg l :=
  List.mem_append_right _ he

theorem makeExportSymlinks_spec (cfg : Config) (l : Layer) (fs0 : Fs.Tree) (pr : Bool) :
    ⦃fun w => ⌜w.pretend = pr ∧ Added (exportPairs cfg l) fs0 w.fs⌝⦄
    makeExportSymlinks cfg l
    ⦃post⟨fun _ w => ⌜w.pretend = pr ∧ Added (exportPairs cfg l) fs0 w.fs ∧
        (pr = false → ∀ e ∈ autoExportPaths cfg l, Fs.lexists fs0 e.2 = true → Fs.isSymlink w.fs e.1 = true)⌝,
      fun _ w => ⌜w.pretend = pr ∧ Added (exportPairs cfg l) fs0 w.fs⌝⟩⦄ := by
  have hms := makeSymlinkInDirectory_spec (exportPairs cfg l) fs0 pr
  mvcgen [makeExportSymlinks, liftRes, fExists, getW, hms] invariants
  · post⟨fun _ w => ⌜w.pretend = pr ∧ Added (exportPairs cfg l) fs0 w.fs⌝,
      fun _ w => ⌜w.pretend = pr ∧ Added (exportPairs cfg l) fs0 w.fs⌝⟩
  · post⟨fun (xs, _) w => ⌜w.pretend = pr ∧ Added (exportPairs cfg l) fs0 w.fs ∧
        (pr = false → ∀ e ∈ xs.prefix, Fs.lexists fs0 e.2 = true → Fs.isSymlink w.fs e.1 = true)⌝,
      fun _ w => ⌜w.pretend = pr ∧ Added (exportPairs cfg l) fs0 w.fs⌝⟩
  case vc1.D => exact []
  case vc6.D =>
    rename_i pref _ _ _ _ _ _ _
    exact if pr then [] else (pref.filter (fun e => Fs.lexists fs0 e.2)).map (·.1)
  · rename_i es hE pref cur suff hsplit _ s h
    exact ⟨h.1, h.2, mem_exportPairs_explicit cfg l es hE cur (by rw [hsplit]; simp), fun _ hx => nomatch hx⟩
  · rename_i h
    exact ⟨h.1, h.2.1⟩
  · exact fun s h1 h2 _ => ⟨h1, h2⟩
  · -- the links made so far (for the entries whose source existed at the start) are still links
    rename_i pref cur suff hsplit _ s hinv _
    refine ⟨hinv.1, hinv.2.1, mem_exportPairs_auto cfg l cur (by rw [hsplit]; simp), fun x hx => ?_⟩
    cases pr
    · obtain ⟨e, he, rfl⟩ := List.mem_map.mp hx
      exact hinv.2.2 rfl e (List.mem_filter.mp he).1 (List.mem_filter.mp he).2
    · cases hx
  · rename_i pref cur suff hsplit _ s0 hinv _ _ s h
    refine ⟨h.1, h.2.1, fun hp => ?_⟩
    subst hp
    exact forall_snoc (fun e he hlex => h.2.2.1 _ (List.mem_map.mpr ⟨e, List.mem_filter.mpr ⟨he, hlex⟩, rfl⟩))
      fun _ => h.2.2.2 rfl
  · exact fun s h1 h2 _ => ⟨h1, h2⟩
  · -- the source is absent now, so it was absent at the start: nothing is claimed for this entry
    rename_i pref cur suff hsplit _ s hinv hne
    exact ⟨hinv.1, hinv.2.1, fun hp => forall_snoc (hinv.2.2 hp) fun hlex =>
      absurd (hinv.2.1.lexists _ hlex) (by simpa using hne)⟩
  · rename_i h
    exact ⟨h.1, h.2, fun _ _ he => nomatch he⟩

def NoneAt (S : List Bytes) (fs : Fs.Tree) : Prop := ∀ m ∈ S, Fs.get fs m = none

theorem fsRemove_none (S : List Bytes) (p : Bytes) :
    ⦃fun w => ⌜w.pretend = false ∧ NoneAt S w.fs⌝⦄ fsRemove p
    ⦃post⟨fun _ w => ⌜w.pretend = false ∧ NoneAt S w.fs⌝, fun _ w => ⌜w.pretend = false ∧ NoneAt S w.fs⌝⟩⦄ := by
  unfold fsRemove
  exact fsStep_gen (.remove p) (fun fs => .ok (Fs.removeAll fs p)) false (NoneAt S) (NoneAt S) (NoneAt S)
    (by
      intro fs fs' h he
      cases he
      exact fun m hm => get_removeAll_none _ _ _ (h m hm))
    nofun (fun _ h => h)

theorem fsRename_none (S : List Bytes) (a b : Bytes) (ha : a ≠ [47])
    (hb : ∀ m ∈ S, Fs.under b m = false) :
    ⦃fun w => ⌜w.pretend = false ∧ NoneAt S w.fs⌝⦄ fsRename a b
    ⦃post⟨fun _ w => ⌜w.pretend = false ∧ NoneAt S w.fs⌝, fun _ w => ⌜w.pretend = false ∧ NoneAt S w.fs⌝⟩⦄ := by
  unfold fsRename
  exact fsStep_gen (.rename a b) (fun fs => Fs.rename fs a b) false (NoneAt S) (NoneAt S) (NoneAt S)
    (by
      intro fs fs' h he
      exact fun m hm => rename_none fs fs' a b m he ha (hb m hm) (h m hm))
    nofun (fun _ h => h)

theorem removeLayerExportLinks_none (cfg : Config) (l : Layer) (fs0 : Fs.Tree) :
    ⦃fun w => ⌜w.pretend = false ∧ w.fs = fs0⌝⦄ removeLayerExportLinks cfg l
    ⦃post⟨fun _ w => ⌜w.pretend = false ∧ NoneAt (autoMounts cfg l) w.fs⌝, fun _ _ => ⌜True⌝⟩⦄ := by
  have h := removeLayerExportLinks_spec cfg l fs0 false
  mvcgen [h]
  · rename_i hp
    exact ⟨hp.1, hp.2 ▸ RemovedOnly.refl _ _⟩
  · exact fun h1 _ h3 _ => ⟨h1, h3⟩

/-- all that is stated of `removeLayer` here: started outside pretend mode it returns normally
    only with no entry left at the automatic export paths of the removed layer (`hsep`: none of
    them at or under its `~removed` directory) -/
theorem removeLayer_spec (cfg : Config) (d : Defs) (name : Bytes) (files : Bool) (l : Layer)
    (hl : findLayer d name = some l) (hlp : l.layerPath ≠ [47])
    (hsep : ∀ m ∈ autoMounts cfg l, Fs.under (l.layerPath ++ removedSuffix) m = false) (fs0 : Fs.Tree) :
    ⦃fun w => ⌜w.pretend = false ∧ w.fs = fs0⌝⦄ removeLayer cfg d name files
    ⦃post⟨fun _ w => ⌜w.pretend = false ∧ NoneAt (autoMounts cfg l) w.fs⌝, fun _ _ => ⌜True⌝⟩⦄ := by
  have hw : ∀ w : World, w.pretend = false ∧ w.fs = fs0 → True := fun _ _ => trivial
  have h1 := testName_inv hw d [(name, NAME_NEED)]
  have h2 := errorIfError_inv hw l
  have h3 := errorIfBusy_inv hw l true
  have h4 := holdsOnlyOwnFiles_inv (fun w => w.pretend = false ∧ NoneAt (autoMounts cfg l) w.fs) (fun _ => True) cfg l
  have hrl := removeLayerExportLinks_none cfg l fs0
  have hrf (o : Bool) : ⦃fun w => ⌜w.pretend = false ∧ NoneAt (autoMounts cfg l) w.fs⌝⦄ removeFiles d name l o
      ⦃post⟨fun _ w => ⌜w.pretend = false ∧ NoneAt (autoMounts cfg l) w.fs⌝, fun _ _ => ⌜True⌝⟩⦄ := by
    have hrm := fsRemove_none (autoMounts cfg l)
    have hren := fsRename_none (autoMounts cfg l) l.layerPath (l.layerPath ++ removedSuffix) hlp hsep
    mvcgen [removeFiles, fExists, getW, fail, reorder, hrm, hren]
  rw [removeLayer_eq]
  unfold getL Respects at *
  simp only [hl]
  mvcgen [fail, h1, h2, h3, h4, hrl, hrf]

/-- the paths `writeLayerFile l` writes to or renames onto are not at/above `m` -/
def ClearOfConfig (S : List Bytes) (l : Layer) : Prop :=
  ∀ m ∈ S, m ≠ layerconfigPath l ++ tmpSuffix ∧ Fs.under (layerconfigPath l) m = false

theorem cursorOpen_none (S : List Bytes) (p : Bytes) (hp : ∀ m ∈ S, m ≠ p) :
    Holds (fun w => w.pretend = false ∧ NoneAt S w.fs) (cursorOpen p) :=
  triple_of_run _ _ _ _ fun w h => by
    rw [RunM.run_cursorOpen]
    cases w.crashAt == some (w.nops + 1)
    · cases w.faultAt == some (w.nops + 1)
      · cases ho : Fs.openWrite w.fs p true
        · exact h
        · exact ⟨h.1, fun m hm => openWrite_none _ _ _ _ _ ho (hp m hm) (h.2 m hm)⟩
      · exact h
    · exact h

theorem cursorWrite_none (S : List Bytes) (p chunk : Bytes) (failed : Bool) (hp : ∀ m ∈ S, m ≠ p) :
    Holds (fun w => w.pretend = false ∧ NoneAt S w.fs) (cursorWrite p chunk failed) :=
  triple_of_run _ _ _ _ fun w h => by
    rw [RunM.run_cursorWrite]
    cases failed
    · cases w.crashAt == some (w.nops + 1)
      · cases w.faultAt == some (w.nops + 1)
        · exact ⟨h.1, fun m hm => appendFile_none _ _ _ _ (hp m hm) (h.2 m hm)⟩
        · exact h
      · exact h
    · exact h

theorem writeLayerFile_none (S : List Bytes) (l : Layer) (hc : ClearOfConfig S l) :
    Holds (fun w => w.pretend = false ∧ NoneAt S w.fs) (writeLayerFile l) := by
  have hco := cursorOpen_none S _ fun m hm => (hc m hm).1
  have hcw := fun chunk failed => cursorWrite_none S _ chunk failed fun m hm => (hc m hm).1
  have hre := fsRename_none S _ (layerconfigPath l) (Lemmas.WriteLF.tmp_ne_root (layerconfigPath l))
    fun m hm => (hc m hm).2
  unfold Holds at *
  mvcgen [writeLayerFile, getW, fail, hco, hcw, hre] invariants
  · post⟨fun _ w => ⌜w.pretend = false ∧ NoneAt S w.fs⌝, fun _ w => ⌜w.pretend = false ∧ NoneAt S w.fs⌝⟩

/-- all that is stated of `renameLayer` here: started outside pretend mode it returns normally
    only with no entry left at the automatic export paths of the OLD name (none of them at or
    under the new layer path, nor touched by writing the layer file of the renamed layer or of
    any layer of `d`: `hsep`, `hnew`, `hkids`) -/
theorem renameLayer_spec (cfg : Config) (d : Defs) (oldname newname : Bytes) (co : List Bytes) (l : Layer)
    (hl : findLayer d oldname = some l) (hlp : l.layerPath ≠ [47])
    (hsep : ∀ m ∈ autoMounts cfg l, Fs.under (layerPath cfg newname) m = false)
    (hkids : ∀ k ∈ d.layers, ClearOfConfig (autoMounts cfg l) k)
    (hnew : ClearOfConfig (autoMounts cfg l) { l with name := newname, layerPath := layerPath cfg newname })
    (fs0 : Fs.Tree) :
    ⦃fun w => ⌜w.pretend = false ∧ w.fs = fs0⌝⦄ renameLayer cfg d oldname newname co
    ⦃post⟨fun _ w => ⌜w.pretend = false ∧ NoneAt (autoMounts cfg l) w.fs⌝, fun _ _ => ⌜True⌝⟩⦄ := by
  have hw : ∀ w : World, w.pretend = false ∧ w.fs = fs0 → True := fun _ _ => trivial
  have h1 := testName_inv hw d [(oldname, NAME_NEED), (newname, NAME_FREE)]
  have h2 := errorIfError_inv hw l
  have h3 := errorIfBusy_inv hw l true
  have hrl := removeLayerExportLinks_none cfg l fs0
  have hren := fsRename_none (autoMounts cfg l) l.layerPath (layerPath cfg newname) hlp hsep
  have hwl := writeLayerFile_none (autoMounts cfg l)
  unfold renameLayer getL Respects Holds at *
  simp only [hl]
  mvcgen [fail, reorder, h1, h2, h3, hrl, hren, hwl] invariants
  · post⟨fun _ w => ⌜w.pretend = false ∧ NoneAt (autoMounts cfg l) w.fs⌝, fun _ _ => ⌜True⌝⟩
  -- left: the layer file of each child is written clear of the export paths
  rename_i cur _ hsplit _ _ _
  exact hkids cur (ForestCmd.kidsOf_mem d oldname co cur (by rw [ForestCmd.kidsOf, hsplit]; simp)).1

theorem makeSymlink_existing_link (source target : Bytes) (w0 : World)
    (h : Fs.isSymlink w0.fs target = true) :
    ⦃fun w => ⌜w = w0⌝⦄ makeSymlinkInDirectory source target
    ⦃post⟨fun _ w => ⌜w = w0⌝, fun _ _ => ⌜False⌝⟩⦄ := by
  apply triple_of_run
  rintro w rfl
  have hl : (fIsSymlink target).run.run w = (.ok true, w) := h ▸ rfl
  unfold makeSymlinkInDirectory
  rw [RunM.bind_ok _ _ w w true hl]
  exact rfl

theorem fsStep_exact (op : Op) (f : Fs.Tree → Except String Fs.Tree) (P Q : Fs.Tree → Prop)
    (E : Fault → Fs.Tree → Prop) (h1 : ∀ fs fs', P fs → f fs = .ok fs' → Q fs')
    (h3 : ∀ fs s, P fs → f fs = .error s → E (.err ("os:" ++ s)) fs) :
    ⦃fun w => ⌜(w.pretend = false ∧ w.crashAt = none ∧ w.faultAt = none) ∧ P w.fs⌝⦄ fsStep op f
    ⦃post⟨fun _ w => ⌜(w.pretend = false ∧ w.crashAt = none ∧ w.faultAt = none) ∧ Q w.fs⌝,
      fun e w => ⌜E e w.fs⌝⟩⦄ := by
  apply triple_of_run
  rintro w ⟨⟨hp, hc, hf⟩, hP⟩
  rw [RunM.run_fsStep, RunM.gate_passes w hp (by rw [hc]; nofun) (by rw [hf]; nofun)]
  dsimp only [World.tick]
  cases hfw : f w.fs
  · exact h3 _ _ hP hfw
  · exact ⟨⟨hp, hc, hf⟩, h1 _ _ hP hfw⟩

theorem makeSymlink_refuses_exact (source target : Bytes) (fs0 : Fs.Tree)
    (he : Fs.lexists fs0 target = true) (hs : Fs.isSymlink fs0 target = false) :
    ⦃fun w => ⌜(w.pretend = false ∧ w.crashAt = none ∧ w.faultAt = none) ∧ w.fs = fs0⌝⦄
    makeSymlinkInDirectory source target
    ⦃post⟨fun _ _ => ⌜False⌝,
      fun e w => ⌜Added [] fs0 w.fs ∧ (e = .err "os:EEXIST" ∨
        (Fs.isDir fs0 (pathDir target) = false ∧
          ∃ s, Fs.mkdirAll fs0 (pathDir target) = .error s ∧ e = .err ("os:" ++ s)))⌝⟩⦄ := by
  -- both steps fail into the final error condition, so only their normal exits are left
  let Final (e : Fault) (fs : Fs.Tree) : Prop := Added [] fs0 fs ∧ (e = .err "os:EEXIST" ∨
    (Fs.isDir fs0 (pathDir target) = false ∧
      ∃ s, Fs.mkdirAll fs0 (pathDir target) = .error s ∧ e = .err ("os:" ++ s)))
  have hmk := fsStep_exact (.mkdir (pathDir target)) (fun fs => Fs.mkdirAll fs (pathDir target))
    (fun fs => fs = fs0 ∧ Fs.isDir fs0 (pathDir target) = false) (Added [] fs0) Final
    (fun fs fs' h hok => h.1 ▸ added_mkdirAll [] _ _ _ hok)
    (fun fs s h herr => ⟨h.1 ▸ Added.refl _ _, .inr ⟨h.2, s, h.1 ▸ herr, rfl⟩⟩)
  have hsl := fsStep_exact (.symlink target source) (fun fs => Fs.symlink fs source target)
    (Added [] fs0) (fun _ => False) Final
    (fun fs fs' h hok => by
      rw [symlink_exists_err fs source target (h.lexists target he)] at hok
      cases hok)
    (fun fs s h herr => by
      rw [symlink_exists_err fs source target (h.lexists target he)] at herr
      cases herr
      exact ⟨h, .inl rfl⟩)
  mvcgen [makeSymlinkInDirectory, fIsSymlink, fIsDir, getW, fsMkdir, fsSymlink, hmk, hsl]
  · rename_i s h _ _ _ hd
    exact ⟨h.1, h.2, by rw [← h.2]; simpa using hd⟩
  · exact fun _ _ _ h => h
  · rename_i s h _ _ _ _
    exact ⟨h.1, h.2 ▸ Added.refl _ _⟩
  · exact fun _ _ _ h => h
  · rename_i s h hn
    rw [h.2, hs] at hn
    exact hn rfl

/-- the first automatic export entry exists and is not a link: refused at once, nothing touched -/
theorem removeLayerExportLinks_first_refused_run (cfg : Config) (l : Layer) (w0 : World)
    (he : Fs.lexists w0.fs (pathJoin [cfg.exportdirs, cfg.exportBinPkg, l.name]) = true)
    (hs : Fs.isSymlink w0.fs (pathJoin [cfg.exportdirs, cfg.exportBinPkg, l.name]) = false) :
    (removeLayerExportLinks cfg l).run.run w0 = (.error (.err "notsymlink"), w0) := by
  have hx : ∀ p, (fExists p).run.run w0 = (.ok (Fs.lexists w0.fs p), w0) := fun _ => rfl
  have hl : ∀ p, (fIsSymlink p).run.run w0 = (.ok (Fs.isSymlink w0.fs p), w0) := fun _ => rfl
  unfold removeLayerExportLinks autoExportPaths
  rw [List.forIn_cons]
  -- the loop body fails on the first entry
  refine RunM.bind_err _ _ w0 w0 _ ?_
  simp only [RunM.run_bind, hx, he, Bool.not_true, Bool.false_eq_true, if_false, hl, hs, Bool.not_false, if_true]
  rfl

end Lc.ExportLinks
