/-
  From the specification's protection conditions (`Spec.World.protectedL`,
  `mountedAtOrBelow`, `overlain`, `mountBusy`, `unmountBlocked` on an installation) to the
  flags `ProbeAllLayerstate` leaves in the record of a layer: the installation a world shows
  (`instOf`), the record of a layer after the probe when layer names are distinct
  (`probeAll_record`: the round of the layer ran exactly once, on the record `FindLayers` +
  `refreshMountInfo` made), the flags of that record (`probeLayer_flags`), and their reading
  on the kernel table through a `MountsView`.  Helper lemmas for Props/C04 section 6.
-/
import Lc.Lemmas.ProbeAllSpec
import Lc.Lemmas.KernelWF
import Lc.Lemmas.TreeOrder

namespace Lc.StateProbe
open Lc Lc.Layers Lc.Mountinfo Lc.Layerfile Lc.Spec.World Lc.RunM Lc.Forest

/-- the installation a world shows: configuration, tree, kernel mount table (what the
    oracle's `instOf` / `worldOf` pair) -/
def instOf (cfg : Config) (w : World) : Inst := ⟨cfg, w.fs, w.kt.mnts⟩

/-! ### `FindLayers` and the layers the specification lists -/

/-- a layer the specification lists is in the table of a successful `FindLayers`, as the
    record `layerOfFile` makes of its layerconfig -/
theorem findLayers_lists (cfg : Config) (w w' : World) (d0 : Defs)
    (h : (findLayers cfg).run.run w = (.ok d0, w')) (n : Bytes) (dl : DLayer)
    (hd : findD (diskLayers (instOf cfg w)) n = some dl) :
    w' = w ∧ findLayer d0 n = some (layerOfFile cfg dl.name dl.file) ∧ dl.name = n ∧ n ∈ d0.order := by
  obtain ⟨hw, -, hlay, -, hno⟩ := ForestCmd.findLayers_ok cfg w w' d0 h
  have hc0 : (readLayerFiles cfg w.fs (Fs.children w.fs cfg.layerdirs)).find? (·.name == n)
      = some (layerOfFile cfg dl.name dl.file) :=
    (find_read (instOf cfg w) n).trans (congrArg _ hd)
  have hf : findLayer d0 n = some (layerOfFile cfg dl.name dl.file) := by
    unfold findLayer; rw [hlay]; exact hc0
  have hnm : dl.name = n := findD_name _ n dl hd
  refine ⟨hw, hf, hnm, ?_⟩
  apply (order_perm _ _ hno).mem_iff.mpr
  exact List.mem_map.mpr ⟨_, List.mem_of_find?_eq_some hf, by show dl.name = n; exact hnm⟩

/-- distinct layer names on disk give a duplicate-free order list -/
theorem order_nodup_of_disk (cfg : Config) (w w' : World) (d0 : Defs)
    (h : (findLayers cfg).run.run w = (.ok d0, w'))
    (hnd : ((diskLayers (instOf cfg w)).map (·.name)).Nodup) : d0.order.Nodup := by
  obtain ⟨-, -, hlay, -, hno⟩ := ForestCmd.findLayers_ok cfg w w' d0 h
  refine Lc.Props.C02.order_nodup _ _ hno ?_
  have hread : readLayerFiles cfg w.fs (Fs.children w.fs cfg.layerdirs) = _ :=
    readLayerFiles_diskLayers (instOf cfg w)
  rw [hlay, hread, List.map_map]
  exact hnd

/-! ### the record of a layer after the probe -/

/-- **The record of a layer after `ProbeAllLayerstate`**, when the order list has no
    duplicates: the layer's round ran exactly once, on the record the table had at the start
    (with `Overlain` as `refreshMountInfo` sets it); for a layer that entered in the error
    state the round recorded mounts and processes and kept the state (fix e3cb7aa). -/
theorem probeAll_record (cfg : Config) (inuse : List (Bytes × List User)) (d0 d : Defs) (w w' : World)
    (hrun : (probeAll cfg inuse d0).run.run w = (.ok d, w')) (hnd : d0.order.Nodup)
    (x : Bytes) (hx : x ∈ d0.order) (l0 : Layer) (hl0 : findLayer d0 x = some l0) :
    w' = w ∧ ∃ m, Kernel.probe w.kt = .ok m ∧ d.mounts = m ∧
      (l0.state = S_error → ∃ dk, dk.mounts = m ∧
        findLayer d x = some (probeErr cfg inuse dk x
          { l0 with overlain := (overlayLowerdirs m).contains (buildPath cfg l0) })) ∧
      (l0.state ≠ S_error → ∃ dk l, dk.mounts = m ∧
        probeLayer cfg inuse w.fs dk x
          { l0 with overlain := (overlayLowerdirs m).contains (buildPath cfg l0) } = .ok l ∧
        findLayer d x = some l) := by
  obtain ⟨m, hm, hloop⟩ := probeAll_run cfg inuse d0 d w w' hrun
  generalize hl1 : ({ l0 with overlain := (overlayLowerdirs m).contains (buildPath cfg l0) } : Layer) = l1
  -- before its round the record under `x` is the refreshed one, after it the one the round
  -- stored: no later round has the name `x`
  refine (probeLoop_ind cfg inuse w.fs
    (fun done dk => dk.mounts = m ∧ (x ∉ done → findLayer dk x = some l1) ∧
      (x ∈ done → ∃ dr l, dr.mounts = m ∧ probeRound cfg inuse w.fs dr x l1 = .ok l ∧
        findLayer dk x = some l))
    d0.order ?_ d0.order [] _ d w w' rfl ?_ hloop).elim fun hw hq => ?_
  · intro done y rest dk ly l' ho ⟨hdm, hbefore, hafter⟩ hf hr
    have hy : y ∉ done := fun e =>
      (List.nodup_append.mp (ho ▸ hnd)).2.2 y e y (by simp) rfl
    obtain ⟨s, hl'⟩ := probeRound_eq hr
    have hn : l'.name = y := by rw [hl', probeErr_eq]; exact (ForestInv.findLayer_mem hf).2
    rw [findLayer_setLayer_eq dk ly l' (hn ▸ hf), hn]
    refine ⟨hdm, fun hx' => ?_, fun hx' => ?_⟩
    · rw [if_neg (fun e => hx' (by simp [e]))]
      exact hbefore (fun e => hx' (by simp [e]))
    · split
      · rename_i e
        subst e
        cases (hbefore hy).symm.trans hf
        exact ⟨dk, l', hdm, hr, rfl⟩
      · rename_i e
        exact hafter (by simpa [e] using hx')
  · exact ⟨rfl, fun _ => by rw [findLayer_refresh, hl0, ← hl1]; rfl, fun h => by cases h⟩
  · obtain ⟨hdm, -, hafter⟩ := hq
    obtain ⟨dr, l, hdr, hr, hl⟩ := hafter hx
    subst hl1
    unfold probeRound at hr
    refine ⟨hw, m, hm, hdm, fun hs => ⟨dr, hdr, ?_⟩, fun hs => ⟨dr, l, hdr, ?_, hl⟩⟩
    · rw [if_pos (by simp [hs])] at hr
      cases hr
      exact hl
    · rw [if_neg (by simpa using hs)] at hr
      exact hr

/-- the flags a round leaves in the record -/
theorem probeLayer_flags (cfg : Config) (inuse : List (Bytes × List User)) (fs : Fs.Tree) (d : Defs)
    (name : Bytes) (l0 l : Layer) (h : probeLayer cfg inuse fs d name l0 = .ok l) :
    l.mounts = getMountAndSubmounts d.mounts (buildPath cfg l0) ∧
    l.mountBusy = (l0.mountBusy || (usersOf inuse name).any fun u =>
      [cfg.buildRoot, cfg.workdir, cfg.upperdir].any (sameDirOrDesc u.file)) ∧
    l.nonMountBusy = (l0.nonMountBusy || (usersOf inuse name).any fun u =>
      [cfg.buildRoot, cfg.workdir, cfg.upperdir].any (fun mp => !sameDirOrDesc u.file mp)) ∧
    l.overlain = l0.overlain ∧ l.name = l0.name ∧ l.base = l0.base := by
  obtain ⟨s, rfl⟩ := probeLayer_eq cfg inuse fs d name l0 l h
  rw [probeErr_eq]
  exact ⟨rfl, rfl, rfl, rfl, rfl, rfl⟩

/-- the flags the round of a layer in the error state leaves (fix e3cb7aa): the same, the
    state kept -/
theorem probeErr_flags (cfg : Config) (inuse : List (Bytes × List User)) (d : Defs) (name : Bytes) (l0 : Layer) :
    (probeErr cfg inuse d name l0).mounts = getMountAndSubmounts d.mounts (buildPath cfg l0) ∧
    (probeErr cfg inuse d name l0).mountBusy = (l0.mountBusy || (usersOf inuse name).any fun u =>
      [cfg.buildRoot, cfg.workdir, cfg.upperdir].any (sameDirOrDesc u.file)) ∧
    (probeErr cfg inuse d name l0).nonMountBusy = (l0.nonMountBusy || (usersOf inuse name).any fun u =>
      [cfg.buildRoot, cfg.workdir, cfg.upperdir].any (fun mp => !sameDirOrDesc u.file mp)) ∧
    (probeErr cfg inuse d name l0).overlain = l0.overlain ∧ (probeErr cfg inuse d name l0).name = l0.name ∧
    (probeErr cfg inuse d name l0).base = l0.base ∧ (probeErr cfg inuse d name l0).state = l0.state := by
  rw [probeErr_eq]
  exact ⟨rfl, rfl, rfl, rfl, rfl, rfl, rfl⟩

/-! ### reading the flags on the kernel table -/

/-- the manual's "the directory or below it" implies the code's SameDirectoryOrDescendant
    (for any directory name; the converse needs a name that does not end in '/') -/
theorem sameDirOrDesc_of_inDirOrBelow (path pre : Bytes) (h : inDirOrBelow path pre = true) :
    sameDirOrDesc path pre = true := by
  unfold sameDirOrDesc
  unfold inDirOrBelow at h
  rw [← prefix_boundary] at h
  simp only [Bool.and_eq_true, Bool.or_eq_true] at h ⊢
  refine ⟨h.1, ?_⟩
  rcases h.2 with h2 | h2
  · exact Or.inl (Or.inr h2)
  · exact Or.inr h2

/-- what the probe's process classification computes for `MountBusy` -/
def modelMountBusy (cfg : Config) (users : List (Bytes × List User)) (n : Bytes) : Bool :=
  (usersOf users n).any fun u => [cfg.buildRoot, cfg.workdir, cfg.upperdir].any (sameDirOrDesc u.file)

/-- a process working in the build, work or upper directory (the manual's reading) sets
    `MountBusy`, whatever the directory names look like -/
theorem modelMountBusy_of_spec (cfg : Config) (users : List (Bytes × List User)) (n : Bytes) (w : World)
    (h : mountBusy (instOf cfg w) users n = true) : modelMountBusy cfg users n = true := by
  unfold mountBusy at h
  unfold modelMountBusy
  rw [List.any_eq_true] at h ⊢
  obtain ⟨u, hu, hb⟩ := h
  refine ⟨u, hu, ?_⟩
  simp only [List.any_cons, List.any_nil, Bool.or_false, Bool.or_eq_true] at hb ⊢
  rcases hb with (hb | hb) | hb
  · exact Or.inl (sameDirOrDesc_of_inDirOrBelow _ _ hb)
  · exact Or.inr (Or.inl (sameDirOrDesc_of_inDirOrBelow _ _ hb))
  · exact Or.inr (Or.inr (sameDirOrDesc_of_inDirOrBelow _ _ hb))

/-- … and exactly those, when the three directory names do not end in '/' -/
theorem modelMountBusy_eq_spec (cfg : Config) (users : List (Bytes × List User)) (n : Bytes) (w : World)
    (hb : cfg.buildRoot.getLast? ≠ some 47) (hw : cfg.workdir.getLast? ≠ some 47)
    (hu : cfg.upperdir.getLast? ≠ some 47) :
    modelMountBusy cfg users n = mountBusy (instOf cfg w) users n := by
  unfold modelMountBusy mountBusy
  rw [usersOf_eq_spec]
  congr 1
  funext u
  simp only [List.any_cons, List.any_nil, Bool.or_false]
  rw [sameDirOrDesc_eq _ _ hb, sameDirOrDesc_eq _ _ hw, sameDirOrDesc_eq _ _ hu, Bool.or_assoc]
  rfl

/-- the build root of the record `FindLayers` makes is the installation's build directory -/
theorem buildPath_layerOfFile (cfg : Config) (w : World) (n : Bytes) (lf : LayerFile) :
    buildPath cfg (layerOfFile cfg n lf) = buildDir (instOf cfg w) n := rfl

/-- "a mount at or below `bd`": the probed mount list is not empty iff the kernel table has one -/
theorem mounts_nonempty_view {mnts : List Kernel.KMnt} {m : Mounts} (hv : MountsView mnts m) (bd : Bytes) :
    (getMountAndSubmounts m bd).length > 0 ↔ mnts.any (fun k => atOrBelow bd k.mp) = true := by
  have h := submounts_of_view hv bd
  constructor
  · intro hl
    rw [← h]
    simpa using hl
  · intro ha
    rw [ha] at h
    simpa using h

/-- the kernel table of a printable world parses, with a view -/
theorem world_view (w : World) (hk : ∀ k ∈ w.kt.mnts, Lc.KernelWF.KWF k) :
    ∃ m, Kernel.probe w.kt = .ok m ∧ MountsView w.kt.mnts m :=
  probe_view w.kt (fun k hk' => Lc.KernelWF.toSpec_wf k (hk k hk'))

/-- the specification lists only legal layer names -/
theorem diskLayers_legal (i : Inst) (dl : DLayer) (h : dl ∈ diskLayers i) : isLegalLayerName dl.name = true := by
  unfold diskLayers at h
  rw [List.mem_filterMap] at h
  obtain ⟨n, -, hn⟩ := h
  split at hn
  · cases hn
  · rename_i hl
    split at hn
    · cases hn
      simpa using hl
    · cases hn

/-- with distinct names every listed layer is the one found under its name -/
theorem findD_of_mem (ls : List DLayer) (hnd : (ls.map (·.name)).Nodup) (dl : DLayer) (h : dl ∈ ls) :
    findD ls dl.name = some dl := by
  unfold findD
  induction ls with
  | nil => cases h
  | cons x xs ih =>
    simp only [List.map_cons, List.nodup_cons] at hnd
    rw [List.find?_cons]
    rcases List.mem_cons.mp h with rfl | hm
    · simp
    · have hne : (x.name == dl.name) = false := by
        simp only [beq_eq_false_iff_ne, ne_eq]
        intro e
        exact hnd.1 (List.mem_map.mpr ⟨dl, hm, e.symm⟩)
      rw [hne]
      exact ih hnd.2 hm

/-- a direct child per `childrenOf` is a listed layer whose base is the parent -/
theorem childrenOf_mem (ls : List DLayer) (n kn : Bytes) (h : kn ∈ childrenOf ls n) :
    ∃ dk ∈ ls, dk.name = kn ∧ dk.file.base = n := by
  unfold childrenOf at h
  obtain ⟨dk, hdk, rfl⟩ := List.mem_map.mp h
  rw [List.mem_filter] at hdk
  exact ⟨dk, hdk.1, rfl, by simpa using hdk.2⟩

/-- what the flags a round leaves in a fresh record (`probeLayer_flags`, `probeErr_flags`)
    say about the installation -/
theorem round_flags_spec (cfg : Config) (users : List (Bytes × List User)) (w : World) (n : Bytes)
    {m : Mounts} (hv : MountsView w.kt.mnts m) (l : Layer)
    (f1 : l.mounts = getMountAndSubmounts m (buildDir (instOf cfg w) n))
    (f2 : l.mountBusy = (false || (usersOf users n).any fun u =>
      [cfg.buildRoot, cfg.workdir, cfg.upperdir].any (sameDirOrDesc u.file)))
    (f3 : l.nonMountBusy = (false || (usersOf users n).any fun u =>
      [cfg.buildRoot, cfg.workdir, cfg.upperdir].any (fun mp => !sameDirOrDesc u.file mp))) :
    (l.mounts.length > 0 ↔ mountedAtOrBelow (instOf cfg w) n = true) ∧
    l.mountBusy = modelMountBusy cfg users n ∧
    (usersOf users n ≠ [] → l.mountBusy = true ∨ l.nonMountBusy = true) ∧
    (∀ x ∈ l.mounts, atOrBelow (buildDir (instOf cfg w) n) x.mountpoint = true) := by
  refine ⟨?_, ?_, ?_, ?_⟩
  · rw [f1]
    exact mounts_nonempty_view hv _
  · rw [f2, Bool.false_or]
    rfl
  · intro hu
    rw [f2, f3]
    cases hus : usersOf users n with
    | nil => exact absurd hus hu
    | cons u rest =>
      by_cases hsd : sameDirOrDesc u.file cfg.buildRoot = true
      · left; simp [hsd]
      · right; simp [hsd]
  · intro x hx
    rw [f1] at hx
    have := (Lc.TreeOrder.mem_getMountAndSubmounts m _ x).mp hx
    unfold atOrBelow
    rcases this.2 with h | h
    · simp [h]
    · simp [h]

/-- **The record of a listed layer after `FindLayers` + `ProbeAllLayerstate`**, read on the
    installation (distinct layer names, printable kernel table): name and base are the
    layerconfig's, `Overlain` is the specification's; the record lists exactly the mounts at
    or below the layer's build root, has `MountBusy` as the process classification computes
    it, and a process flag whenever a process is attributed to the layer — for EVERY listed
    layer (fix e3cb7aa), one whose layerconfig had messages (error state) included. -/
theorem getLayers_record (cfg : Config) (users : List (Bytes × List User)) (w w' : World) (d0 d : Defs)
    (hk : ∀ k ∈ w.kt.mnts, Lc.KernelWF.KWF k)
    (hnd : ((diskLayers (instOf cfg w)).map (·.name)).Nodup)
    (hfl : (findLayers cfg).run.run w = (.ok d0, w))
    (hpa : (probeAll cfg users d0).run.run w = (.ok d, w'))
    (n : Bytes) (dl : DLayer) (hd : findD (diskLayers (instOf cfg w)) n = some dl) :
    w' = w ∧ ∃ l, findLayer d n = some l ∧ l.name = n ∧ l.base = dl.file.base ∧
      l.overlain = overlain (instOf cfg w) n ∧
      (dl.file.nmsgs > 0 → l.state = S_error) ∧
      (l.mounts.length > 0 ↔ mountedAtOrBelow (instOf cfg w) n = true) ∧
      l.mountBusy = modelMountBusy cfg users n ∧
      (usersOf users n ≠ [] → l.mountBusy = true ∨ l.nonMountBusy = true) ∧
      (∀ x ∈ l.mounts, atOrBelow (buildDir (instOf cfg w) n) x.mountpoint = true) := by
  obtain ⟨-, hl0, hnm, hord⟩ := findLayers_lists cfg w w d0 hfl n dl hd
  have hndo := order_nodup_of_disk cfg w w d0 hfl hnd
  obtain ⟨hw, m, hm, hdm, herr, hok⟩ := probeAll_record cfg users d0 d w w' hpa hndo n hord _ hl0
  obtain ⟨m', hm', hv⟩ := world_view w hk
  rw [hm] at hm'
  cases hm'
  rw [hnm] at herr hok hl0
  have hbp : buildPath cfg (layerOfFile cfg n dl.file) = buildDir (instOf cfg w) n := rfl
  have hovl : (overlayLowerdirs m).contains (buildPath cfg (layerOfFile cfg n dl.file))
      = overlain (instOf cfg w) n := by
    rw [overlain_of_view w.kt.mnts m hv, hbp]; rfl
  refine ⟨hw, ?_⟩
  by_cases hmsg : dl.file.nmsgs > 0
  · have hs : (layerOfFile cfg n dl.file).state = S_error := by simp [layerOfFile, hmsg]
    obtain ⟨dk, hdk, hfl'⟩ := herr hs
    obtain ⟨f1, f2, f3, f4, f5, f6, f7⟩ := probeErr_flags cfg users dk n
      { layerOfFile cfg n dl.file with
        overlain := (overlayLowerdirs m).contains (buildPath cfg (layerOfFile cfg n dl.file)) }
    rw [hdk] at f1
    refine ⟨_, hfl', f5, f6, f4.trans hovl, fun _ => f7.trans hs, round_flags_spec cfg users w n hv _ f1 f2 f3⟩
  · have hs : (layerOfFile cfg n dl.file).state ≠ S_error := by
      simp [layerOfFile, hmsg, S_empty, S_error]
    obtain ⟨dk, l, hdk, hp, hfl'⟩ := hok hs
    obtain ⟨f1, f2, f3, f4, f5, f6⟩ := probeLayer_flags cfg users w.fs dk n _ l hp
    rw [hdk] at f1
    exact ⟨l, hfl', f5, f6, f4.trans hovl, fun h => absurd h hmsg, round_flags_spec cfg users w n hv l f1 f2 f3⟩

end Lc.StateProbe
