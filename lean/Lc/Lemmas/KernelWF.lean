/-
  Printable kernel mounts, as a predicate on one mount of the model's kernel table:
  `Kernel.toSpec k` satisfies C12's precondition `Spec.KMount.WF` as soon as the byte-string
  fields of `k` are byte strings and its token fields (device number, type) are tokens — the
  decimal ids the model prints itself always are (`KernelProbe.natBytes_token`).  Helper
  lemmas for Props/C08 section 8 (`probe_gives_view_kwf`).

  Three predicates go by similar names.  `KernelWF.KWF k` (here; the `KWF` of C04 and C08)
  has the same fields as `KernelProbe.MntOK k`, and `toSpec_wf` only repacks them;
  `KernelProbe.KWF t` is `MntOK` of every mount of a table.  `KernelUmount.KWF` (the `KWF` of
  C03) is something else: the mount table is a tree.
-/
import Lc.Lemmas.KernelProbe

namespace Lc.KernelWF
open Lc Lc.Spec

/-- the fields of a kernel mount are printable: device number and type are tokens (not
    empty, no blank / newline / carriage return), the paths, the source and the overlay
    directories are byte strings, and an overlay's work directory does not end in a carriage
    return (the one byte the kernel does not escape and `bufio.ScanLines` drops at the end
    of a line, C12 finding mountinfo-cr-at-line-end) -/
structure KWF (k : Kernel.KMnt) : Prop where
  dev : TokenOK k.dev
  fstype : TokenOK k.fstype
  root : IsB k.root
  mp : IsB k.mp
  source : IsB k.source
  lower : IsB k.lower
  upper : IsB k.upper
  work : IsB k.work
  workLast : k.work.getLast? ≠ some 13

instance (k : Kernel.KMnt) : Decidable (KWF k) :=
  decidable_of_iff (TokenOK k.dev ∧ TokenOK k.fstype ∧ IsB k.root ∧ IsB k.mp ∧ IsB k.source ∧
      IsB k.lower ∧ IsB k.upper ∧ IsB k.work ∧ k.work.getLast? ≠ some 13)
    ⟨fun ⟨a, b, c, d, e, f, g, h, i⟩ => ⟨a, b, c, d, e, f, g, h, i⟩,
     fun h => ⟨h.dev, h.fstype, h.root, h.mp, h.source, h.lower, h.upper, h.work, h.workLast⟩⟩

theorem toSpec_wf (k : Kernel.KMnt) (h : KWF k) : (Kernel.toSpec k).WF :=
  KernelProbe.toSpec_wf ⟨h.dev, h.fstype, h.root, h.mp, h.source, h.lower, h.upper, h.work, h.workLast⟩

end Lc.KernelWF
