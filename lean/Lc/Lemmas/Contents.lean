/-
  Helper lemmas for Props/C06Contents: the reader of portage/vdb/contents.go
  (Model/Contents) against Portage's rendering of CONTENTS (Spec/ContentsRender).
-/
import Lc.Model.Contents
import Lc.Spec.ContentsRender
import Lc.Lemmas.Ite
import Lc.Lemmas.Faults

namespace Lc.Lemmas.Contents
open Lc Lc.Contents Lc.Spec.ContentsRender

/-- what the reader must return for an entry -/
def expected (e : Entry) : FileInfo :=
  { name := e.name, unixTime := e.time, md5 := e.md5, type := e.typeCode }

/-! ### trimming -/

theorem trimLeft_head_ne (c x : Nat) (xs : Bytes) (h : x ≠ c) : trimLeft c (x :: xs) = x :: xs := by
  simp [trimLeft, h]

theorem trimRight_snoc_same (c : Nat) (s : Bytes) : trimRight c (s ++ [c]) = trimRight c s := by
  simp [trimRight, trimLeft]

theorem trimRight_snoc_ne (c x : Nat) (s : Bytes) (h : x ≠ c) : trimRight c (s ++ [x]) = s ++ [x] := by
  simp [trimRight, trimLeft, h]

/-! ### cutting a field off the right end -/

theorem scanBlank_skip (s : Bytes) (p : Nat) :
    ∀ k, (∀ i, p < i → i ≤ p + k → s.getD i 0 ≠ 32) → scanBlank s (p + k) = scanBlank s p
  | 0, _ => rfl
  | k + 1, h => by
    show (if s.getD (p + k + 1) 0 = 32 then _ else scanBlank s (p + k)) = _
    rw [if_neg (h (p + k + 1) (by omega) (by omega))]
    exact scanBlank_skip s p k (fun i h1 h2 => h i h1 (by omega))

theorem scanBlank_field (head field : Bytes) (hf : 32 ∉ field) :
    scanBlank (head ++ 32 :: field) (head.length + field.length) = scanBlank (head ++ 32 :: field) head.length := by
  apply scanBlank_skip
  intro i h1 h2 e
  obtain ⟨j, rfl⟩ : ∃ j, i = head.length + (j + 1) := ⟨i - head.length - 1, by omega⟩
  have hj : j < field.length := by omega
  have : (head ++ 32 :: field).getD (head.length + (j + 1)) 0 = field[j] := by
    simp [List.getD, hj]
  exact hf (e ▸ this ▸ List.getElem_mem hj)

/-- THE cutting lemma: cutting from the right undoes appending ` <field>` when the field has
    no blank -- whatever stands to the left (blanks, blanks at its end, look-alikes), as long
    as it is not empty. -/
theorem parseOff_append (head field : Bytes) (hh : head ≠ []) (hne : field ≠ []) (hf : 32 ∉ field) :
    parseOffNonBlankField (head ++ 32 :: field) = .ok (head, field) := by
  unfold parseOffNonBlankField
  have hlen : (head ++ 32 :: field).length - 1 = head.length + field.length := by simp
  rw [if_neg (by simp), hlen, scanBlank_field head field hf]
  obtain ⟨n, hn⟩ : ∃ n, head.length = n + 1 := ⟨head.length - 1, by have := List.length_pos_iff.mpr hh; omega⟩
  have hb : (head ++ 32 :: field).getD (n + 1) 0 = 32 := by rw [← hn]; simp [List.getD]
  rw [hn, scanBlank, if_pos hb, ← hn]
  have hflen : field.length ≠ 0 := fun e => hne (List.eq_nil_of_length_eq_zero e)
  simp [hflen]

/-- an empty left part is NOT found: the loop never looks at position 0 -/
theorem parseOff_empty_head (field : Bytes) (hf : 32 ∉ field) :
    parseOffNonBlankField (32 :: field) = Res.err "parse" := by
  have hs := scanBlank_field [] field hf
  simp only [List.nil_append, List.length_nil, Nat.zero_add] at hs
  unfold parseOffNonBlankField
  rw [if_neg (by simp), show (32 :: field).length - 1 = field.length by simp, hs]
  rfl

/-! ### decimal numbers -/

theorem digitsVal_snoc (a : Bytes) (d acc : Nat) :
    digitsVal (a ++ [d]) acc = digitsVal a acc * 10 + (d - 48) := by
  induction a generalizing acc with
  | nil => simp [digitsVal]
  | cons c cs ih => simp [digitsVal, ih]

theorem natDecF_spec (f : Nat) : ∀ n, n ≤ f →
    (∀ c ∈ natDecF f n, 48 ≤ c ∧ c ≤ 57) ∧ natDecF f n ≠ [] ∧ digitsVal (natDecF f n) 0 = n := by
  induction f with
  | zero =>
    intro n hn
    have : n = 0 := by omega
    subst this
    simp [natDecF, digitsVal]
  | succ f ih =>
    intro n hn
    unfold natDecF
    by_cases h10 : n < 10
    · simp only [h10, if_true]
      refine ⟨?_, by simp, ?_⟩
      · intro c hc
        simp at hc
        omega
      · simp [digitsVal]
    · simp only [h10, if_false]
      obtain ⟨hd, hne, hv⟩ := ih (n / 10) (by omega)
      refine ⟨?_, by simp, ?_⟩
      · intro c hc
        rw [List.mem_append] at hc
        rcases hc with hc | hc
        · exact hd c hc
        · simp at hc; omega
      · rw [digitsVal_snoc, hv]
        omega

theorem natDec_digits (n : Nat) : ∀ c ∈ natDec n, 48 ≤ c ∧ c ≤ 57 := (natDecF_spec n n (Nat.le_refl _)).1
theorem natDec_ne_nil (n : Nat) : natDec n ≠ [] := (natDecF_spec n n (Nat.le_refl _)).2.1
theorem natDec_val (n : Nat) : digitsVal (natDec n) 0 = n := (natDecF_spec n n (Nat.le_refl _)).2.2

theorem natDec_all_isDigit (n : Nat) : (natDec n).all isDigit = true := by
  rw [List.all_eq_true]
  intro c hc
  have := natDec_digits n c hc
  simp [isDigit, this.1, this.2]

theorem intDec_ne_nil (t : Int) : intDec t ≠ [] := by
  cases t with
  | ofNat n => exact natDec_ne_nil n
  | negSucc n => simp [intDec]

/-- a rendered number contains only digits and possibly a leading minus sign -/
theorem intDec_bytes (t : Int) : ∀ c ∈ intDec t, c = 45 ∨ (48 ≤ c ∧ c ≤ 57) := by
  cases t with
  | ofNat n => intro c hc; exact Or.inr (natDec_digits n c hc)
  | negSucc n =>
    intro c hc
    simp only [intDec, List.mem_cons] at hc
    rcases hc with rfl | hc
    · exact Or.inl rfl
    · exact Or.inr (natDec_digits _ c hc)

theorem intDec_no_blank (t : Int) : 32 ∉ intDec t := by
  intro h; have := intDec_bytes t 32 h; omega

theorem intDec_no_nl (t : Int) : 10 ∉ intDec t := by
  intro h; have := intDec_bytes t 10 h; omega

/-- ParseInt reads back what Python's `str` wrote, for every 64-bit value -/
theorem parseInt64_intDec (t : Int) (ht : TimeOK t) : parseInt64 (intDec t) = some t := by
  obtain ⟨hlo, hhi⟩ := ht
  cases t with
  | ofNat n =>
    have hn : n < 2 ^ 63 := by
      have : (n : Int) < 2 ^ 63 := hhi
      omega
    have hne := natDec_ne_nil n
    have hall := natDec_all_isDigit n
    have hv := natDec_val n
    simp only [intDec]
    generalize hs : natDec n = s at hne hall hv
    cases s with
    | nil => exact absurd rfl hne
    | cons c rest =>
      have hc : 48 ≤ c ∧ c ≤ 57 := by
        have := natDec_digits n c (by rw [hs]; simp)
        exact this
      have h43 : (c == 43) = false := by simp; omega
      have h45 : (c == 45) = false := by simp; omega
      simp only [parseInt64, h43, h45, Bool.or_self, Bool.false_eq_true, if_false, hall, if_true, hv,
        List.isEmpty_cons]
      simp [hn]
  | negSucc n =>
    have hn : n + 1 ≤ 2 ^ 63 := by
      have : -(2 ^ 63 : Int) ≤ Int.negSucc n := hlo
      omega
    have hne := natDec_ne_nil (n + 1)
    have hall := natDec_all_isDigit (n + 1)
    have hv := natDec_val (n + 1)
    simp only [intDec, parseInt64]
    have hemp : (natDec (n + 1)).isEmpty = false := by
      cases h : natDec (n + 1) with
      | nil => exact absurd h hne
      | cons _ _ => rfl
    simp only [beq_self_eq_true, Bool.or_true, if_true, hemp, Bool.false_eq_true, if_false, hall, hv, hn]
    rfl

/-! ### hex -/

theorem hexChar_range (n : Nat) : 48 ≤ hexChar n := by
  unfold hexChar; split <;> omega

theorem hexEncode_no_low (bs : Bytes) : ∀ c ∈ hexEncode bs, 48 ≤ c := by
  induction bs with
  | nil => intro c hc; simp [hexEncode] at hc
  | cons b bs ih =>
    intro c hc
    simp only [hexEncode, List.mem_cons] at hc
    rcases hc with rfl | rfl | hc
    · exact hexChar_range _
    · exact hexChar_range _
    · exact ih c hc

theorem hexEncode_no_blank (bs : Bytes) : 32 ∉ hexEncode bs := by
  intro h; have := hexEncode_no_low bs 32 h; omega

theorem hexEncode_no_nl (bs : Bytes) : 10 ∉ hexEncode bs := by
  intro h; have := hexEncode_no_low bs 10 h; omega

theorem hexEncode_ne_nil (bs : Bytes) (h : bs ≠ []) : hexEncode bs ≠ [] := by
  cases bs with
  | nil => exact absurd rfl h
  | cons b bs => simp [hexEncode]

theorem hexNib_hexChar : ∀ n, n < 16 → hexNib (hexChar n) = some n := by decide

theorem hexDecode_hexEncode (bs : Bytes) (h : ∀ b ∈ bs, b < 256) : hexDecode (hexEncode bs) = some bs := by
  induction bs with
  | nil => rfl
  | cons b bs ih =>
    have hb : b < 256 := h b (by simp)
    have h1 := hexNib_hexChar (b / 16) (by omega)
    have h2 := hexNib_hexChar (b % 16) (by omega)
    simp only [hexEncode, hexDecode, h1, h2, ih (fun x hx => h x (by simp [hx]))]
    simp
    omega

theorem copyMd5_of_len16 (bs : Bytes) (h : bs.length = 16) : copyMd5 bs = bs := by
  unfold copyMd5
  rw [h]
  simp
  rw [← h]
  exact List.take_length

/-! ### the separator of a sym line -/

/-- whether ` -> ` stands at the front is decided by the first four bytes: behind a non-empty
    name, the whole separator and its first three bytes give the same answer -/
theorem hasPrefix_arrow_cut (name rest : Bytes) (hn : name ≠ []) :
    hasPrefix (name ++ (sepArrow ++ rest)) sepArrow = hasPrefix (name ++ b!" ->") sepArrow := by
  match name, hn with
  | [a], _ => simp [hasPrefix, sepArrow]
  | [a, b], _ => simp [hasPrefix, sepArrow]
  | [a, b, c], _ => simp [hasPrefix, sepArrow]
  | a :: b :: c :: d :: t, _ => simp [hasPrefix, sepArrow]

theorem go_short (n : Nat) : indexOf.go sepArrow b!" ->" n = none := by
  simp [indexOf.go, hasPrefix, sepArrow]

/-- no ` -> ` inside `name ++ " ->"`: the first one in `name -> rest` is the separator -/
theorem go_arrowFree (name rest : Bytes) : ∀ n, indexOf.go sepArrow (name ++ b!" ->") n = none →
    indexOf.go sepArrow (name ++ (sepArrow ++ rest)) n = some (n + name.length) := by
  induction name with
  | nil =>
    intro n _
    simp [indexOf.go, hasPrefix, sepArrow]
  | cons x xs ih =>
    intro n h
    have hcut := hasPrefix_arrow_cut (x :: xs) rest (by simp)
    simp only [List.cons_append] at hcut h ⊢
    simp only [indexOf.go] at h ⊢
    rw [hcut]
    by_cases hp : hasPrefix (x :: (xs ++ b!" ->")) sepArrow = true
    · simp [hp] at h
    · simp only [hp] at h ⊢
      rw [ih (n + 1) h]
      simp
      omega

/-- a ` -> ` inside `name ++ " ->"` is found first, whatever follows -/
theorem go_not_arrowFree (name rest : Bytes) : ∀ n m, indexOf.go sepArrow (name ++ b!" ->") n = some m →
    indexOf.go sepArrow (name ++ (sepArrow ++ rest)) n = some m ∧ m < n + name.length := by
  induction name with
  | nil =>
    intro n m h
    rw [List.nil_append, go_short] at h
    exact absurd h (by simp)
  | cons x xs ih =>
    intro n m h
    have hcut := hasPrefix_arrow_cut (x :: xs) rest (by simp)
    simp only [List.cons_append] at hcut h ⊢
    simp only [indexOf.go] at h ⊢
    rw [hcut]
    by_cases hp : hasPrefix (x :: (xs ++ b!" ->")) sepArrow = true
    · simp only [hp, if_true] at h ⊢
      simp at h
      subst h
      simp
    · simp only [hp] at h ⊢
      obtain ⟨h1, h2⟩ := ih (n + 1) m h
      refine ⟨h1, ?_⟩
      simp
      omega

theorem indexOf_arrowFree (name rest : Bytes) (h : ArrowFree name) :
    indexOf (name ++ (sepArrow ++ rest)) sepArrow = some name.length := by
  unfold ArrowFree indexOf at h
  unfold indexOf
  have := go_arrowFree name rest 0 h
  simpa using this

theorem indexOf_not_arrowFree (name rest : Bytes) (h : ¬ ArrowFree name) :
    ∃ p, p < name.length ∧ indexOf (name ++ (sepArrow ++ rest)) sepArrow = some p := by
  unfold ArrowFree indexOf at h
  cases hg : indexOf.go sepArrow (name ++ b!" ->") 0 with
  | none => exact absurd hg h
  | some m =>
    obtain ⟨h1, h2⟩ := go_not_arrowFree name rest 0 m hg
    exact ⟨m, by simpa using h2, h1⟩

/-! ### one line -/

theorem parseOffTimestamp_append (head : Bytes) (t : Int) (hh : head ≠ []) (ht : TimeOK t) :
    parseOffTimestamp (head ++ 32 :: intDec t) = .ok (t, head) := by
  unfold parseOffTimestamp
  rw [parseOff_append head _ hh (intDec_ne_nil t) (intDec_no_blank t)]
  simp [parseInt64_intDec t ht]

theorem parseOffMd5_append (head md5 : Bytes) (hh : head ≠ []) (hm : md5 ≠ []) (hb : ∀ b ∈ md5, b < 256) :
    parseOffMd5 (head ++ 32 :: hexEncode md5) = .ok (md5, head) := by
  unfold parseOffMd5
  rw [parseOff_append head _ hh (hexEncode_ne_nil md5 hm) (hexEncode_no_blank md5)]
  simp [hexDecode_hexEncode md5 hb]

theorem parseLine_dir (n : Bytes) : parseLine (renderLine (.dir n)) = .ok (expected (.dir n)) := by
  have hlen : ¬ (renderLine (.dir n)).length < 4 := by simp [renderLine]
  unfold parseLine
  rw [if_neg hlen]
  simp [renderLine, expected, Entry.name, Entry.time, Entry.md5, Entry.typeCode, FileType_dir, zeroMd5]

/-- an `obj` line: the name is ANY non-empty byte string (the line being one line) -/
theorem parseLine_obj (n md5 : Bytes) (t : Int) (hn : n ≠ []) (hl : md5.length = 16)
    (hb : ∀ b ∈ md5, b < 256) (ht : TimeOK t) :
    parseLine (renderLine (.obj n md5 t)) = .ok (expected (.obj n md5 t)) := by
  have hm : md5 ≠ [] := by intro e; rw [e] at hl; simp at hl
  have htail : (renderLine (.obj n md5 t)).drop 4 = (n ++ 32 :: hexEncode md5) ++ 32 :: intDec t := by
    simp [renderLine]
  have htake : (renderLine (.obj n md5 t)).take 4 = b!"obj " := by simp [renderLine]
  have hlen : ¬ (renderLine (.obj n md5 t)).length < 4 := by simp [renderLine]
  unfold parseLine
  rw [if_neg hlen]
  simp only [htake, htail]
  rw [parseOffTimestamp_append _ t (by simp) ht]
  simp only [show (b!"obj " = b!"dir ") = False from by simp, if_false, if_true]
  rw [parseOffMd5_append n md5 hn hm hb]
  simp [copyMd5_of_len16 md5 hl, expected, Entry.name, Entry.time, Entry.md5, Entry.typeCode, FileType_file]

theorem sym_tail (n targ : Bytes) (t : Int) :
    (renderLine (.sym n targ t)).drop 4 = (n ++ (sepArrow ++ targ)) ++ 32 :: intDec t := by
  simp [renderLine]

/-- a `sym` line in general: the name comes back up to the first ` -> ` of `name -> target` -/
theorem parseLine_sym_general (n targ : Bytes) (t : Int) (ht : TimeOK t) :
    parseLine (renderLine (.sym n targ t)) =
      match indexOf (n ++ (sepArrow ++ targ)) Lc.Contents.arrow with
      | none => Res.err "arrow"
      | some pos => .ok { type := FileType_symlink, unixTime := t, name := (n ++ (sepArrow ++ targ)).take pos } := by
  have htake : (renderLine (.sym n targ t)).take 4 = b!"sym " := by simp [renderLine]
  have hlen : ¬ (renderLine (.sym n targ t)).length < 4 := by simp [renderLine]
  unfold parseLine
  rw [if_neg hlen]
  simp only [htake, sym_tail]
  rw [parseOffTimestamp_append _ t (by simp [sepArrow]) ht]
  simp only [show (b!"sym " = b!"dir ") = False from by simp, show (b!"sym " = b!"obj ") = False from by simp,
    if_false, if_true]
  cases indexOf (n ++ (sepArrow ++ targ)) Lc.Contents.arrow <;> rfl

theorem arrow_eq : Lc.Contents.arrow = sepArrow := rfl

theorem parseLine_sym (n targ : Bytes) (t : Int) (ha : ArrowFree n) (ht : TimeOK t) :
    parseLine (renderLine (.sym n targ t)) = .ok (expected (.sym n targ t)) := by
  rw [parseLine_sym_general n targ t ht, arrow_eq, indexOf_arrowFree n targ ha]
  simp [expected, Entry.name, Entry.time, Entry.md5, Entry.typeCode, zeroMd5, FileType_symlink]

theorem parseLine_render (e : Entry) (h : WFEntry e) : parseLine (renderLine e) = .ok (expected e) := by
  cases e with
  | dir n => exact parseLine_dir n
  | obj n md5 t =>
    obtain ⟨hn, _, hl, hb, ht⟩ := h
    exact parseLine_obj n md5 t hn hl hb ht
  | sym n targ t =>
    obtain ⟨_, _, ha, ht⟩ := h
    exact parseLine_sym n targ t ha ht

/-! ### lines of the file -/

theorem renderLine_no_nl (e : Entry) (h : WFEntry e) : 10 ∉ renderLine e := by
  cases e with
  | dir n =>
    have hn : 10 ∉ n := h
    simp [renderLine, hn]
  | obj n md5 t =>
    obtain ⟨_, hn, _, _, _⟩ := h
    simp [renderLine, hn, hexEncode_no_nl md5, intDec_no_nl t]
  | sym n targ t =>
    obtain ⟨hn, htg, _, _⟩ := h
    simp [renderLine, hn, htg, intDec_no_nl t, sepArrow]

theorem renderLine_shape (e : Entry) : ∃ c rest, renderLine e = c :: rest ∧ c ≠ 10 := by
  cases e <;> simp [renderLine]

theorem render_eq_join (es : List Entry) (hne : es ≠ []) :
    render es = joinWith 10 (es.map renderLine) ++ [10] := by
  induction es with
  | nil => exact absurd rfl hne
  | cons e es ih =>
    cases es with
    | nil => simp [render, joinWith]
    | cons e' es' =>
      have := ih (by simp)
      simp only [render] at this ⊢
      simp only [List.map_cons, joinWith] at this ⊢
      rw [this]
      simp

theorem joinWith_last (c : Nat) (ls : List Bytes) (hne : ls ≠ []) (h : ∀ l ∈ ls, l ≠ [] ∧ c ∉ l) :
    ∃ t x, joinWith c ls = t ++ [x] ∧ x ≠ c := by
  induction ls with
  | nil => exact absurd rfl hne
  | cons l ls ih =>
    cases ls with
    | nil =>
      obtain ⟨hl, hnl⟩ := h l (by simp)
      exact ⟨l.dropLast, l.getLast hl, (List.dropLast_concat_getLast hl).symm,
        fun e => hnl (e ▸ List.getLast_mem hl)⟩
    | cons l' ls' =>
      obtain ⟨t, x, ht, hx⟩ := ih (by simp) (fun a ha => h a (by simp [ha]))
      exact ⟨l ++ c :: t, x, by rw [joinWith, ht, List.append_assoc, List.cons_append], hx⟩

theorem renderLines_ok (es : List Entry) (h : ∀ e ∈ es, 10 ∉ renderLine e) :
    ∀ l ∈ es.map renderLine, l ≠ [] ∧ 10 ∉ l := by
  intro l hl
  obtain ⟨e, he, rfl⟩ := List.mem_map.mp hl
  obtain ⟨c, rest, hc, _⟩ := renderLine_shape e
  exact ⟨by rw [hc]; simp, h e he⟩

/-- the lines need only be free of newlines (names with ` -> ` included) -/
theorem readFileLines_render_lines (es : List Entry) (hne : es ≠ []) (h : ∀ e ∈ es, 10 ∉ renderLine e) :
    readFileLines (render es) = joinWith 10 (es.map renderLine) := by
  obtain ⟨t, x, ht, hx⟩ := joinWith_last 10 (es.map renderLine) (by simpa using hne) (renderLines_ok es h)
  -- nothing is trimmed in front: the text starts with the first byte of a line
  have hfront : trimLeft 10 (render es) = render es := by
    cases es with
    | nil => exact absurd rfl hne
    | cons e es' =>
      obtain ⟨c, rest, hc, hc10⟩ := renderLine_shape e
      simp only [render, hc, List.cons_append]
      exact trimLeft_head_ne 10 c _ hc10
  unfold readFileLines
  rw [hfront, render_eq_join es hne, trimRight_snoc_same, ht, trimRight_snoc_ne 10 x t hx]

theorem readFileLines_render (es : List Entry) (hne : es ≠ []) (h : ∀ e ∈ es, WFEntry e) :
    readFileLines (render es) = joinWith 10 (es.map renderLine) :=
  readFileLines_render_lines es hne fun e he => renderLine_no_nl e (h e he)

theorem getAtomFileInfo_render (es : List Entry) (hne : es ≠ []) (h : ∀ e ∈ es, 10 ∉ renderLine e) :
    getAtomFileInfo (render es) = parseLines (es.map renderLine) := by
  have hlines := renderLines_ok es h
  obtain ⟨t, x, ht, _⟩ := joinWith_last 10 (es.map renderLine) (by simpa using hne) hlines
  unfold getAtomFileInfo
  simp only [readFileLines_render_lines es hne h]
  rw [if_neg (by rw [ht]; simp), splitOn_joinWith 10 _ (by simpa using hne) fun l hl => (hlines l hl).2]

theorem parseLines_render (es : List Entry) (h : ∀ e ∈ es, WFEntry e) :
    parseLines (es.map renderLine) = .ok (es.map expected) := by
  induction es with
  | nil => rfl
  | cons e es ih =>
    simp only [List.map_cons, parseLines]
    rw [parseLine_render e (h e (by simp)), ih (fun a ha => h a (by simp [ha]))]

theorem parseLines_length : ∀ (ls : List Bytes) (out : List FileInfo),
    parseLines ls = .ok out → out.length = ls.length := by
  intro ls
  induction ls with
  | nil => intro out h; simp [parseLines] at h; subst h; rfl
  | cons l ls ih =>
    intro out h
    simp only [parseLines] at h
    cases hl : parseLine l with
    | error e => rw [hl] at h; simp at h
    | ok fi =>
      rw [hl] at h
      cases hls : parseLines ls with
      | error e => rw [hls] at h; simp at h
      | ok fis =>
        rw [hls] at h
        simp at h
        subst h
        simp [ih fis hls]

/-! ### where a panic can come from -/

theorem parseOff_faults (tail : Bytes) : (parseOffNonBlankField tail).NoPanic := by
  unfold parseOffNonBlankField
  refine ite_ind (.err nofun) ?_
  cases scanBlank tail (tail.length - 1) with
  | none => exact .err nofun
  | some pos => exact ite_ind (.err nofun) .ok

theorem parseOffTimestamp_faults (tail : Bytes) : (parseOffTimestamp tail).NoPanic := by
  unfold parseOffTimestamp
  cases h : parseOffNonBlankField tail with
  | error e => exact (parseOff_faults tail).pass h
  | ok v =>
    obtain ⟨a, b⟩ := v
    dsimp only
    cases parseInt64 b with
    | none => exact .err nofun
    | some ts => exact .ok

theorem parseOffMd5_faults (tail : Bytes) : (parseOffMd5 tail).NoPanic := by
  unfold parseOffMd5
  cases h : parseOffNonBlankField tail with
  | error e => exact (parseOff_faults tail).pass h
  | ok v =>
    obtain ⟨a, b⟩ := v
    dsimp only
    cases hexDecode b with
    | none => exact .err nofun
    | some bs => exact .ok

/-- a line panics only when it is shorter than four bytes -/
theorem parseLine_faults {l : Bytes} (hlen : ¬ l.length < 4) : (parseLine l).NoPanic := by
  unfold parseLine
  rw [if_neg hlen]
  refine ite_ind .ok (ite_ind ?_ (ite_ind ?_ (.err nofun)))
  · cases h1 : parseOffTimestamp (l.drop 4) with
    | error e => exact (parseOffTimestamp_faults _).pass h1
    | ok v =>
      obtain ⟨ts, tl⟩ := v
      dsimp only
      cases h2 : parseOffMd5 tl with
      | error e => exact (parseOffMd5_faults _).pass h2
      | ok w => obtain ⟨m, tl2⟩ := w; exact .ok
  · cases h1 : parseOffTimestamp (l.drop 4) with
    | error e => exact (parseOffTimestamp_faults _).pass h1
    | ok v =>
      obtain ⟨ts, tl⟩ := v
      dsimp only
      cases indexOf tl arrow with
      | none => exact .err nofun
      | some pos => exact .ok

theorem parseLine_panic_short (l : Bytes) (hp : parseLine l = Res.panic) : l.length < 4 :=
  Classical.byContradiction fun hlen => parseLine_faults hlen _ hp rfl
end Lc.Lemmas.Contents
