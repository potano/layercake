/-
  The trace of `unmountLayer` / `unmountCmd` (helper lemmas for Props/C03): under the pretend
  switch nothing is issued, otherwise the unmount calls are exactly those of `l.mounts` in
  reverse order.  `unmountLayer` is taken apart into its loop `unmountMounts` and the re-probe
  `unmountTail`, and everything is read off the run equations of `fsUnmount` and the gate.
-/
import Lc.Lemmas.Trace

namespace Lc.UmountTrace
open Std.Do Lc Lc.Layers Lc.Hoare Lc.Mountinfo Lc.Trace

set_option mvcgen.warning false

/-- the target of an unmount call -/
def opTarget : Op → Option Bytes
  | .umount t _ => some t
  | _ => none

/-- `s` consists of unmount calls only, with exactly the targets `tgts`, in this order -/
def UmountsOf (tgts : List Bytes) (s : List Op) : Prop := s.map opTarget = tgts.map some

theorem UmountsOf.nil : UmountsOf [] [] := rfl

theorem UmountsOf.cons {tgts : List Bytes} {s : List Op} (h : UmountsOf tgts s) (t : Bytes) (fl : Nat) :
    UmountsOf (t :: tgts) (Op.umount t fl :: s) :=
  congrArg (some t :: ·) h

theorem UmountsOf.only {tgts : List Bytes} {s : List Op} (h : UmountsOf tgts s) :
    ∀ op ∈ s, ∃ t fl, op = Op.umount t fl ∧ t ∈ tgts := by
  intro op hop
  have hm : opTarget op ∈ tgts.map some := h ▸ List.mem_map_of_mem hop
  obtain ⟨t, ht, he⟩ := List.mem_map.mp hm
  cases op with
  | umount t' fl => cases he; exact ⟨t, fl, rfl, ht⟩
  | _ => cases he

/-! ### `unmountLayer` in blocks -/

def unmountMounts (ms : List MountType) : M PUnit :=
  forIn ms PUnit.unit fun m _ => do
    fsUnmount m.mountpoint
    pure (ForInStep.yield PUnit.unit)

theorem unmountMounts_nil : unmountMounts [] = (pure PUnit.unit : M PUnit) := rfl

theorem unmountMounts_cons (m : MountType) (ms : List MountType) :
    unmountMounts (m :: ms) = (fsUnmount m.mountpoint >>= fun _ => unmountMounts ms) := by
  simp [unmountMounts]

/-- what `unmountLayer` does after the loop: re-probe and re-classify -/
def unmountTail (cfg : Config) (d : Defs) (name : Bytes) : M (UStatus × Defs) := do
  let d ← refreshMountInfo cfg d
  let l ← getL d name
  let l' ← liftRes (findLayerstate cfg (← getW).fs d l)
  pure (.ok, setLayer d l')

theorem unmountLayer_eq (cfg : Config) (d : Defs) (name : Bytes) :
    unmountLayer cfg d name = (do
      let l ← getL d name
      if isBusy l false then return (.busy, d)
      if l.mounts.length == 0 then return (.notMounted, d)
      unmountMounts l.mounts.reverse
      unmountTail cfg d name) := rfl

/-- the mountpoints `unmountLayer` goes through, in issue order -/
def issueOrder (l : Layer) : List Bytes := l.mounts.reverse.map (·.mountpoint)

theorem unmountTail_run (cfg : Config) (d : Defs) (name : Bytes) (w : World) :
    ((unmountTail cfg d name).run.run w).2 = w ∧
    ∀ r, ((unmountTail cfg d name).run.run w).1 = .ok r → r.1 = .ok := by
  have hid : ∀ w', w' = w → w' = w := fun _ h => h
  have h1 := refreshMountInfo_inv hid cfg
  have h2 := getL_inv hid
  have h3 := @liftRes_inv _ _ hid
  have h : ⦃fun w' => ⌜w' = w⌝⦄ unmountTail cfg d name
      ⦃post⟨fun r w' => ⌜r.1 = .ok ∧ w' = w⌝, fun _ w' => ⌜w' = w⌝⟩⦄ := by
    unfold Respects at *
    mvcgen [unmountTail, getW, h1, h2, h3]
  -- with the program abstracted, instantiating `run_of_triple` does not evaluate the run
  generalize unmountTail cfg d name = m at h ⊢
  have h := run_of_triple _ _ _ _ h w rfl
  generalize m.run.run w = r at h ⊢
  obtain ⟨x, w'⟩ := r
  cases x with
  | error e => exact ⟨h, nofun⟩
  | ok r => exact ⟨h.2, fun _ hr => by cases hr; exact h.1⟩

theorem unmountLayer_run_cases (cfg : Config) (d : Defs) (name : Bytes) (w : World) (l : Layer)
    (hl : findLayer d name = some l) :
    (isBusy l false = true ∧ (unmountLayer cfg d name).run.run w = (.ok (.busy, d), w)) ∨
    (isBusy l false = false ∧ l.mounts.length = 0 ∧
      (unmountLayer cfg d name).run.run w = (.ok (.notMounted, d), w)) ∨
    (isBusy l false = false ∧ l.mounts.length ≠ 0 ∧
      (∀ u w1, (unmountMounts l.mounts.reverse).run.run w = (.ok u, w1) →
        (unmountLayer cfg d name).run.run w = (unmountTail cfg d name).run.run w1) ∧
      (∀ e w1, (unmountMounts l.mounts.reverse).run.run w = (.error e, w1) →
        (unmountLayer cfg d name).run.run w = (.error e, w1))) := by
  rw [unmountLayer_eq, RunM.bind_ok _ _ _ _ _ (RunM.run_getL hl w)]
  cases hb : isBusy l false
  · refine .inr ?_
    rw [if_neg Bool.false_ne_true]
    by_cases hm : l.mounts.length = 0
    · refine .inl ⟨rfl, hm, ?_⟩
      rw [if_pos (beq_iff_eq.mpr hm)]
      rfl
    · refine .inr ⟨rfl, hm, ?_⟩
      rw [if_neg (fun h => hm (beq_iff_eq.mp h)), RunM.run_bind]
      exact ⟨fun u w1 h => by rw [h], fun e w1 h => by rw [h]⟩
  · exact .inl ⟨rfl, rfl⟩

/-- what the loop appends to the trace: nothing when pretending; otherwise one unmount call for
    each mountpoint of an initial part `pre` of the list, which is all of it on a normal return -/
theorem unmountMounts_trace (ms : List MountType) : ∀ w : World,
    ∃ s, ((unmountMounts ms).run.run w).2.trace = w.trace ++ s ∧
      ((unmountMounts ms).run.run w).2.pretend = w.pretend ∧ (w.pretend = true → s = []) ∧
      (w.pretend = false → ∃ pre rest, ms.map (·.mountpoint) = pre ++ rest ∧ UmountsOf pre s ∧
        ∀ u, ((unmountMounts ms).run.run w).1 = .ok u → rest = []) := by
  induction ms with
  | nil =>
    intro w
    exact ⟨[], (List.append_nil _).symm, rfl, fun _ => rfl, fun _ => ⟨[], [], rfl, UmountsOf.nil, fun _ _ => rfl⟩⟩
  | cons m ms ih =>
    intro w
    rw [unmountMounts_cons, RunM.run_bind, RunM.run_fsUnmount]
    rcases RunM.gate_cases w with ⟨hp, h⟩ | ⟨hp, e, h⟩ | ⟨hp, h⟩ <;> rw [h]
    · -- pretending: the call is skipped
      obtain ⟨s, ht, hpp, hs, _⟩ := ih w
      exact ⟨s, ht, hpp, hs, fun hf => by rw [hp] at hf; cases hf⟩
    · -- stopped at the fault point, before the call
      exact ⟨[], (List.append_nil _).symm, rfl, fun _ => rfl, fun _ => ⟨[], _, rfl, UmountsOf.nil, nofun⟩⟩
    · have hnp : ¬ w.pretend = true := by rw [hp]; exact Bool.false_ne_true
      dsimp only
      cases Kernel.kumount w.tick.kt m.mountpoint with
      | error ke =>
        exact ⟨[_], rfl, rfl, fun ht => absurd ht hnp,
          fun _ => ⟨[m.mountpoint], _, rfl, UmountsOf.nil.cons _ _, nofun⟩⟩
      | ok kt' =>
        obtain ⟨s, ht, hpp, _, hs⟩ := ih { w.tick.log (.umount m.mountpoint (if w.tick.force then 1 else 0)) with kt := kt' }
        refine ⟨_ :: s, ht.trans (List.append_assoc _ _ _), hpp, fun ht => absurd ht hnp, fun _ => ?_⟩
        obtain ⟨pre, rest, he, hu, hr⟩ := hs hp
        exact ⟨m.mountpoint :: pre, rest, congrArg (m.mountpoint :: ·) he, hu.cons _ _, hr⟩

/-- normal exit of `unmountLayer d n` under pretend switch `p`: status, returned `Defs`, trace -/
def UnmountN (d : Defs) (n : Bytes) (p : Bool) (st : UStatus) (d' : Defs) (s : List Op) : Prop :=
  ∃ l, findLayer d n = some l ∧
    ((st = .busy ∧ isBusy l false = true ∧ s = [] ∧ d' = d) ∨
     (st = .notMounted ∧ isBusy l false = false ∧ l.mounts.length = 0 ∧ s = [] ∧ d' = d) ∨
     (st = .ok ∧ isBusy l false = false ∧ l.mounts.length ≠ 0 ∧
        ((p = true ∧ s = []) ∨ (p = false ∧ UmountsOf (issueOrder l) s))))

/-- error exit: nothing, or an initial part of the issue order of an idle layer -/
def UnmountE (d : Defs) (n : Bytes) (p : Bool) (s : List Op) : Prop :=
  s = [] ∨ ∃ l, findLayer d n = some l ∧ isBusy l false = false ∧ p = false ∧
    ∃ pre rest, issueOrder l = pre ++ rest ∧ UmountsOf pre s

/-- what `unmountLayer` emits and returns, for every world: the trace grows by the unmount calls
    of the layer's mounts in reverse order (all of them on a normal return with status `ok`, an
    initial part on an error), by nothing under the pretend switch or when the layer is busy or
    not mounted -/
theorem unmountLayer_run (cfg : Config) (d : Defs) (n : Bytes) (w : World) :
    ∃ s, Emitted (unmountLayer cfg d n) w s ∧
      ((unmountLayer cfg d n).run.run w).2.pretend = w.pretend ∧
      (∀ r, ((unmountLayer cfg d n).run.run w).1 = .ok r → UnmountN d n w.pretend r.1 r.2 s) ∧
      (∀ e, ((unmountLayer cfg d n).run.run w).1 = .error e → UnmountE d n w.pretend s) := by
  unfold Emitted
  cases hl : findLayer d n with
  | none =>
    have hr : (unmountLayer cfg d n).run.run w = (.error .panic, w) := by
      rw [unmountLayer_eq]
      unfold getL
      rw [hl]
      rfl
    rw [hr]
    exact ⟨[], (List.append_nil _).symm, rfl, nofun, fun _ _ => .inl rfl⟩
  | some l =>
    rcases unmountLayer_run_cases cfg d n w l hl with ⟨hb, hr⟩ | ⟨hb, hm, hr⟩ | ⟨hb, hm, hok, herr⟩
    · rw [hr]
      refine ⟨[], (List.append_nil _).symm, rfl, fun r h => ?_, nofun⟩
      cases h
      exact ⟨l, hl, .inl ⟨rfl, hb, rfl, rfl⟩⟩
    · rw [hr]
      refine ⟨[], (List.append_nil _).symm, rfl, fun r h => ?_, nofun⟩
      cases h
      exact ⟨l, hl, .inr (.inl ⟨rfl, hb, hm, rfl, rfl⟩)⟩
    · obtain ⟨s, ht, hpp, hT, hF⟩ := unmountMounts_trace l.mounts.reverse w
      have hE : UnmountE d n w.pretend s := by
        cases hp : w.pretend
        · obtain ⟨pre, rest, he, hs, _⟩ := hF hp
          exact .inr ⟨l, hl, hb, rfl, pre, rest, he, hs⟩
        · exact .inl (hT hp)
      generalize (unmountMounts l.mounts.reverse).run.run w = r1 at ht hpp hF hok herr
      obtain ⟨x, w1⟩ := r1
      cases x with
      | error e =>
        rw [herr e w1 rfl]
        exact ⟨s, ht, hpp, nofun, fun _ _ => hE⟩
      | ok u =>
        obtain ⟨hw1, hst⟩ := unmountTail_run cfg d n w1
        rw [hok u w1 rfl, hw1]
        refine ⟨s, ht, hpp, fun r h => ⟨l, hl, .inr (.inr ⟨hst r h, hb, hm, ?_⟩)⟩, fun _ _ => hE⟩
        cases hp : w.pretend
        · obtain ⟨pre, rest, he, hs, hr⟩ := hF hp
          rw [hr u rfl, List.append_nil] at he
          exact .inr ⟨rfl, by rw [issueOrder, he]; exact hs⟩
        · exact .inl ⟨rfl, hT hp⟩

/-! ### `umount -all` -/

/-- the body of the `-all` loop -/
def allBody (cfg : Config) : Defs × Bool → Bytes → M (Defs × Bool) := fun acc n => do
  let (st, d) ← unmountLayer cfg acc.1 n
  pure (d, acc.2 || st == .busy)

theorem unmountCmd_all_eq (cfg : Config) (d : Defs) :
    unmountCmd cfg d [] true = (do
      let (d, busy) ← d.order.reverse.foldlM (allBody cfg) (d, false)
      if busy then fail "busylayers"
      pure d) := rfl

/-- one step of the `-all` loop under pretend switch `p`: layer `n` was handled with `acc.1`,
    issued `s`, and the busy flag was updated -/
def AllSeg (p : Bool) : Defs × Bool → Bytes → List Op → Defs × Bool → Prop :=
  fun acc n s acc' => ∃ st, UnmountN acc.1 n p st acc'.1 s ∧ acc'.2 = (acc.2 || st == .busy)

def AllSegE (p : Bool) : Defs × Bool → Bytes → List Op → Prop :=
  fun acc n s => UnmountE acc.1 n p s

theorem allBody_step (cfg : Config) (p : Bool) (acc : Defs × Bool) (n : Bytes) (w : World) (hw : w.pretend = p) :
    ∃ s, ((allBody cfg acc n).run.run w).2.trace = w.trace ++ s ∧
      ((allBody cfg acc n).run.run w).2.pretend = p ∧
      (∀ b', ((allBody cfg acc n).run.run w).1 = .ok b' → AllSeg p acc n s b') ∧
      (∀ e, ((allBody cfg acc n).run.run w).1 = .error e → AllSegE p acc n s) := by
  obtain ⟨s, he, hp, hN, hE⟩ := unmountLayer_run cfg acc.1 n w
  unfold Emitted at he
  have hb : (allBody cfg acc n).run.run w =
      match (unmountLayer cfg acc.1 n).run.run w with
      | (.ok r, w') => (.ok (r.2, acc.2 || r.1 == .busy), w')
      | (.error e, w') => (.error e, w') := by
    unfold allBody
    rw [RunM.run_bind]
    generalize (unmountLayer cfg acc.1 n).run.run w = r
    obtain ⟨x, w'⟩ := r
    cases x with
    | ok a => obtain ⟨st, d'⟩ := a; rfl
    | error e => rfl
  rw [hb]
  generalize (unmountLayer cfg acc.1 n).run.run w = r at he hp hN hE
  obtain ⟨x, w'⟩ := r
  subst hw
  cases x with
  | ok a =>
    refine ⟨s, he, hp, ?_, nofun⟩
    intro b' hb'
    cases hb'
    exact ⟨a.1, hN a rfl, rfl⟩
  | error e =>
    exact ⟨s, he, hp, nofun, fun _ _ => hE e rfl⟩

/-- **`umount -all`, run level**: the trace is the concatenation of the per-layer segments
    over `d.order.reverse`; after a normal return the loop has finished with the busy flag
    down; an error is either "busylayers" after a finished loop with the flag up, or the
    error of the unmount at which the loop stopped -/
theorem unmountCmd_all_run (cfg : Config) (d : Defs) (w : World) :
    ∃ s, Emitted (unmountCmd cfg d [] true) w s ∧
      (∀ d', ((unmountCmd cfg d [] true).run.run w).1 = .ok d' →
        FoldOk (AllSeg w.pretend) (d, false) d.order.reverse s (d', false)) ∧
      (∀ e, ((unmountCmd cfg d [] true).run.run w).1 = .error e →
        (e = .err "busylayers" ∧ ∃ d', FoldOk (AllSeg w.pretend) (d, false) d.order.reverse s (d', true)) ∨
        FoldErr (AllSeg w.pretend) (AllSegE w.pretend) (d, false) d.order.reverse s) := by
  obtain ⟨s, he, _, hN, hE⟩ := foldlM_segments (fun w' => w'.pretend = w.pretend) (AllSeg w.pretend)
    (AllSegE w.pretend) (allBody cfg) (fun b x w' hw' => allBody_step cfg w.pretend b x w' hw')
    d.order.reverse (d, false) w rfl
  rw [unmountCmd_all_eq]
  unfold Emitted
  rw [RunM.run_bind]
  generalize (d.order.reverse.foldlM (allBody cfg) (d, false)).run.run w = r at he hN hE
  obtain ⟨x, w'⟩ := r
  cases x with
  | error e => exact ⟨s, he, nofun, fun _ _ => .inr (hE e rfl)⟩
  | ok a =>
    obtain ⟨d', busy⟩ := a
    have hf := hN (d', busy) rfl
    cases busy with
    | true =>
      refine ⟨s, he, nofun, fun e he' => .inl ⟨?_, d', hf⟩⟩
      change (Except.error (Fault.err "busylayers") : Except Fault Defs) = Except.error e at he'
      cases he'
      rfl
    | false =>
      refine ⟨s, he, fun d'' hd => ?_, nofun⟩
      cases hd
      exact hf

end Lc.UmountTrace
