/-
  The whole probe against the documented classification of the whole forest
  (`Spec.World.allStates`): fuel independence of the specification's recursion under
  `forestWF`, the table `FindLayers` + `refreshMountInfo` hand to the loop, the loop
  invariant "layers already visited carry the documented state, the others are untouched",
  generic in the per-round equation (supplied by Props/C08 `probe_round_eq_spec`).
  Helper lemmas for Props/C08 section 10.
-/
import Lc.Lemmas.ProbeRound
import Lc.Lemmas.ProbeLoop
import Lc.Props.C02

namespace Lc.StateProbe
open Lc Lc.Layers Lc.Mountinfo Lc.Layerfile Lc.Spec.World Lc.RunM Lc.Forest

/-! ### the specification's recursion -/

/-- the state the classification gives the layer named `n` -/
def specSt (i : Inst) (ls : List DLayer) (users : List (Bytes × List User)) (n : Bytes) : St :=
  allStates.go i ls users (ls.length + 1) n

theorem go_succ (i : Inst) (ls : List DLayer) (users : List (Bytes × List User)) (f : Nat) (n : Bytes) :
    allStates.go i ls users (f + 1) n =
      match findD ls n with
      | none => St.error
      | some l => stateOf i ls users l
          (if l.file.base.isEmpty then none else some (allStates.go i ls users f l.file.base)) := rfl

theorem ancestorsOf_succ (ls : List DLayer) (f : Nat) (n : Bytes) :
    ancestorsOf ls (f + 1) n =
      match findD ls n with
      | none => []
      | some l => if l.file.base.isEmpty then [] else l.file.base :: ancestorsOf ls f l.file.base := rfl

/-- once the ancestor walk ends within the fuel, more fuel changes nothing -/
theorem go_fuel (i : Inst) (ls : List DLayer) (users : List (Bytes × List User)) :
    ∀ (f : Nat) (n : Bytes), (ancestorsOf ls f n).length < f → ∀ f', f ≤ f' →
      allStates.go i ls users f' n = allStates.go i ls users f n := by
  intro f
  induction f with
  | zero => intro n h; simp at h
  | succ f ih =>
    intro n h f' hf'
    obtain ⟨f'', rfl⟩ : ∃ f'', f' = f'' + 1 := ⟨f' - 1, by omega⟩
    rw [go_succ, go_succ]
    rw [ancestorsOf_succ] at h
    cases hd : findD ls n with
    | none => rfl
    | some l =>
      rw [hd] at h
      simp only [] at h ⊢
      by_cases hb : l.file.base.isEmpty = true
      · simp [hb]
      · simp only [hb, Bool.false_eq_true, ↓reduceIte] at h ⊢
        simp only [List.length_cons] at h
        rw [ih l.file.base (by omega) f'' (by omega)]

theorem findD_mem (ls : List DLayer) (n : Bytes) (dl : DLayer) (h : findD ls n = some dl) : dl ∈ ls :=
  List.mem_of_find?_eq_some h

/-- the classification of a layer in terms of the classification of its parent -/
theorem specSt_eq (i : Inst) (ls : List DLayer) (users : List (Bytes × List User))
    (hwf : forestWF ls = true) (x : Bytes) (dl : DLayer) (hd : findD ls x = some dl) :
    specSt i ls users x = stateOf i ls users dl
      (if dl.file.base.isEmpty then none else some (specSt i ls users dl.file.base)) := by
  unfold specSt
  rw [go_succ, hd]
  simp only []
  by_cases hb : dl.file.base.isEmpty = true
  · simp [hb]
  · simp only [hb, Bool.false_eq_true, ↓reduceIte]
    have hmem := findD_mem ls x dl hd
    have hnm : dl.name = x := findD_name ls x dl hd
    unfold forestWF at hwf
    have := List.all_eq_true.mp hwf dl hmem
    simp only [Bool.and_eq_true, decide_eq_true_eq] at this
    have hlen := this.2
    rw [hnm, ancestorsOf_succ, hd] at hlen
    simp only [hb, Bool.false_eq_true, ↓reduceIte, List.length_cons] at hlen
    have hpos : 1 ≤ ls.length := by
      cases ls with
      | nil => cases hmem
      | cons a as => simp
    rw [go_fuel i ls users ls.length dl.file.base (by omega) (ls.length + 1) (by omega)]

theorem allStates_find (i : Inst) (ls : List DLayer) (users : List (Bytes × List User))
    (x : Bytes) (dl : DLayer) (hd : findD ls x = some dl) :
    (allStates i ls users).find? (·.1 == x) = some (x, specSt i ls users x) := by
  have hnm : dl.name = x := findD_name ls x dl hd
  unfold allStates
  rw [List.find?_map]
  have : ((fun (p : Bytes × St) => p.1 == x) ∘ fun (l : DLayer) => (l.name, allStates.go i ls users (ls.length + 1) l.name))
      = fun (l : DLayer) => l.name == x := rfl
  rw [this]
  unfold findD at hd
  rw [hd]
  simp [specSt, hnm]

/-! ### the table handed to the loop -/

/-- a record as `FindLayers` + `refreshMountInfo` leave it -/
structure Init0 (i : Inst) (m : Mounts) (dl : DLayer) (l : Layer) : Prop where
  corr : Corr i dl l
  mb : l.mountBusy = false
  ov : l.overlain = (overlayLowerdirs m).contains (buildPath i.cfg l)
  st : l.state = if dl.file.nmsgs > 0 then S_error else S_empty

/-- every record of the refreshed table is an `Init0` record of the disk layer of its name -/
theorem init_table (i : Inst) (m : Mounts) (order : List Bytes) (n : Bytes) (l : Layer)
    (hl : findLayer
      { layers := (readLayerFiles i.cfg i.fs (Fs.children i.fs i.cfg.layerdirs)).map fun l =>
          { l with overlain := (overlayLowerdirs m).contains (buildPath i.cfg l) },
        order := order, mounts := m } n = some l) :
    ∃ dl, findD (diskLayers i) n = some dl ∧ Init0 i m dl l := by
  have h := (findLayer_refresh
    { layers := readLayerFiles i.cfg i.fs (Fs.children i.fs i.cfg.layerdirs), order := order } m
    (fun l => (overlayLowerdirs m).contains (buildPath i.cfg l)) n).symm.trans hl
  obtain ⟨l00, hf, rfl⟩ := Option.map_eq_some_iff.mp h
  obtain ⟨dl, hd, rfl⟩ := Option.map_eq_some_iff.mp ((find_read i n).symm.trans hf)
  exact ⟨dl, hd, ⟨rfl, rfl, rfl, rfl, rfl⟩, rfl, rfl, rfl⟩

/-! ### records of the same disk layer -/

/-- a round leaves what `layerOfFile` stored -/
theorem Corr.probeErr {i : Inst} {dl : DLayer} {l : Layer} (hc : Corr i dl l) (cfg : Config)
    (users : List (Bytes × List User)) (d : Defs) (n : Bytes) (s : Nat) :
    Corr i dl { probeErr cfg users d n l with state := s } := by
  rw [probeErr_eq]
  exact ⟨hc.name, hc.base, hc.cmounts, hc.cexports, hc.layerPath⟩

theorem Corr.lkey_eq {i : Inst} {dl : DLayer} {l l' : Layer} (hc : Corr i dl l) (hc' : Corr i dl l') :
    lkey l' = lkey l := by
  unfold lkey
  rw [hc.name, hc.base, hc.layerPath, hc'.name, hc'.base, hc'.layerPath]

theorem Corr.expand_eq {i : Inst} {dl : DLayer} {l l' : Layer} (hc : Corr i dl l) (hc' : Corr i dl l')
    (d : Defs) : expandConfigMounts i.cfg d l' = expandConfigMounts i.cfg d l :=
  expandConfigMounts_congr i.cfg d l' l (hc'.base.trans hc.base.symm)
    (hc'.cmounts.trans hc.cmounts.symm) (hc'.layerPath.trans hc.layerPath.symm)

theorem forestCorr_setLayer (i : Inst) (ls : List DLayer) (d : Defs) (hf : ForestCorr i ls d)
    (l l' : Layer) (hl : findLayer d l'.name = some l)
    (hk : ∀ dl, Corr i dl l → Corr i dl l') : ForestCorr i ls (setLayer d l') := by
  refine ⟨by simp [setLayer]; exact hf.len, ?_⟩
  intro n r hr
  by_cases hn : n = l'.name
  · subst hn
    rw [findLayer_setLayer_eq d l l' hl, if_pos rfl] at hr
    cases hr
    obtain ⟨dl, hd, hc⟩ := hf.find _ _ hl
    exact ⟨dl, hd, hk dl hc⟩
  · unfold findLayer at hr
    rw [find?_setLayer_other d l' n hn] at hr
    exact hf.find n r hr

/-! ### the loop invariant -/

/-- names in `done` carry the documented state; the others are as the loop found them -/
structure LInv (i : Inst) (ls : List DLayer) (users : List (Bytes × List User)) (m : Mounts)
    (d0 : Defs) (done : List Bytes) (d : Defs) : Prop where
  mounts : d.mounts = m
  keys : SameKeys d0 d
  forest : ForestCorr i ls d
  fin : ∀ n l, n ∈ done → findLayer d n = some l → l.state = (specSt i ls users n).toNat
  ini : ∀ n l, n ∉ done → findLayer d n = some l → ∃ dl, findD ls n = some dl ∧ Init0 i m dl l

/-- the per-round equation the loop is generic in (Props/C08 `probe_round_eq_spec`) -/
def RoundEq (i : Inst) (ls : List DLayer) (users : List (Bytes × List User)) (m : Mounts) (d0 : Defs) : Prop :=
  ∀ (d : Defs) (dl : DLayer) (l0 : Layer) (ps : Option St),
    ForestCorr i ls d → d.mounts = m → SameKeys d0 d →
    findD ls dl.name = some dl → findLayer d dl.name = some l0 → dl.file.nmsgs = 0 →
    (match ps with
      | none => dl.file.base = []
      | some s => dl.file.base ≠ [] ∧ ∃ bl, findLayer d dl.file.base = some bl ∧ bl.state = s.toNat) →
    l0.mountBusy = false → l0.overlain = (overlayLowerdirs m).contains (buildPath i.cfg l0) →
    ∃ l', probeLayer i.cfg users i.fs d dl.name l0 = .ok l' ∧ l'.state = (stateOf i ls users dl ps).toNat

theorem step_inv (i : Inst) (ls : List DLayer) (users : List (Bytes × List User)) (m : Mounts)
    (d0 : Defs) (hround : RoundEq i ls users m d0) (hwf : forestWF ls = true)
    (done : List Bytes) (x : Bytes) (d : Defs) (hI : LInv i ls users m d0 done d) (hx : x ∉ done)
    (hpar : ∀ dl, findD ls x = some dl → dl.file.base ≠ [] →
      dl.file.base ∈ done ∧ (findLayer d0 dl.file.base).isSome = true)
    (l0 l1 : Layer) (hf : findLayer d x = some l0)
    (hr : probeRound i.cfg users i.fs d x l0 = .ok l1) :
    LInv i ls users m d0 (done ++ [x]) (setLayer d l1) := by
  obtain ⟨dl, hd, hini⟩ := hI.ini x l0 hx hf
  have hnm : dl.name = x := findD_name ls x dl hd
  have hsp := specSt_eq i ls users hwf x dl hd
  have hs1 : l1.state = (specSt i ls users x).toNat := by
    unfold probeRound at hr
    by_cases hn : dl.file.nmsgs > 0
    · -- layerconfig with messages: the error state is kept (mounts and users recorded)
      have hst : l0.state = S_error := by rw [hini.st]; simp [hn]
      rw [if_pos (by simp [hst])] at hr
      cases hr
      rw [probeErr_eq, hsp, stateOf_unfold]
      simp [hn, St.toNat, hst, S_error]
    · have hn0 : dl.file.nmsgs = 0 := by omega
      have hst : l0.state = S_empty := by rw [hini.st]; simp [hn]
      rw [if_neg (by rw [hst]; decide)] at hr
      -- the parent's state, as already stored
      have hps : match (if dl.file.base.isEmpty then none else some (specSt i ls users dl.file.base)) with
          | none => dl.file.base = []
          | some s => dl.file.base ≠ [] ∧ ∃ bl, findLayer d dl.file.base = some bl ∧ bl.state = s.toNat := by
        by_cases hb : dl.file.base.isEmpty = true
        · simp only [hb, ↓reduceIte]
          exact List.isEmpty_iff.mp hb
        · simp only [hb, Bool.false_eq_true, ↓reduceIte]
          have hne : dl.file.base ≠ [] := fun e => hb (by rw [e]; rfl)
          obtain ⟨hbd, hbs⟩ := hpar dl hd hne
          obtain ⟨b0, hb0⟩ := Option.isSome_iff_exists.mp hbs
          obtain ⟨bl, hbl, -⟩ := sameKeys_find hI.keys _ _ hb0
          exact ⟨hne, bl, hbl, hI.fin _ bl hbd hbl⟩
      obtain ⟨l1', hp, hs1⟩ := hround d dl l0 _ hI.forest hI.mounts hI.keys (hnm ▸ hd) (hnm ▸ hf) hn0 hps
        hini.mb hini.ov
      rw [hnm, hr] at hp
      cases hp
      rw [hs1, hsp]
  obtain ⟨s, hl1⟩ := probeRound_eq hr
  have hk : ∀ dl', Corr i dl' l0 → Corr i dl' l1 :=
    fun _ h => hl1 ▸ h.probeErr i.cfg users d x s
  have hn1 : l1.name = x := (hk dl hini.corr).name.trans hnm
  have hfl : findLayer d l1.name = some l0 := hn1 ▸ hf
  have hfs := findLayer_setLayer_eq d l0 l1 hfl
  refine ⟨hI.mounts, hI.keys.trans (sameKeys_setLayer d l0 l1 hfl (hini.corr.lkey_eq (hk dl hini.corr))),
    forestCorr_setLayer i ls d hI.forest l0 l1 hfl hk, ?_, ?_⟩
  · intro n l hn' hl
    rw [hfs, hn1] at hl
    split at hl
    · rename_i e
      cases hl
      rw [e]
      exact hs1
    · rename_i e
      exact hI.fin n l (by simpa [e] using hn') hl
  · intro n l hn' hl
    rw [hfs, hn1, if_neg (fun e => hn' (by simp [e]))] at hl
    exact hI.ini n l (fun h => hn' (List.mem_append_left _ h)) hl

/-- the loop, from any split of the order list -/
theorem loop_inv (i : Inst) (ls : List DLayer) (users : List (Bytes × List User)) (m : Mounts)
    (d0 : Defs) (hround : RoundEq i ls users m d0) (hwf : forestWF ls = true) (order : List Bytes)
    (hnd : order.Nodup)
    (hpar : ∀ done x rest, order = done ++ x :: rest → ∀ dl, findD ls x = some dl → dl.file.base ≠ [] →
      dl.file.base ∈ done ∧ (findLayer d0 dl.file.base).isSome = true) :
    ∀ (rest done : List Bytes) (d dfin : Defs) (w w' : World), order = done ++ rest →
      LInv i ls users m d0 done d →
      (rest.foldlM (probeStep i.cfg users i.fs) d).run.run w = (.ok dfin, w') →
      w' = w ∧ LInv i ls users m d0 order dfin :=
  probeLoop_ind i.cfg users i.fs (LInv i ls users m d0) order
    fun done x rest d l0 l1 ho hI hf hr =>
      step_inv i ls users m d0 hround hwf done x d hI
        (fun e => (List.nodup_append.mp (ho ▸ hnd)).2.2 x e x (by simp) rfl)
        (hpar done x rest ho) l0 l1 hf hr

/-! ### the order list: parents first -/

/-- in a duplicate-free list, what stands before an element that is followed by `x` stands
    before `x` -/
theorem before_split (order done rest l1 l2 : List Bytes) (x b : Bytes) (hnd : order.Nodup)
    (h1 : order = done ++ x :: rest) (h2 : order = l1 ++ b :: l2) (hx : x ∈ l2) : b ∈ done := by
  have h := h1.symm.trans h2
  rcases List.append_eq_append_iff.mp h with ⟨a', e1, e2⟩ | ⟨c', e1, e2⟩
  · -- l1 = done ++ a', x :: rest = a' ++ b :: l2
    exfalso
    cases a' with
    | nil =>
      simp only [List.nil_append, List.cons.injEq] at e2
      rw [h2, ← e2.1] at hnd
      have := (List.nodup_append.mp hnd).2.1
      exact (List.nodup_cons.mp this).1 hx
    | cons y ys =>
      simp only [List.cons_append, List.cons.injEq] at e2
      rw [h2, e1, ← e2.1] at hnd
      have hxm : x ∈ done ++ x :: ys := by simp
      have := (List.nodup_append.mp hnd).2.2 x hxm x (by simp [hx])
      exact this rfl
  · -- done = l1 ++ c', b :: l2 = c' ++ x :: rest
    cases c' with
    | nil =>
      exfalso
      simp only [List.nil_append, List.cons.injEq] at e2
      rw [h2, e2.1] at hnd
      have := (List.nodup_append.mp hnd).2.1
      exact (List.nodup_cons.mp this).1 hx
    | cons y ys =>
      simp only [List.cons_append, List.cons.injEq] at e2
      rw [e1, e2.1]
      simp

/-- in the order `normalizeOrder` gives the accepted table read from the disk, the parent of
    a layer is a record of the table and stands before the layer -/
theorem parent_first (i : Inst) (order : List Bytes)
    (hci : checkInheritance (readLayerFiles i.cfg i.fs (Fs.children i.fs i.cfg.layerdirs)) = true)
    (hno : normalizeOrder (readLayerFiles i.cfg i.fs (Fs.children i.fs i.cfg.layerdirs)) = .ok order)
    (hnd : order.Nodup) (done rest : List Bytes) (x : Bytes) (ho : order = done ++ x :: rest)
    (dl : DLayer) (hd : findD (diskLayers i) x = some dl) (hb : dl.file.base ≠ []) :
    dl.file.base ∈ done ∧ ∃ p, (readLayerFiles i.cfg i.fs (Fs.children i.fs i.cfg.layerdirs)).find?
      (·.name == dl.file.base) = some p := by
  have hcm := List.mem_of_find?_eq_some ((find_read i x).trans (congrArg _ hd))
  have hcb : (layerOfFile i.cfg dl.name dl.file).base ≠ [] := hb
  obtain ⟨q, hq, hqn⟩ := ForestInv.parent_of_check _ hci _ hcm hcb
  obtain ⟨p, hp⟩ := Option.isSome_iff_exists.mp
    ((List.find?_isSome (p := fun (l : Layer) => l.name == (layerOfFile i.cfg dl.name dl.file).base)).mpr
      ⟨q, hq, beq_iff_eq.mpr hqn⟩)
  obtain ⟨l1, l2, e, hx2⟩ := Lc.Props.C02.parent_precedes _ _ hno _ p hcm hcb hp
  have hcn : (layerOfFile i.cfg dl.name dl.file).name = x := findD_name _ x dl hd
  rw [hcn] at hx2
  exact ⟨before_split order done rest l1 l2 x dl.file.base hnd ho e hx2, p, hp⟩

/-- the key builder and the `$$base` walk have the same recursion -/
theorem findLayerBase_sortKey (d : Defs) : ∀ (f : Nat) (l : Layer) (acc : Bytes),
    (findLayerBase d f l).isSome = (sortKey d.layers f l.base acc).isSome := by
  intro f
  induction f with
  | zero => intro l acc; rfl
  | succ f ih =>
    intro l acc
    unfold findLayerBase sortKey
    by_cases hb : l.base.length > 0
    · have hb' : ¬ l.base.length < 1 := by omega
      simp only [hb, ↓reduceIte, hb']
      unfold findLayer
      cases hf : d.layers.find? (·.name == l.base) with
      | none => rfl
      | some p => exact ih p _
    · have hb' : l.base.length < 1 := by omega
      simp [hb, hb']

/-! ### every expanded import is a resolved import of the specification -/

theorem import_of_spec (i : Inst) (ls : List DLayer) (dl : DLayer) (d : Defs) (l : Layer)
    (imports : List Expanded) (hc : Corr i dl l)
    (hroot : (findLayerBase d (d.layers.length + 1) l).map (·.layerPath)
      = some (layerDir i (rootOf ls dl.name)))
    (hexp : expandConfigMounts i.cfg d l = .ok imports) :
    ∀ e ∈ imports, ∃ imp ∈ dl.file.mounts, resolveSource i ls dl.name imp.source = some e.source ∧
      e.mount = pathJoin [buildDir i dl.name, imp.mount] ∧ e.fstype = imp.fstype := by
  intro e he
  obtain ⟨imp, himp, hmp, hft, -, -, hsrc⟩ := Lc.Expand.expand_mem hexp e he
  refine ⟨imp, hc.cmounts ▸ himp, ?_, by rw [hmp, hc.buildPath], hft⟩
  rw [resolveSource_eq i ls dl d l hc hroot, hsrc]

theorem sameKeys_of_layers_eq {d d' : Defs} (h : d.layers = d'.layers) : SameKeys d d' := by
  refine ⟨by rw [h], fun n => ?_⟩
  unfold findLayer
  rw [h]

theorem sourceAgree_congr (i : Inst) (e e' : Expanded) (h1 : e.mount = e'.mount)
    (h2 : e.source = e'.source) (h3 : e.fstype = e'.fstype) (h : SourceAgree i e') : SourceAgree i e := by
  unfold SourceAgree at h ⊢
  rw [h1, h2, h3]
  exact h

/-- `SourceAgree` for every resolvable configured import of every layer of the forest — a
    decidable statement about the installation and the layerconfig files alone -/
def SourceAgreeAll (i : Inst) (ls : List DLayer) : Prop :=
  ∀ dl ∈ ls, ∀ imp ∈ dl.file.mounts, ∀ src ∈ (resolveSource i ls dl.name imp.source).toList,
    SourceAgree i ⟨pathJoin [buildDir i dl.name, imp.mount], src, imp.fstype, imp.mount, imp.source⟩

instance (i : Inst) (ls : List DLayer) : Decidable (SourceAgreeAll i ls) := by
  unfold SourceAgreeAll; exact inferInstance

/-- the chain walk for `$$base` ends for every record of a table with the skeleton of an
    accepted one -/
theorem rootsome_of_check (layers : List Layer) (hci : checkInheritance layers = true) (d : Defs)
    (hk : SameKeys { layers := layers } d) (n : Bytes) (l0 : Layer) (hl0 : findLayer d n = some l0) :
    (findLayerBase d (d.layers.length + 1) l0).isSome = true := by
  obtain ⟨l00, hl00, hkey⟩ := sameKeys_find hk.symm n l0 hl0
  have hmem : l00 ∈ layers := List.mem_of_find?_eq_some hl00
  unfold lkey at hkey
  simp only [Prod.mk.injEq] at hkey
  have h1 := findLayerBase_sameKeys hk.symm (d.layers.length + 1) l0 l00 hkey.2.1.symm hkey.2.2.symm
  have h2 := congrArg Option.isSome h1
  simp only [Option.isSome_map] at h2
  rw [h2, ← hk.1, findLayerBase_sortKey _ _ l00 l00.name]
  exact Lc.Props.C02.keys_defined layers hci l00 hmem

/-! ### assembly: `getLayers`, generic in the per-round equation -/

theorem getLayers_run (cfg : Config) (inuse : List (Bytes × List User)) (w w' : World) (d : Defs)
    (h : (getLayers cfg inuse).run.run w = (.ok d, w')) :
    ∃ d0, (findLayers cfg).run.run w = (.ok d0, w) ∧ (probeAll cfg inuse d0).run.run w = (.ok d, w') ∧
      ∀ name l, findLayer d name = some l → name ∈ d0.order := by
  unfold getLayers at h
  rw [run_bind] at h
  cases hf : (findLayers cfg).run.run w with
  | mk r w1 =>
    rw [hf] at h
    cases r with
    | error e => cases h
    | ok d0 =>
      simp only [] at h
      obtain ⟨hw, -, -, -, hno⟩ := ForestCmd.findLayers_ok cfg w w1 d0 hf
      subst hw
      refine ⟨d0, rfl, h, ?_⟩
      intro name l hl
      have hk := probeAll_sameKeys cfg inuse d0 d w1 w' h
      obtain ⟨l0, hl0, -⟩ := sameKeys_find hk.symm name l hl
      have hmem : l0 ∈ d0.layers := List.mem_of_find?_eq_some hl0
      have hname : l0.name = name := ForestInv.find_name hl0
      apply (order_perm _ _ hno).mem_iff.mpr
      exact List.mem_map.mpr ⟨l0, hmem, hname⟩

/-- **The whole probe = the documented classification of the whole forest**, for any
    per-round equation `RoundEq` (instantiated in Props/C08).  `i` is the installation the
    world shows (configuration, tree, kernel table). -/
theorem getLayers_spec (cfg : Config) (users : List (Bytes × List User)) (w w' : World) (d : Defs)
    (hrun : (getLayers cfg users).run.run w = (.ok d, w'))
    (hwf : forestWF (diskLayers ⟨cfg, w.fs, w.kt.mnts⟩) = true)
    (hnd : ((diskLayers ⟨cfg, w.fs, w.kt.mnts⟩).map (·.name)).Nodup)
    (hround : ∀ m d0, Kernel.probe w.kt = .ok m →
      d0.layers = (readLayerFiles cfg w.fs (Fs.children w.fs cfg.layerdirs)).map (fun l =>
        { l with overlain := (overlayLowerdirs m).contains (buildPath cfg l) }) →
      checkInheritance (readLayerFiles cfg w.fs (Fs.children w.fs cfg.layerdirs)) = true →
      RoundEq ⟨cfg, w.fs, w.kt.mnts⟩ (diskLayers ⟨cfg, w.fs, w.kt.mnts⟩) users m d0) :
    w' = w ∧ ∀ name l, findLayer d name = some l →
      (allStates ⟨cfg, w.fs, w.kt.mnts⟩ (diskLayers ⟨cfg, w.fs, w.kt.mnts⟩) users).find? (·.1 == name)
        = some (name, specSt ⟨cfg, w.fs, w.kt.mnts⟩ (diskLayers ⟨cfg, w.fs, w.kt.mnts⟩) users name) ∧
      l.state = (specSt ⟨cfg, w.fs, w.kt.mnts⟩ (diskLayers ⟨cfg, w.fs, w.kt.mnts⟩) users name).toNat := by
  obtain ⟨d00, hfl, hp, hord⟩ := getLayers_run cfg users w w' d hrun
  obtain ⟨-, -, hlay, hci, hno⟩ := ForestCmd.findLayers_ok cfg w w d00 hfl
  obtain ⟨m, hm, hloop⟩ := probeAll_run cfg users d00 d w w' hp
  -- the refreshed table
  generalize hd0 : ({ d00 with mounts := m, layers := d00.layers.map fun l =>
      { l with overlain := (overlayLowerdirs m).contains (buildPath cfg l) } } : Defs) = d0 at hloop
  have hlay0 : d0.layers = (readLayerFiles cfg w.fs (Fs.children w.fs cfg.layerdirs)).map (fun l =>
      { l with overlain := (overlayLowerdirs m).contains (buildPath cfg l) }) := by
    subst hd0; rw [hlay]
  have hord0 : d0.order = d00.order := by subst hd0; rfl
  have hm0 : d0.mounts = m := by subst hd0; rfl
  have hk00 : SameKeys d00 d0 := by subst hd0; exact sameKeys_refresh d00 m _
  rw [hlay] at hci hno
  have hR := hround m d0 hm hlay0 hci
  -- every record of d0 is an `Init0` record
  have hinit : ∀ n l, findLayer d0 n = some l →
      ∃ dl, findD (diskLayers ⟨cfg, w.fs, w.kt.mnts⟩) n = some dl ∧ Init0 ⟨cfg, w.fs, w.kt.mnts⟩ m dl l := by
    intro n l hl
    apply init_table ⟨cfg, w.fs, w.kt.mnts⟩ m d0.order n l
    unfold findLayer at hl ⊢
    simp only []
    rw [hlay0] at hl
    exact hl
  have hlen : d0.layers.length = (diskLayers ⟨cfg, w.fs, w.kt.mnts⟩).length := by
    rw [hlay0, List.length_map]
    exact (forestCorr_diskLayers ⟨cfg, w.fs, w.kt.mnts⟩ d0.order m).len
  have hI0 : LInv ⟨cfg, w.fs, w.kt.mnts⟩ (diskLayers ⟨cfg, w.fs, w.kt.mnts⟩) users m d0 [] d0 :=
    ⟨hm0, SameKeys.refl _, ⟨hlen, fun n l hl => by
        obtain ⟨dl, hd, hi0⟩ := hinit n l hl
        exact ⟨dl, hd, hi0.corr⟩⟩,
     (fun n l hn _ => by cases hn),
     (fun n l _ hl => hinit n l hl)⟩
  -- names: unique, parents first
  have hnames : (readLayerFiles cfg w.fs (Fs.children w.fs cfg.layerdirs)).map (·.name)
      = (diskLayers ⟨cfg, w.fs, w.kt.mnts⟩).map (·.name) :=
    (congrArg (List.map (·.name)) (readLayerFiles_diskLayers ⟨cfg, w.fs, w.kt.mnts⟩)).trans
      (List.map_map ..)
  have hnd0 : d0.order.Nodup := by
    rw [hord0]
    exact Lc.Props.C02.order_nodup _ _ hno (by rw [hnames]; exact hnd)
  have hpar : ∀ done x rest, d0.order = done ++ x :: rest → ∀ dl,
      findD (diskLayers ⟨cfg, w.fs, w.kt.mnts⟩) x = some dl →
      dl.file.base ≠ [] → dl.file.base ∈ done ∧ (findLayer d0 dl.file.base).isSome = true := by
    intro done x rest ho dl hd hb
    obtain ⟨hbd, p, hp'⟩ := parent_first ⟨cfg, w.fs, w.kt.mnts⟩ d0.order hci (hord0 ▸ hno) hnd0
      done rest x ho dl hd hb
    have hf00 : findLayer d00 dl.file.base = some p := by
      unfold findLayer; rw [hlay]; exact hp'
    obtain ⟨p', hp'', -⟩ := sameKeys_find hk00 _ _ hf00
    exact ⟨hbd, by rw [hp'']; rfl⟩
  obtain ⟨hw, hfin⟩ := loop_inv ⟨cfg, w.fs, w.kt.mnts⟩ (diskLayers ⟨cfg, w.fs, w.kt.mnts⟩) users m d0 hR hwf
    d0.order hnd0 hpar d0.order [] d0 d w w' (by simp) hI0 (by rw [hord0]; exact hloop)
  refine ⟨hw, ?_⟩
  intro name l hl
  have hmem : name ∈ d0.order := by rw [hord0]; exact hord name l hl
  obtain ⟨dl, hd, -⟩ := hfin.forest.find name l hl
  exact ⟨allStates_find _ _ users name dl hd, hfin.fin name l hmem hl⟩

end Lc.StateProbe
