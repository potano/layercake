/-
  The kernel mount-table model (`Lc/Model/Kernel.lean`) seen through its own text rendering
  and the mountinfo parser: `Kernel.probe t = probeMounts (render t)`.

  * `natBytes_token`, `devOfMinor_token`: the decimal numbers the table model prints are
    non-empty digit strings (so they are token fields for the renderer),
  * `MntOK` / `KWF`: well-formedness of a kernel table — exactly what the renderer of
    `Lc/Spec/KernelRender.lean` needs (`toSpec_wf`); `kmount_wf`: `kmount` preserves it.
    This `KWF` speaks of the fields that get printed (`KernelWF.KWF`, which the C04 and C08
    theorems assume, is `MntOK` of one mount as a decidable structure of its own);
    `KernelUmount.KWF` is another predicate, the tree discipline of ids and parents,
  * `probe_ok`, `probe_sees_table`: by C12's `probe_render` / `getMount_last` the probe of a
    well-formed table succeeds and `getMount` finds a mount at a path exactly when the table
    has one there, reporting the topmost (latest) one,
  * `kmount_has`, `kmount_ext`, `kmount_overlay_top`: a successful `kmount` leaves a mount on its
    target and never removes an entry (`Ext t t'`: the entries of `t` are an initial segment of
    those of `t'`; `KernelUmount.Ext` relates two byte strings instead); the entry an overlay
    mount appends.
  Helper lemmas for Props/C01 (`kmount_then_probe`, `mount_idempotent`).
-/
import Lc.Model.Kernel
import Lc.Lemmas.KernelUmount
import Lc.Props.C12

namespace Lc.KernelProbe
open Lc Lc.Kernel Lc.Spec Lc.Mountinfo

/-! ### the numbers the table model prints -/

theorem byteArray_toList_loop (bs : ByteArray) (i : Nat) (r : List UInt8) (hi : i ≤ bs.size) :
    ByteArray.toList.loop bs i r = r.reverse ++ bs.data.toList.drop i := by
  induction h : bs.size - i generalizing i r with
  | zero =>
    unfold ByteArray.toList.loop
    have : ¬ i < bs.size := by omega
    simp only [this, if_false]
    have : bs.data.toList.length ≤ i := by
      have : bs.size = bs.data.size := rfl
      simp; omega
    rw [List.drop_of_length_le this]; simp
  | succ n ih =>
    unfold ByteArray.toList.loop
    have hlt : i < bs.size := by omega
    simp only [hlt, if_true]
    rw [ih (i+1) _ (by omega) (by omega)]
    have hsz : bs.size = bs.data.size := rfl
    have : bs.data.toList.drop i = bs.data.toList[i]'(by simp; omega) :: bs.data.toList.drop (i+1) := by
      exact List.drop_eq_getElem_cons (by simp; omega)
    rw [this]
    simp [ByteArray.get!, getElem!_pos, hlt]

theorem byteArray_toList (bs : ByteArray) : bs.toList = bs.data.toList := by
  unfold ByteArray.toList
  rw [byteArray_toList_loop bs 0 [] (Nat.zero_le _)]
  simp

/-- decimal digits of `n` as bytes -/
def digitBytes (n : Nat) : Bytes := (Nat.toDigits 10 n).map (fun c => c.toNat)

theorem digit_val {c : Char} (hc : c.isDigit = true) : 48 ≤ c.val.toNat ∧ c.val.toNat ≤ 57 := by
  simp [Char.isDigit] at hc
  exact ⟨UInt32.le_iff_toNat_le.mp hc.1, UInt32.le_iff_toNat_le.mp hc.2⟩

/-- `natBytes n` (defined through `toString`) is the list of decimal digits of `n` -/
theorem natBytes_eq (n : Nat) : natBytes n = digitBytes n := by
  unfold natBytes digitBytes
  rw [Nat.toString_eq_ofList_toDigits, String.toUTF8, String.toByteArray_ofList, byteArray_toList]
  simp only [List.utf8Encode, List.toList_data_toByteArray]
  have : ∀ l : List Char, (∀ c ∈ l, c.isDigit = true) →
      (l.flatMap String.utf8EncodeChar).map (·.toNat) = l.map (fun c => c.toNat) := by
    intro l hl
    induction l with
    | nil => rfl
    | cons c l ih =>
      have hc := digit_val (hl c (by simp))
      have h1 : c.utf8Size = 1 := by
        simp [Char.utf8Size]
        intro h
        have h3 := UInt32.lt_iff_toNat_lt.mp h
        simp at h3
        have := hc.2
        simp at this
        omega
      simp only [List.flatMap_cons, List.map_append, List.map_cons]
      rw [String.utf8EncodeChar_eq_singleton h1, ih (fun x hx => hl x (by simp [hx]))]
      simp
      have h2 := hc.2
      unfold Char.toUInt8 Char.toNat
      simp only [UInt32.toNat_toUInt8]
      omega
  exact this _ (fun c hc => Nat.isDigit_of_mem_toDigits (by decide) (by decide) hc)

/-- different numbers are printed differently -/
theorem digitBytes_injective {a b : Nat} (h : digitBytes a = digitBytes b) : a = b := by
  unfold digitBytes at h
  have := (List.map_inj_right fun (c d : Char) hcd => Char.ext (UInt32.toNat_inj.mp hcd)).mp h
  have ha := @Nat.ofDigitChars_ten_toDigits a
  have hb := @Nat.ofDigitChars_ten_toDigits b
  rw [this] at ha
  rw [← ha, hb]

theorem natBytes_injective {a b : Nat} (h : natBytes a = natBytes b) : a = b := by
  rw [natBytes_eq, natBytes_eq] at h
  exact digitBytes_injective h

theorem digitBytes_ne_nil (n : Nat) : digitBytes n ≠ [] := by
  unfold digitBytes
  simp [Nat.toDigits_ne_nil]

theorem digitBytes_range (n : Nat) : ∀ b ∈ digitBytes n, 48 ≤ b ∧ b ≤ 57 := by
  intro b hb
  unfold digitBytes at hb
  rw [List.mem_map] at hb
  obtain ⟨c, hc, rfl⟩ := hb
  exact digit_val (Nat.isDigit_of_mem_toDigits (by decide) (by decide) hc)

theorem tokenOK_of_range {s : Bytes} (hne : s ≠ []) (h : ∀ b ∈ s, 48 ≤ b ∧ b ≤ 58) : TokenOK s := by
  refine ⟨hne, ?_, ?_, ?_⟩ <;> intro hm <;> have := h _ hm <;> omega

/-- a mount id is printed as a token -/
theorem natBytes_token (n : Nat) : TokenOK (natBytes n) := by
  rw [natBytes_eq]
  exact tokenOK_of_range (digitBytes_ne_nil n) (fun b hb => by have := digitBytes_range n b hb; omega)

/-- `0:<minor>` is a token -/
theorem devOfMinor_token (n : Nat) : TokenOK (devOfMinor n) := by
  have h : devOfMinor n = [48, 58] ++ natBytes n := rfl
  rw [h, natBytes_eq]
  apply tokenOK_of_range (by simp)
  intro b hb
  rcases List.mem_append.mp hb with hb | hb
  · simp at hb; omega
  · have := digitBytes_range n b hb; omega

/-! ### well-formed kernel tables -/

/-- What the renderer needs of a table entry: device number and file-system type are tokens
    (non-empty, no blank / newline / carriage return); root, mountpoint, source and the
    overlay directories are byte strings (any bytes: the kernel escapes them); the workdir of
    an overlay — printed last on its line — does not end in a carriage return (the kernel
    does not escape CR and the line reader strips one at a line end: C12's finding
    `mountinfo-cr-at-line-end`). -/
structure MntOK (m : KMnt) : Prop where
  dev : TokenOK m.dev
  fstype : TokenOK m.fstype
  root : IsB m.root
  mp : IsB m.mp
  source : IsB m.source
  lower : IsB m.lower
  upper : IsB m.upper
  work : IsB m.work
  workLast : m.work.getLast? ≠ some 13

/-- every entry of the table is well-formed -/
def KWF (t : KTable) : Prop := ∀ m ∈ t.mnts, MntOK m

theorem mntOK_iff (m : KMnt) : MntOK m ↔ TokenOK m.dev ∧ TokenOK m.fstype ∧ IsB m.root ∧
    IsB m.mp ∧ IsB m.source ∧ IsB m.lower ∧ IsB m.upper ∧ IsB m.work ∧
    m.work.getLast? ≠ some 13 :=
  ⟨fun h => ⟨h.dev, h.fstype, h.root, h.mp, h.source, h.lower, h.upper, h.work, h.workLast⟩,
   fun ⟨a, b, c, d, e, f, g, h, i⟩ => ⟨a, b, c, d, e, f, g, h, i⟩⟩

instance (m : KMnt) : Decidable (MntOK m) := decidable_of_iff _ (mntOK_iff m).symm

instance (t : KTable) : Decidable (KWF t) := by unfold KWF; infer_instance

theorem toSpec_wf {m : KMnt} (h : MntOK m) : (toSpec m).WF := by
  have htok : TokenOK (natBytes m.id) ∧ TokenOK (natBytes m.parent) ∧ TokenOK m.dev ∧
      TokenOK b!"rw" ∧ TokenOK m.fstype :=
    ⟨natBytes_token _, natBytes_token _, h.dev, by decide +kernel, h.fstype⟩
  unfold toSpec
  split
  · exact overlay_wf htok (fun _ ho => nomatch ho) h.root h.mp h.source h.lower h.upper h.work
      h.workLast
  · refine ⟨htok.1, htok.2.1, htok.2.2.1, htok.2.2.2.1, htok.2.2.2.2, (fun _ ho => nomatch ho),
      h.root, h.mp, h.source, List.cons_ne_nil _ _, (fun o ho => ?_), (fun o ho v hv => ?_)⟩
    · cases List.mem_singleton.mp ho
      exact ⟨by decide +kernel, fun v hv => nomatch hv⟩
    · cases ho
      cases hv

theorem toSpec_wf_all {t : KTable} (h : KWF t) : ∀ m ∈ t.mnts.map toSpec, m.WF := by
  intro m hm
  rw [List.mem_map] at hm
  obtain ⟨k, hk, rfl⟩ := hm
  exact toSpec_wf (h k hk)

/-! ### the probe of a well-formed table -/

/-- the probe of a well-formed table succeeds with exactly the entries and devices C12's
    `probe_render` describes, one entry per table entry in table order -/
theorem probe_ok {t : KTable} (h : KWF t) :
    Kernel.probe t = .ok { list := Props.C12.entries (t.mnts.map toSpec),
                           devices := Props.C12.devicesOf (t.mnts.map toSpec) } :=
  Props.C12.probe_render _ (toSpec_wf_all h)

/-- the table has a mount with mountpoint `mp` -/
def HasMount (t : KTable) (mp : Bytes) : Prop := ∃ m ∈ t.mnts, m.mp = mp

theorem hasMount_iff_topmost {t : KTable} {mp : Bytes} :
    HasMount t mp ↔ topmostAt t.mnts mp ≠ none := by
  simp [HasMount, KernelUmount.topmostAt_none]

theorem lastVal_toSpec_overlay (m : KMnt) (h : m.fstype = b!"overlay") :
    lastVal b!"lowerdir" (toSpec m).super = m.lower ∧
    lastVal b!"upperdir" (toSpec m).super = m.upper ∧
    lastVal b!"workdir" (toSpec m).super = m.work := by
  unfold toSpec
  rw [h]
  exact ⟨rfl, rfl, rfl⟩

/-- what the parser reports for the table entry `km` -/
structure Reports (e : MountType) (km : KMnt) : Prop where
  mountpoint : e.mountpoint = km.mp
  fstype : e.fstype = km.fstype
  options : e.options = b!"rw"
  stDev : e.stDev = km.dev
  root : e.root = km.root
  overlay : km.fstype = b!"overlay" →
    e.source = km.lower ∧ e.source2 = km.upper ∧ e.workdir = km.work
  other : km.fstype ≠ b!"overlay" → e.source = [] ∧ e.source2 = [] ∧ e.workdir = []

theorem reports_entryOf (pre : List KMount) (km : KMnt) : Reports (Props.C12.entryOf pre (toSpec km)) km := by
  have hf := Props.C12.entryOf_fields pre (toSpec km)
  refine ⟨hf.1, hf.2.1, hf.2.2.1, hf.2.2.2.1, hf.2.2.2.2.1, ?_, ?_⟩
  · intro hov
    have h1 := Props.C12.entryOf_overlay pre (m := toSpec km) hov
    have h2 := lastVal_toSpec_overlay km hov
    rw [h2.1, h2.2.1, h2.2.2] at h1
    exact h1
  · exact Props.C12.entryOf_other pre (m := toSpec km)

/-- **probe_sees_table.**  For every well-formed kernel table the probe (render as
    /proc/self/mountinfo text, parse with the model of `fs.ProbeMounts`) succeeds, and looking
    a path up in the result (`GetMount`) finds a mount exactly when the table has a mount with
    that mountpoint; the entry found describes the *topmost* (latest) mount there: its type,
    device, root and — for an overlay — lower, upper and work directory. -/
theorem probe_sees_table {t : KTable} (h : KWF t) :
    ∃ M, Kernel.probe t = .ok M ∧
      (∀ mp, getMount M mp = none ↔ topmostAt t.mnts mp = none) ∧
      (∀ mp km, topmostAt t.mnts mp = some km → ∃ e, getMount M mp = some e ∧ Reports e km) := by
  refine ⟨_, probe_ok h, ?_⟩
  have hsome : ∀ mp km, topmostAt t.mnts mp = some km →
      ∃ e, getMount { list := Props.C12.entries (t.mnts.map toSpec),
                      devices := Props.C12.devicesOf (t.mnts.map toSpec) } mp = some e ∧ Reports e km := by
    intro mp km hk
    obtain ⟨pre, post, hl, hmp, hpost⟩ := KernelUmount.topmostAt_some hk
    have hwf := toSpec_wf_all h
    rw [hl, List.map_append, List.map_cons] at hwf
    have hlast : ∀ x ∈ post.map toSpec, x.mp ≠ (toSpec km).mp := by
      intro x hx
      rw [List.mem_map] at hx
      obtain ⟨y, hy, rfl⟩ := hx
      show y.mp ≠ km.mp
      rw [hmp]; exact hpost y hy
    obtain ⟨M, hM, hg⟩ := Props.C12.getMount_last (pre.map toSpec) (post.map toSpec) (toSpec km) hwf hlast
    rw [Props.C12.probe_render _ hwf] at hM
    cases hM
    refine ⟨_, ?_, reports_entryOf (pre.map toSpec) km⟩
    rw [hl, List.map_append, List.map_cons]
    have : (toSpec km).mp = mp := hmp
    rw [← this]
    exact hg
  refine ⟨?_, hsome⟩
  intro mp
  constructor
  · intro hg
    cases hk : topmostAt t.mnts mp with
    | none => rfl
    | some km =>
      obtain ⟨e, he, _⟩ := hsome mp km hk
      rw [he] at hg; cases hg
  · intro hk
    rw [KernelUmount.topmostAt_none] at hk
    unfold getMount
    refine List.find?_eq_none.mpr fun e he => ?_
    simp only [List.mem_reverse, Props.C12.entries, List.mem_mapIdx] at he
    obtain ⟨i, hi, rfl⟩ := he
    rw [(Props.C12.entryOf_fields _ _).1]
    simp only [List.getElem_map, beq_iff_eq]
    simp only [List.length_map] at hi
    exact hk _ (List.getElem_mem hi)

/-- `GetMount` on the probe finds something at `mp` iff the table has a mount there -/
theorem probe_getMount_iff {t : KTable} (h : KWF t) {M : Mounts} (hM : Kernel.probe t = .ok M) (mp : Bytes) :
    getMount M mp ≠ none ↔ HasMount t mp := by
  obtain ⟨M', hM', h1, _⟩ := probe_sees_table h
  rw [hM] at hM'
  cases hM'
  rw [hasMount_iff_topmost, Ne, Ne, h1 mp]


/-! ### byte strings stay byte strings -/

theorem isB_drop {s : Bytes} (n : Nat) (h : IsB s) : IsB (s.drop n) :=
  fun b hb => h b (List.mem_of_mem_drop hb)

theorem isB_unescape : ∀ (s : Bytes), IsB s → IsB (unescape s) := by
  intro s
  induction s using unescape.induct with
  | case1 => intro _; exact isB_nil
  | case2 x a b c rest hc ih =>
    intro h
    rw [unescape, if_pos hc]
    simp only [Bool.and_eq_true, decide_eq_true_eq, isOct] at hc
    have h4 : IsB rest := fun y hy => h y (by simp [hy])
    rw [isB_cons]
    refine ⟨?_, ih h4⟩
    omega
  | case3 x a b c rest hc ih =>
    intro h
    rw [unescape, if_neg hc]
    rw [isB_cons] at h ⊢
    exact ⟨h.1, ih h.2⟩
  | case4 x rest hne ih =>
    intro h
    rw [unescape]
    · rw [isB_cons] at h ⊢
      exact ⟨h.1, ih h.2⟩
    · exact hne

def OvlB (o : OvlOpts) : Prop := IsB o.lower ∧ IsB o.upper ∧ IsB o.work

theorem ovlStep_isB (o : OvlOpts) (part : Bytes) (ho : OvlB o) (hp : IsB part) : OvlB (ovlStep o part) := by
  unfold ovlStep
  split
  · rename_i k v heq
    have hv : IsB (unescape v) := isB_unescape v (isB_splitN2 61 part hp v (by rw [heq]; simp))
    split
    · exact ⟨hv, ho.2.1, ho.2.2⟩
    · split
      · exact ⟨ho.1, hv, ho.2.2⟩
      · split
        · exact ⟨ho.1, ho.2.1, hv⟩
        · exact ho
  · exact ho

theorem parseOverlayOpts_isB (data : Bytes) (h : IsB data) : OvlB (parseOverlayOpts data) := by
  unfold parseOverlayOpts
  have hp := isB_splitOn 44 data h
  generalize splitOn 44 data = parts at hp
  have : ∀ (o : OvlOpts), OvlB o → OvlB (parts.foldl ovlStep o) := by
    induction parts with
    | nil => intro o ho; exact ho
    | cons x xs ih =>
      intro o ho
      exact ih (fun p hp' => hp p (by simp [hp'])) _ (ovlStep_isB o x ho (hp x (by simp)))
  exact this _ ⟨isB_nil, isB_nil, isB_nil⟩


/-! ### `kmount` on well-formed tables -/

theorem findContaining_mem (mnts : List KMnt) (path : Bytes) (m : KMnt)
    (h : findContaining mnts path = some m) : m ∈ mnts :=
  (KernelResolve.findContaining_spec mnts path m h).1

theorem addMount_wf {t : KTable} {m : KMnt} (ht : KWF t) (hm : MntOK m) : KWF (addMount t m) := by
  intro x hx
  rw [KernelUmount.addMount_eq] at hx
  rcases List.mem_append.mp hx with hx | hx
  · exact ht x hx
  · cases List.mem_singleton.mp hx
    exact ⟨hm.dev, hm.fstype, hm.root, hm.mp, hm.source, hm.lower, hm.upper, hm.work, hm.workLast⟩

theorem isB_relTail {base path : Bytes} (h : IsB path) : IsB (relTail base path) := by
  unfold relTail
  split
  · split
    · exact isB_nil
    · exact h
  · exact isB_drop _ h

theorem isB_joinRoot {root tail : Bytes} (hr : IsB root) (ht : IsB tail) : IsB (joinRoot root tail) := by
  unfold joinRoot
  split
  · exact hr
  · split
    · exact ht
    · exact isB_append.mpr ⟨hr, ht⟩

/-- what a `mount(2)` call must satisfy for the table to stay well-formed: source, target
    and data are byte strings; unless it is a bind mount the file-system type is a token; the
    workdir the overlay option parser finds in the data does not end in a carriage return -/
structure ArgsOK (src tgt fstype : Bytes) (flags : Nat) (data : Bytes) : Prop where
  srcB : IsB src
  tgtB : IsB tgt
  fstypeT : hasFlag flags MS_BIND = false → TokenOK fstype
  dataB : IsB data
  workLast : (parseOverlayOpts data).work.getLast? ≠ some 13

/-- a call that changes the mount tree (not a remount, not a propagation change) -/
def isStructural (flags : Nat) : Bool := !(hasFlag flags MS_REMOUNT || (flags / 131072) % 16 != 0)

/-- **`kmount` keeps the table well-formed** -/
theorem kmount_wf {t t' : KTable} {src tgt fstype : Bytes} {flags : Nat} {data : Bytes}
    (ht : KWF t) (ha : isStructural flags = true → ArgsOK src tgt fstype flags data)
    (h : kmount t src tgt fstype flags data = .ok t') : KWF t' := by
  rcases KernelUmount.kmount_ok h with ⟨_, rfl, _⟩ | ⟨hs, n, root, subs, _, rfl, hc⟩
  · exact ht
  · have ha := ha (by simp [isStructural, hs])
    have h47 : IsB [47] := by decide
    have hok : MntOK root ∧ ∀ c ∈ subs, MntOK c := by
      rcases hc with ⟨_, _, m, hm, rfl, rfl⟩ | ⟨hb, rfl, ⟨_, p, hp, rfl⟩ | ⟨_, rfl⟩⟩
      · have hmm := ht m (KernelResolve.resolve_mem hm)
        exact ⟨⟨hmm.dev, hmm.fstype, isB_joinRoot hmm.root (isB_relTail ha.srcB), ha.tgtB,
          hmm.source, hmm.lower, hmm.upper, hmm.work, hmm.workLast⟩,
          fun c hc => ht c (List.mem_filter.mp hc).1⟩
      · have hpp := ht p hp
        exact ⟨⟨hpp.dev, hpp.fstype, h47, ha.tgtB, ha.srcB, hpp.lower, hpp.upper, hpp.work,
          hpp.workLast⟩, fun _ hc => nomatch hc⟩
      · refine ⟨?_, fun _ hc => nomatch hc⟩
        have ho := parseOverlayOpts_isB data ha.dataB
        unfold KernelUmount.freshMnt
        split
        · exact ⟨devOfMinor_token _, ha.fstypeT hb, h47, ha.tgtB, ha.srcB, ho.1, ho.2.1, ho.2.2,
            ha.workLast⟩
        · exact ⟨devOfMinor_token _, ha.fstypeT hb, h47, ha.tgtB, ha.srcB, isB_nil, isB_nil,
            isB_nil, nofun⟩
    refine KernelUmount.foldl_addMount_ind KWF _ _ (fun a m hm hwf => ?_) (addMount_wf ht hok.1)
    obtain ⟨c, hc, rfl⟩ := List.mem_map.mp hm
    have hcc := hok.2 c hc
    exact addMount_wf hwf ⟨hcc.dev, hcc.fstype, hcc.root, isB_joinRoot ha.tgtB (isB_relTail hcc.mp),
      hcc.source, hcc.lower, hcc.upper, hcc.work, hcc.workLast⟩

/-! ### `kmount` only adds; a successful call leaves a mount on its target -/

/-- the entries of `t` are an initial segment of those of `t'` -/
def Ext (t t' : KTable) : Prop := ∃ extra, t'.mnts = t.mnts ++ extra

theorem Ext.refl (t : KTable) : Ext t t := ⟨[], by simp⟩

theorem Ext.trans {a b c : KTable} (h1 : Ext a b) (h2 : Ext b c) : Ext a c := by
  obtain ⟨x, hx⟩ := h1
  obtain ⟨y, hy⟩ := h2
  exact ⟨x ++ y, by rw [hy, hx, List.append_assoc]⟩

theorem Ext.hasMount {t t' : KTable} (h : Ext t t') {mp : Bytes} (hm : HasMount t mp) : HasMount t' mp := by
  obtain ⟨x, hx⟩ := h
  obtain ⟨m, hm, e⟩ := hm
  exact ⟨m, by rw [hx]; simp [hm], e⟩

theorem addMount_ext (t : KTable) (m : KMnt) : Ext t (addMount t m) := ⟨_, rfl⟩

theorem addMount_has (t : KTable) (m : KMnt) : HasMount (addMount t m) m.mp :=
  ⟨_, List.mem_append_right _ (List.mem_singleton.mpr rfl), rfl⟩

/-- **`kmount` never removes an entry** -/
theorem kmount_ext {t t' : KTable} {src tgt fstype : Bytes} {flags : Nat} {data : Bytes}
    (h : kmount t src tgt fstype flags data = .ok t') : Ext t t' := by
  rcases KernelUmount.kmount_ok h with ⟨_, rfl, _⟩ | ⟨_, n, root, subs, _, rfl, _⟩
  · exact Ext.refl _
  · exact KernelUmount.foldl_addMount_ind (Ext t) _ _
      (fun a m _ h => h.trans (addMount_ext a m)) ⟨_, rfl⟩

/-- a successful `kmount` of any kind (also a remount or propagation change, which the kernel
    refuses with EINVAL on a path that is no mountpoint) means the target carries a mount -/
theorem kmount_has {t t' : KTable} {src tgt fstype : Bytes} {flags : Nat} {data : Bytes}
    (h : kmount t src tgt fstype flags data = .ok t') : HasMount t' tgt := by
  rcases KernelUmount.kmount_ok h with ⟨_, rfl, m, hm⟩ | ⟨_, n, root, subs, rfl, rfl, _⟩
  · obtain ⟨_, h1, h2⟩ := KernelResolve.mountedAt_spec hm
    exact ⟨m, h1, h2⟩
  · exact KernelUmount.foldl_addMount_ind (HasMount · root.mp) _ _
      (fun a m _ h => (addMount_ext a m).hasMount h) (addMount_has _ root)

theorem topmostAt_snoc (l : List KMnt) (m : KMnt) : topmostAt (l ++ [m]) m.mp = some m := by
  simp [topmostAt]

/-- the entry an overlay `kmount` appends: on top of its target, type "overlay", directories as
    the option parser reads them from the mount data -/
theorem kmount_overlay_top {t t' : KTable} {src tgt fstype : Bytes} {flags : Nat} {data : Bytes}
    (hs : isStructural flags = true) (hb : hasFlag flags MS_BIND = false) (hf : fstype = b!"overlay")
    (h : kmount t src tgt fstype flags data = .ok t') :
    ∃ km, topmostAt t'.mnts tgt = some km ∧ km.fstype = b!"overlay" ∧ km.source = src ∧
      km.lower = (parseOverlayOpts data).lower ∧ km.upper = (parseOverlayOpts data).upper ∧
      km.work = (parseOverlayOpts data).work := by
  unfold kmount at h
  have h1 : (hasFlag flags MS_REMOUNT || (flags / 131072) % 16 != 0) = false := by
    simpa [isStructural] using hs
  rw [h1] at h
  simp only [Bool.false_eq_true, if_false, hb, hf, BEq.rfl, if_true] at h
  cases h
  exact ⟨_, topmostAt_snoc _ _, rfl, rfl, rfl, rfl, rfl⟩

end Lc.KernelProbe
