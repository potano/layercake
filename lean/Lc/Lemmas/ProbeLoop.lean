/-
  The loop of `ProbeAllLayerstate` as a whole: every round leaves the world alone, keeps
  the forest skeleton (name, base, layer path of every record) and the mount view, does
  not touch the records of other names; a per-layer verdict established in the round that
  classifies a layer survives the remaining rounds.  Helper lemmas for Props/C08
  (`mounted_only_if_fully_mounted_all`, `never_mounted_when_half_mounted`).
-/
import Lc.Lemmas.StateProbeAll
import Lc.Lemmas.ForestInv
import Lc.Lemmas.RunM

namespace Lc.StateProbe
open Lc Lc.Layers Lc.Mountinfo Lc.Layerfile Lc.RunM Lc.Forest

/-! ### the forest skeleton -/

/-- what the probe never changes in a layer record and what the expansion of the
    configuration depends on -/
def lkey (l : Layer) : Bytes × Bytes × Bytes := (l.name, l.base, l.layerPath)

/-- same skeleton: under every name both tables have a record with the same name, base and
    layer path, or neither has one -/
def SameKeys (d d' : Defs) : Prop :=
  d.layers.length = d'.layers.length ∧ ∀ n, (findLayer d n).map lkey = (findLayer d' n).map lkey

theorem SameKeys.refl (d : Defs) : SameKeys d d := ⟨rfl, fun _ => rfl⟩

theorem SameKeys.symm {d d' : Defs} (h : SameKeys d d') : SameKeys d' d :=
  ⟨h.1.symm, fun n => (h.2 n).symm⟩

theorem SameKeys.trans {a b c : Defs} (h1 : SameKeys a b) (h2 : SameKeys b c) : SameKeys a c :=
  ⟨h1.1.trans h2.1, fun n => (h1.2 n).trans (h2.2 n)⟩

theorem findLayer_setLayer_eq (d : Defs) (l l' : Layer) (h : findLayer d l'.name = some l) (n : Bytes) :
    findLayer (setLayer d l') n = if n = l'.name then some l' else findLayer d n := by
  split
  · rename_i e; exact find?_setLayer_self d l l' n (e ▸ h) e.symm
  · rename_i e; exact find?_setLayer_other d l' n e

theorem sameKeys_setLayer (d : Defs) (l l' : Layer) (hl : findLayer d l'.name = some l)
    (hk : lkey l' = lkey l) : SameKeys d (setLayer d l') := by
  refine ⟨by simp [setLayer], fun n => ?_⟩
  by_cases hn : n = l'.name
  · subst hn
    rw [hl, findLayer_setLayer_eq d l l' hl, if_pos rfl]
    simp [hk]
  · unfold findLayer
    rw [find?_setLayer_other d l' n hn]

theorem sameKeys_find {d d' : Defs} (h : SameKeys d d') (n : Bytes) (l : Layer)
    (hl : findLayer d n = some l) : ∃ l', findLayer d' n = some l' ∧ lkey l' = lkey l := by
  have := h.2 n
  rw [hl] at this
  cases hf : findLayer d' n with
  | none => rw [hf] at this; simp at this
  | some l' =>
    rw [hf] at this
    simp only [Option.map_some, Option.some.injEq] at this
    exact ⟨l', rfl, this.symm⟩

theorem findLayerBase_sameKeys {d d' : Defs} (h : SameKeys d d') :
    ∀ (f : Nat) (l l' : Layer), l.base = l'.base → l.layerPath = l'.layerPath →
      (findLayerBase d f l).map (·.layerPath) = (findLayerBase d' f l').map (·.layerPath) := by
  intro f
  induction f with
  | zero => intro l l' _ _; rfl
  | succ f ih =>
    intro l l' hb hp
    unfold findLayerBase
    rw [← hb]
    split
    · cases hf : findLayer d l.base with
      | none =>
        have := h.2 l.base
        rw [hf] at this
        cases hf' : findLayer d' l.base with
        | none => rfl
        | some p' => rw [hf'] at this; simp at this
      | some p =>
        obtain ⟨p', hf', hk⟩ := sameKeys_find h _ _ hf
        rw [hf']
        simp only []
        have hk' : p'.base = p.base ∧ p'.layerPath = p.layerPath := by
          unfold lkey at hk
          simp only [Prod.mk.injEq] at hk
          exact ⟨hk.2.1, hk.2.2⟩
        exact ih p p' hk'.1.symm hk'.2.symm
    · simp [hp]

theorem expandConfigMounts_sameKeys (cfg : Config) {d d' : Defs} (h : SameKeys d d') (l : Layer) :
    expandConfigMounts cfg d l = expandConfigMounts cfg d' l := by
  unfold expandConfigMounts
  rw [h.1, findLayerBase_sameKeys h _ l l rfl rfl]

/-! ### one round, evaluated -/

/-- the record a round stores for the layer `l` it finds under `name` -/
def probeRound (cfg : Config) (inuse : List (Bytes × List User)) (fs : Fs.Tree) (d : Defs)
    (name : Bytes) (l : Layer) : Res Layer :=
  if l.state == S_error then .ok (probeErr cfg inuse d name l) else probeLayer cfg inuse fs d name l

theorem probeRound_eq {cfg : Config} {inuse : List (Bytes × List User)} {fs : Fs.Tree} {d : Defs}
    {name : Bytes} {l l' : Layer} (h : probeRound cfg inuse fs d name l = .ok l') :
    ∃ s, l' = { probeErr cfg inuse d name l with state := s } := by
  unfold probeRound at h
  split at h
  · exact ⟨l.state, by rw [← Except.ok.inj h, probeErr_eq]⟩
  · exact probeLayer_eq cfg inuse fs d name l l' h

/-- the outcome of one round -/
theorem probeStep_run_eq (cfg : Config) (inuse : List (Bytes × List User)) (fs : Fs.Tree) (d : Defs)
    (name : Bytes) (w : World) :
    (probeStep cfg inuse fs d name).run.run w =
      match findLayer d name with
      | none => (.error .panic, w)
      | some l =>
        match probeRound cfg inuse fs d name l with
        | .ok l' => (.ok (setLayer d l'), w)
        | .error e => (.error e, w) := by
  rw [probeStep_eq]
  cases findLayer d name with
  | none => rfl
  | some l =>
    simp only [probeRound]
    split
    · rfl
    · rw [run_bind, run_liftRes]
      cases probeLayer cfg inuse fs d name l <;> rfl

/-! ### the whole loop -/

/-- Induction over the loop on `names`: a property `P done d` of the names walked so far and
    the table, which every successful round carries from `done` to `done ++ [x]`, holds of the
    whole list at the end; the world is not touched.  The round is told where in `names` it
    stands, for lists without duplicates or with parents first. -/
theorem probeLoop_ind (cfg : Config) (inuse : List (Bytes × List User)) (fs : Fs.Tree)
    (P : List Bytes → Defs → Prop) (names : List Bytes)
    (hstep : ∀ done x rest d l l', names = done ++ x :: rest → P done d → findLayer d x = some l →
      probeRound cfg inuse fs d x l = .ok l' → P (done ++ [x]) (setLayer d l')) :
    ∀ (rest done : List Bytes) (d0 d : Defs) (w w' : World), names = done ++ rest → P done d0 →
      (rest.foldlM (probeStep cfg inuse fs) d0).run.run w = (.ok d, w') →
      w' = w ∧ P names d := by
  intro rest
  induction rest with
  | nil =>
    intro done d0 d w w' ho hp h
    cases h
    rw [ho, List.append_nil]
    exact ⟨rfl, hp⟩
  | cons x xs ih =>
    intro done d0 d w w' ho hp h
    simp only [List.foldlM_cons] at h
    rw [run_bind, probeStep_run_eq] at h
    cases hf : findLayer d0 x with
    | none => rw [hf] at h; cases h
    | some l0 =>
      rw [hf] at h
      simp only [] at h
      cases hr : probeRound cfg inuse fs d0 x l0 with
      | error e => rw [hr] at h; cases h
      | ok l1 =>
        rw [hr] at h
        exact ih (done ++ [x]) _ d w w' (by rw [ho]; simp) (hstep done x xs d0 l0 l1 ho hp hf hr) h

/-- Loop invariant, for any per-layer verdict `V` (relative to a table) that
    * holds of the record a round stores (`hstep`),
    * holds of the record a round stores for a layer in the error state (`herr`; that round
      records mounts and processes and keeps the state: fix e3cb7aa),
    * does not depend on anything but the skeleton and the mount view (`htrans`):
    after the loop the world is unchanged, skeleton and mount view are those of the start,
    records of names not in the list are untouched, and every listed name has a record
    with the verdict. -/
theorem probeLoop_inv (cfg : Config) (inuse : List (Bytes × List User)) (fs : Fs.Tree)
    (V : Defs → Layer → Prop)
    (hstep : ∀ d name l l', findLayer d name = some l → l.state ≠ S_error →
      probeLayer cfg inuse fs d name l = .ok l' → V d l')
    (herr : ∀ d name l, findLayer d name = some l → l.state = S_error →
      V d (probeErr cfg inuse d name l))
    (htrans : ∀ d d' l, SameKeys d d' → d.mounts = d'.mounts → V d l → V d' l) :
    ∀ (names : List Bytes) (d0 d : Defs) (w w' : World),
      (names.foldlM (probeStep cfg inuse fs) d0).run.run w = (.ok d, w') →
      w' = w ∧ SameKeys d0 d ∧ d.mounts = d0.mounts ∧
      (∀ n, n ∉ names → findLayer d n = findLayer d0 n) ∧
      ∀ n ∈ names, ∃ l, findLayer d n = some l ∧ V d l := by
  intro names d0 d w w' h
  refine probeLoop_ind cfg inuse fs
    (fun done d => SameKeys d0 d ∧ d.mounts = d0.mounts ∧
      (∀ n, n ∉ done → findLayer d n = findLayer d0 n) ∧
      ∀ n ∈ done, ∃ l, findLayer d n = some l ∧ V d l)
    names ?_ names [] d0 d w w' rfl ⟨SameKeys.refl _, rfl, fun _ _ => rfl, fun _ hn => by cases hn⟩ h
  intro done x _ d l l' _ ⟨hk, hm, hout, hin⟩ hf hr
  have hv : V d l' := by
    unfold probeRound at hr
    split at hr
    · rename_i hs
      cases hr
      exact herr d x l hf (by simpa using hs)
    · rename_i hs
      exact hstep d x l l' hf (by simpa using hs) hr
  obtain ⟨s, hl'⟩ := probeRound_eq hr
  have hkey : lkey l' = lkey l := by rw [hl', probeErr_eq]; rfl
  have hn : l'.name = x := (congrArg Prod.fst hkey).trans (ForestInv.find_name hf)
  have hf' : findLayer d l'.name = some l := hn ▸ hf
  have hk' := sameKeys_setLayer d l l' hf' hkey
  have hfs := findLayer_setLayer_eq d l l' hf'
  refine ⟨hk.trans hk', hm, fun n hn' => ?_, fun n hn' => ?_⟩
  · rw [hfs, if_neg (fun e => hn' (by simp [e, hn])), hout n (fun e => hn' (by simp [e]))]
  · rw [hfs]
    split
    · exact ⟨_, rfl, htrans d _ _ hk' rfl hv⟩
    · rename_i e
      obtain ⟨ln, h1, h2⟩ := hin n (by
        rcases List.mem_append.mp hn' with h | h
        · exact h
        · exact absurd ((List.mem_singleton.mp h).trans hn.symm) e)
      exact ⟨ln, h1, htrans d _ ln hk' rfl h2⟩

theorem refresh_run (cfg : Config) (d : Defs) (w : World) (m : Mounts)
    (hm : Kernel.probe w.kt = .ok m) :
    (refreshMountInfo cfg d).run.run w =
      (.ok { d with mounts := m,
                    layers := d.layers.map fun l =>
                      { l with overlain := (overlayLowerdirs m).contains (buildPath cfg l) } }, w) := by
  unfold refreshMountInfo
  simp only [run_bind, run_getW, run_liftRes, hm, run_pure]

/-- `probeAll` = refresh the mount view, then the loop -/
theorem probeAll_run (cfg : Config) (inuse : List (Bytes × List User)) (d0 d : Defs) (w w' : World)
    (h : (probeAll cfg inuse d0).run.run w = (.ok d, w')) :
    ∃ m, Kernel.probe w.kt = .ok m ∧
      (d0.order.foldlM (probeStep cfg inuse w.fs)
        { d0 with mounts := m,
                  layers := d0.layers.map fun l =>
                    { l with overlain := (overlayLowerdirs m).contains (buildPath cfg l) } }).run.run w
        = (.ok d, w') := by
  rw [probeAll_eq] at h
  cases hm : Kernel.probe w.kt with
  | error e =>
    exfalso
    unfold refreshMountInfo at h
    simp only [run_bind, run_getW, run_liftRes, hm] at h
    cases h
  | ok m =>
    refine ⟨m, rfl, ?_⟩
    rw [bind_ok _ _ _ _ _ (refresh_run cfg d0 w m hm), bind_ok _ _ w w w (run_getW w)] at h
    exact h

theorem findLayer_refresh (d0 : Defs) (m : Mounts) (f : Layer → Bool) (n : Bytes) :
    findLayer { d0 with mounts := m, layers := d0.layers.map fun l => { l with overlain := f l } } n =
      (findLayer d0 n).map fun l => { l with overlain := f l } := by
  unfold findLayer
  rw [List.find?_map]
  rfl

/-- the refreshed table has the skeleton of the one handed in -/
theorem sameKeys_refresh (d0 : Defs) (m : Mounts) (f : Layer → Bool) :
    SameKeys d0 { d0 with mounts := m, layers := d0.layers.map fun l => { l with overlain := f l } } := by
  refine ⟨by simp, fun n => ?_⟩
  rw [findLayer_refresh]
  cases findLayer d0 n <;> rfl

/-- the probe keeps the forest skeleton -/
theorem probeAll_sameKeys (cfg : Config) (inuse : List (Bytes × List User)) (d0 d : Defs) (w w' : World)
    (h : (probeAll cfg inuse d0).run.run w = (.ok d, w')) : SameKeys d0 d := by
  obtain ⟨m, -, hloop⟩ := probeAll_run cfg inuse d0 d w w' h
  obtain ⟨-, h2, -, -, -⟩ := probeLoop_inv cfg inuse w.fs (fun _ _ => True)
    (fun _ _ _ _ _ _ _ => trivial) (fun _ _ _ _ _ => trivial) (fun _ _ _ _ _ _ => trivial)
    d0.order _ d w w' hloop
  exact (sameKeys_refresh d0 m _).trans h2

end Lc.StateProbe
