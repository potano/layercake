/-
  `Fs.mkdirAll` (os.MkdirAll over the tree model): a fold of one step per ancestor; after
  success the path is a directory, and directories that were there before are still there.
  Helper lemmas for Props/C08.
-/
import Lc.Lemmas.Fs

namespace Lc.Fs
open Lc

/-- one round of `mkdirAll` -/
def mkStep (acc : Tree) (d : Bytes) : Except String Tree :=
  match stat acc d with
  | none => if (get acc d).isSome then .error "ENOENT" else .ok (set acc d .dir)
  | some .dir => .ok acc
  | some _ => .error "ENOTDIR"

theorem mkdirAll_eq (fs : Tree) (p : Bytes) : mkdirAll fs p = (ancestors p ++ [p]).foldlM mkStep fs := rfl

theorem mkStep_ok (acc acc' : Tree) (d : Bytes) (h : mkStep acc d = .ok acc') :
    (isDir acc d = true ∧ acc' = acc) ∨ (get acc d = none ∧ acc' = acc ++ [(d, .dir)]) := by
  unfold mkStep at h
  split at h
  · split at h
    · cases h
    · rename_i hg
      cases h
      have hg' : get acc d = none := by simpa using hg
      exact Or.inr ⟨hg', set_new acc d .dir hg'⟩
  · rename_i hs
    cases h
    exact Or.inl ⟨(isDir_iff acc d).mpr hs, rfl⟩
  · cases h

theorem foldlM_rel {α β ε} (R : β → β → Prop) (hrefl : ∀ a, R a a)
    (htrans : ∀ a b c, R a b → R b c → R a c) (step : β → α → Except ε β)
    (hstep : ∀ a d a', step a d = .ok a' → R a a') :
    ∀ (ds : List α) (a a' : β), ds.foldlM step a = .ok a' → R a a' := by
  intro ds
  induction ds with
  | nil =>
    intro a a' h
    cases h
    exact hrefl a
  | cons d ds ih =>
    intro a a' h
    rw [List.foldlM_cons] at h
    cases hs : step a d with
    | error e => rw [hs] at h; cases h
    | ok b => rw [hs] at h; exact htrans a b a' (hstep a d b hs) (ih b a' h)

/-- directories survive a successful `mkdirAll` -/
theorem mkdirAll_keeps (fs fs' : Tree) (p q : Bytes) (h : mkdirAll fs p = .ok fs')
    (hq : isDir fs q = true) : isDir fs' q = true := by
  refine foldlM_rel (fun a a' => isDir a q = true → isDir a' q = true) (fun _ h => h)
    (fun _ _ _ h1 h2 h => h2 (h1 h)) mkStep ?_ _ fs fs' h hq
  intro a d a' hs ha
  rcases mkStep_ok a a' d hs with ⟨_, rfl⟩ | ⟨_, rfl⟩
  · exact ha
  · rw [isDir_iff] at ha ⊢
    exact statAux_append a _ 8 q .dir ha

/-- after a successful `mkdirAll fs p`, `p` is a directory -/
theorem mkdirAll_isDir (fs fs' : Tree) (p : Bytes) (h : mkdirAll fs p = .ok fs') :
    isDir fs' p = true := by
  rw [mkdirAll_eq, List.foldlM_append] at h
  cases ha : (ancestors p).foldlM mkStep fs with
  | error e => rw [ha] at h; cases h
  | ok a =>
    rw [ha] at h
    cases hb : mkStep a p with
    | error e => simp [hb, bind, Except.bind] at h
    | ok b =>
      simp only [List.foldlM_cons, List.foldlM_nil, hb, bind, Except.bind, pure, Except.pure,
        Except.ok.injEq] at h
      subst h
      rcases mkStep_ok a b p hb with ⟨hd, rfl⟩ | ⟨hg, rfl⟩
      · exact hd
      · rw [isDir_iff]
        unfold stat statAux
        rw [get_append, hg]
        simp [get]

end Lc.Fs
