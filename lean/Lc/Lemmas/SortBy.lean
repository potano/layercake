/-
  `sortBy` (insertion sort, Lc/Base/Sort.lean) sorts for the non-strict order "not (b < a)" also
  when `lt` is given as irreflexive and transitive.  Used by C03 (`getMountAndSubmounts` sorts by
  mountpoint; stacked mounts repeat a mountpoint).
-/
import Lc.Lemmas.Sort
import Lc.Lemmas.Prefix

namespace Lc
namespace SortByAux

/-- **`sortBy` sorts**: no element is `lt`-smaller than an earlier one -/
theorem sortBy_sorted {α} (lt : α → α → Bool) (hirr : ∀ a, lt a a = false)
    (htrans : ∀ a b c, lt a b = true → lt b c = true → lt a c = true) (l : List α) :
    (sortBy lt l).Pairwise (fun a b => lt b a = false) := by
  refine Lc.sortBy_sorted lt (fun a b hab => ?_) htrans l
  cases hba : lt b a with
  | false => rfl
  | true =>
    have := htrans a b a hab hba
    rw [hirr] at this
    cases this

end SortByAux
end Lc
