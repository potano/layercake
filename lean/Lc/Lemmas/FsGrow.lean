/-
  `mount` only ever adds entries to the file-system tree (os.MkdirAll of missing directories,
  os.Symlink on free paths): `FsExt fs fs'` — `fs` is an initial segment of `fs'`.  Lookups
  that succeeded in `fs` give the same answer in `fs'` (`get`, `stat`, `readFile`), the
  directory listing only grows, and therefore every layer `FindLayers` read from `fs` is read
  again, with the same record, from `fs'` (`readLayerFiles_ext`).
  Helper lemmas for Props/C01 (`mount_idempotent`).
-/
import Lc.Lemmas.FsMkdir
import Lc.Lemmas.ExportFs
import Lc.Model.Layers
import Lc.Lemmas.RunM

namespace Lc.FsGrow
open Lc Lc.Fs Lc.Layers

/-- `fs` is an initial segment of `fs'` -/
def FsExt (fs fs' : Tree) : Prop := ∃ extra, fs' = fs ++ extra

theorem FsExt.refl (fs : Tree) : FsExt fs fs := ⟨[], by simp⟩

theorem FsExt.trans {a b c : Tree} (h1 : FsExt a b) (h2 : FsExt b c) : FsExt a c := by
  obtain ⟨x, hx⟩ := h1
  obtain ⟨y, hy⟩ := h2
  exact ⟨x ++ y, by rw [hy, hx, List.append_assoc]⟩

theorem mkdirAll_ext {fs fs' : Tree} {p : Bytes} (h : mkdirAll fs p = .ok fs') : FsExt fs fs' := by
  refine foldlM_rel FsExt FsExt.refl (fun _ _ _ => FsExt.trans) mkStep ?_ _ fs fs' h
  intro a d a' hs
  rcases mkStep_ok a a' d hs with ⟨_, rfl⟩ | ⟨_, rfl⟩
  · exact FsExt.refl _
  · exact ⟨_, rfl⟩

theorem symlink_ext {fs fs' : Tree} {t link : Bytes} (h : symlink fs t link = .ok fs') : FsExt fs fs' := by
  obtain ⟨hg, _, rfl⟩ := symlink_ok fs fs' t link h
  exact ⟨_, set_new fs link _ hg⟩

/-! ### lookups that succeeded keep their answer -/

theorem readFile_ext {fs fs' : Tree} (h : FsExt fs fs') {p c : Bytes} (hr : readFile fs p = some c) :
    readFile fs' p = some c := by
  obtain ⟨extra, rfl⟩ := h
  unfold readFile stat at hr ⊢
  cases hs : statAux 8 fs p with
  | none => rw [hs] at hr; cases hr
  | some x =>
    rw [statAux_append fs extra 8 p x hs]
    rw [hs] at hr
    exact hr

theorem children_ext {fs fs' : Tree} (h : FsExt fs fs') (d : Bytes) :
    ∃ more, children fs' d = children fs d ++ more := by
  obtain ⟨extra, rfl⟩ := h
  unfold children
  exact ⟨_, by rw [List.filter_append, List.map_append]⟩

/-! ### `FindLayers` reads every old layer again -/

/-- the record `readLayerFiles` builds for the directory entry `n` (if it is a layer) -/
def layerOfEntry (cfg : Config) (fs : Tree) (n : Bytes) : Option Layer :=
  if !isLegalLayerName n then none else
  match Fs.readFile fs (pathJoin [layerPath cfg n, b!"layerconfig"]) with
  | some content => some (layerOfFile cfg n (Layerfile.readLayerFile content))
  | none => none

theorem readLayerFiles_eq (cfg : Config) (fs : Tree) (names : List Bytes) :
    readLayerFiles cfg fs names = names.filterMap (layerOfEntry cfg fs) := rfl

theorem layerOfEntry_name {cfg : Config} {fs : Tree} {n : Bytes} {l : Layer}
    (h : layerOfEntry cfg fs n = some l) : l.name = n := by
  unfold layerOfEntry at h
  split at h
  · cases h
  · split at h
    · cases h; rfl
    · cases h

theorem find?_filterMap_name (g : Bytes → Option Layer) (hg : ∀ x r, g x = some r → r.name = x)
    (n : Bytes) : ∀ (names : List Bytes),
    (names.filterMap g).find? (·.name == n) = if n ∈ names then g n else none := by
  intro names
  induction names with
  | nil => simp
  | cons x xs ih =>
    rw [List.filterMap_cons]
    by_cases hx : x = n
    · subst hx
      cases hgx : g x with
      | none => simp [ih]; intro _; exact hgx.symm ▸ rfl
      | some r =>
        have := hg x r hgx
        simp [this]
    · cases hgx : g x with
      | none =>
        simp only [ih, List.mem_cons]
        have : ¬ n = x := fun e => hx e.symm
        simp [this]
      | some r =>
        have hr := hg x r hgx
        have hne : (r.name == n) = false := by rw [hr]; simpa using hx
        simp only [List.find?_cons, hne, ih, List.mem_cons]
        have : ¬ n = x := fun e => hx e.symm
        simp [this]

theorem findLayer_readLayerFiles (cfg : Config) (fs : Tree) (names : List Bytes) (order : List Bytes)
    (m : Mountinfo.Mounts) (n : Bytes) :
    findLayer { layers := readLayerFiles cfg fs names, order := order, mounts := m } n =
      if n ∈ names then layerOfEntry cfg fs n else none := by
  unfold findLayer
  rw [readLayerFiles_eq]
  exact find?_filterMap_name _ (fun x r h => layerOfEntry_name h) n names

theorem layerOfEntry_ext {cfg : Config} {fs fs' : Tree} (h : FsExt fs fs') {n : Bytes} {l : Layer}
    (hl : layerOfEntry cfg fs n = some l) : layerOfEntry cfg fs' n = some l := by
  unfold layerOfEntry at hl ⊢
  split at hl
  · cases hl
  · rename_i hlegal
    rw [if_neg hlegal]
    split at hl
    · rename_i c hc
      rw [readFile_ext h hc]
      exact hl
    · cases hl

/-- the layers of a `FindLayers` result are the records of the directory entries -/
theorem findLayers_layers {cfg : Config} {w w' : World} {d : Defs}
    (h : (findLayers cfg).run.run w = (.ok d, w')) :
    w' = w ∧ d.layers = readLayerFiles cfg w.fs (Fs.children w.fs cfg.layerdirs) ∧ d.mounts = {} := by
  unfold findLayers fail reorder at h
  simp only [RunM.run_bind, RunM.run_getW, RunM.run_ite, RunM.run_throw] at h
  by_cases h1 : Fs.isDir w.fs cfg.layerdirs = true
  · by_cases h2 : checkInheritance (readLayerFiles cfg w.fs (Fs.children w.fs cfg.layerdirs)) = true
    · simp only [h1, h2, Bool.not_true, Bool.false_eq_true, if_false] at h
      cases hn : normalizeOrder (readLayerFiles cfg w.fs (Fs.children w.fs cfg.layerdirs)) with
      | error e => rw [hn] at h; simp only at h; cases h
      | ok o =>
        rw [hn] at h
        simp only at h
        injection h with ha hb
        injection ha with ha
        subst ha
        exact ⟨hb.symm, rfl, rfl⟩
    · simp [h1, h2] at h
      injection h with ha _; cases ha
  · simp [h1] at h
    injection h with ha _; cases ha

/-- every layer `FindLayers` found in a tree is found again, with the same record, in a tree
    that only gained entries -/
theorem findLayers_found_ext {cfg : Config} {w w1 wa wb : World} {d d1 : Defs} (hfs : FsExt w.fs w1.fs)
    (h : (findLayers cfg).run.run w = (.ok d, wa)) (h1 : (findLayers cfg).run.run w1 = (.ok d1, wb)) :
    ∀ n l, findLayer d n = some l → findLayer d1 n = some l := by
  obtain ⟨_, hl, _⟩ := findLayers_layers h
  obtain ⟨_, hl1, _⟩ := findLayers_layers h1
  intro n l hn
  have e : ∀ (dd : Defs) (ls : List Layer), dd.layers = ls →
      findLayer dd n = findLayer { layers := ls, order := dd.order, mounts := dd.mounts } n := by
    intro dd ls hh; unfold findLayer; rw [hh]
  rw [e d _ hl, findLayer_readLayerFiles] at hn
  rw [e d1 _ hl1, findLayer_readLayerFiles]
  split at hn
  · rename_i hmem
    obtain ⟨more, hmore⟩ := children_ext hfs cfg.layerdirs
    have : n ∈ Fs.children w1.fs cfg.layerdirs := by rw [hmore]; simp [hmem]
    rw [if_pos this]
    exact layerOfEntry_ext hfs hn
  · cases hn

end Lc.FsGrow
