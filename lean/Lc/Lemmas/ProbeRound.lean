/-
  One round of `ProbeAllLayerstate` against the documented classification: the process
  flags (`classifyUsers` vs `Spec.World.mountBusy`), the `Overlain` flag through a view of
  the mount table, non-emptiness of layer paths.  Helper lemmas for Props/C08 section 8
  (`probe_round_eq_spec`).
-/
import Lc.Lemmas.MountsView
import Lc.Lemmas.SpecForest
import Lc.Lemmas.StateProbeAll

namespace Lc.StateProbe
open Lc Lc.Layers Lc.Mountinfo Lc.Layerfile Lc.Spec.World

/-! ### "same directory or below": the code's test and the manual's -/

/-- for a directory name that does not end in '/', the code's
    `SameDirectoryOrDescendant` is the manual's "the directory or below it" -/
theorem sameDirOrDesc_eq (path pre : Bytes) (hl : pre.getLast? ≠ some 47) :
    sameDirOrDesc path pre = inDirOrBelow path pre := by
  unfold sameDirOrDesc inDirOrBelow
  have : (pre.getLast? == some 47) = false := by simpa using hl
  rw [this, Bool.false_or]
  exact prefix_boundary pre path

theorem usersOf_eq_spec (users : List (Bytes × List User)) (n : Bytes) :
    usersOf users n = Spec.World.usersOf users n := rfl

/-- the `mountBusy` flag the probe computes from the process list is the documented one -/
theorem mountBusy_classify (i : Inst) (users : List (Bytes × List User)) (n : Bytes) (l : Layer)
    (h0 : l.mountBusy = false)
    (hb : i.cfg.buildRoot.getLast? ≠ some 47) (hw : i.cfg.workdir.getLast? ≠ some 47)
    (hu : i.cfg.upperdir.getLast? ≠ some 47) :
    (classifyUsers i.cfg l (usersOf users n)).mountBusy = mountBusy i users n := by
  rw [classifyUsers_eq]
  simp only [h0, Bool.false_or]
  unfold mountBusy
  rw [usersOf_eq_spec]
  congr 1
  funext u
  simp only [List.any_cons, List.any_nil, Bool.or_false]
  rw [sameDirOrDesc_eq _ _ hb, sameDirOrDesc_eq _ _ hw, sameDirOrDesc_eq _ _ hu, Bool.or_assoc]

/-! ### layer paths are not empty -/

theorem layerDir_ne_nil (i : Inst) (n : Bytes) (h : i.cfg.layerdirs ≠ []) : layerDir i n ≠ [] :=
  Lemmas.Path.pathJoin_ne_nil h _

theorem resolver_ne_nil {i : Inst} {ls : List DLayer} {d : Defs} (hforest : ForestCorr i ls d)
    {dl : DLayer} {l : Layer} (hc : Corr i dl l) (hdl : findD ls dl.name = some dl)
    (hrootsome : (findLayerBase d (d.layers.length + 1) l).isSome = true)
    (hld : i.cfg.layerdirs ≠ []) :
    ∀ s pre, Lc.Expand.resolver d l s = some pre → pre ≠ [] := by
  intro s pre hs
  unfold Lc.Expand.resolver at hs
  rw [root_agree i ls d hforest l dl hc hdl hrootsome, hc.layerPath] at hs
  split at hs
  · cases hs; exact layerDir_ne_nil i _ hld
  · split at hs
    · cases hs; exact layerDir_ne_nil i _ hld
    · cases hs

/-! ### all import bridges of a layer, from forest correspondence and view -/

theorem importBridges_of_view (i : Inst) (ls : List DLayer) (d : Defs)
    (hforest : ForestCorr i ls d) (hview : MountsView i.mnts d.mounts)
    (dl : DLayer) (l : Layer) (hc : Corr i dl l) (hdl : findD ls dl.name = some dl)
    (hrootsome : (findLayerBase d (d.layers.length + 1) l).isSome = true)
    (hld : i.cfg.layerdirs ≠ [])
    (hsrc : ∀ m ∈ dl.file.mounts, m.source ≠ [])
    (hin : ∀ imports, expandConfigMounts i.cfg d l = .ok imports → ∀ e ∈ imports,
      inAnyLayerDirectory i.cfg (e.source.length + 1) e.source = underLayers i e.source)
    (hsa : ∀ imports, expandConfigMounts i.cfg d l = .ok imports → ∀ e ∈ imports, SourceAgree i e) :
    ∀ imports, expandConfigMounts i.cfg d l = .ok imports →
      ∀ e ∈ imports, ImportBridge i d.mounts e :=
  fun imports himp e he => importBridge_of_view i d.mounts hview e
    (expanded_source_abs himp (hc.cmounts ▸ hsrc) (resolver_ne_nil hforest hc hdl hrootsome hld) e he)
    (hin imports himp e he) (hsa imports himp e he)

/-- the busy flags of the record the round classifies are the documented ones -/
theorem busy_of_view (i : Inst) (users : List (Bytes × List User)) (dl : DLayer) (l0 l : Layer)
    (hview : MountsView i.mnts m)
    (hbp : buildPath i.cfg l0 = buildDir i dl.name)
    (hmb : l.mountBusy = mountBusy i users dl.name)
    (hov : l.overlain = (overlayLowerdirs m).contains (buildPath i.cfg l0)) :
    (l.mountBusy || l.overlain) = (mountBusy i users dl.name || overlain i dl.name) := by
  rw [hmb, hov, overlain_of_view i.mnts m hview, hbp]
  rfl

end Lc.StateProbe
