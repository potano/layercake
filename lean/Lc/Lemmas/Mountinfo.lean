/-
  Helper lemmas for C12 (the mount table is read back exactly): byte-level facts about
  the kernel rendering (`Lc.Spec.KernelRender`) and list-level facts about the parser
  model (`Lc.Model.Mountinfo`).  In front, `IsB` (all bytes below 256) under splitting,
  joining, `path.Clean` and `path.Join`.  Property theorems are in `Lc/Props/C12.lean`.
-/
import Lc.Model.Mountinfo
import Lc.Spec.KernelRender
import Lc.Lemmas.LayerfileScanner
import Lc.Lemmas.Path

namespace Lc.Spec

theorem isB_nil : IsB [] := by intro b hb; cases hb

theorem isB_cons {b : Nat} {s : Bytes} : IsB (b :: s) ↔ b < 256 ∧ IsB s := by
  unfold IsB; simp

theorem isB_append {a b : Bytes} : IsB (a ++ b) ↔ IsB a ∧ IsB b := by
  unfold IsB
  simp only [List.mem_append]
  exact ⟨fun h => ⟨fun x hx => h x (.inl hx), fun x hx => h x (.inr hx)⟩,
    fun h x hx => hx.elim (h.1 x) (h.2 x)⟩

theorem mem_of_mem_splitOn (sep : Nat) (s : Bytes) : ∀ p ∈ splitOn sep s, ∀ b ∈ p, b ∈ s := by
  induction s with
  | nil => exact List.forall_mem_cons.mpr ⟨fun _ hb => hb, nofun⟩
  | cons c cs ih =>
    unfold splitOn
    split
    · exact List.forall_mem_cons.mpr ⟨nofun, fun p hp b hb => List.mem_cons_of_mem _ (ih p hp b hb)⟩
    · split
      · exact List.forall_mem_cons.mpr
          ⟨fun _ hb => List.mem_cons.mpr (.inl (List.mem_singleton.mp hb)), nofun⟩
      · rename_i hd tl heq
        rw [heq, List.forall_mem_cons] at ih
        refine List.forall_mem_cons.mpr
          ⟨fun b hb => ?_, fun p hp b hb => List.mem_cons_of_mem _ (ih.2 p hp b hb)⟩
        rcases List.mem_cons.mp hb with rfl | hb
        · exact List.mem_cons_self
        · exact List.mem_cons_of_mem _ (ih.1 b hb)

theorem mem_of_mem_splitN2 (sep : Nat) (s : Bytes) : ∀ p ∈ splitN2 sep s, ∀ b ∈ p, b ∈ s := by
  induction s with
  | nil => exact List.forall_mem_cons.mpr ⟨fun _ hb => hb, nofun⟩
  | cons c cs ih =>
    unfold splitN2
    split
    · exact List.forall_mem_cons.mpr ⟨nofun, List.forall_mem_cons.mpr
        ⟨fun b hb => List.mem_cons_of_mem _ hb, nofun⟩⟩
    · split
      · exact List.forall_mem_cons.mpr
          ⟨fun _ hb => List.mem_cons.mpr (.inl (List.mem_singleton.mp hb)), nofun⟩
      · rename_i hd tl heq
        rw [heq, List.forall_mem_cons] at ih
        refine List.forall_mem_cons.mpr
          ⟨fun b hb => ?_, fun p hp b hb => List.mem_cons_of_mem _ (ih.2 p hp b hb)⟩
        rcases List.mem_cons.mp hb with rfl | hb
        · exact List.mem_cons_self
        · exact List.mem_cons_of_mem _ (ih.1 b hb)

theorem isB_splitOn (sep : Nat) (s : Bytes) (h : IsB s) : ∀ p ∈ splitOn sep s, IsB p :=
  fun p hp b hb => h b (mem_of_mem_splitOn sep s p hp b hb)

theorem isB_splitN2 (sep : Nat) (s : Bytes) (h : IsB s) : ∀ p ∈ splitN2 sep s, IsB p :=
  fun p hp b hb => h b (mem_of_mem_splitN2 sep s p hp b hb)

theorem isB_joinWith (sep : Nat) (hs : sep < 256) : ∀ (l : List Bytes), (∀ p ∈ l, IsB p) → IsB (joinWith sep l)
  | [], _ => isB_nil
  | [x], h => h x (by simp)
  | x :: y :: rest, h => by
    rw [joinWith, isB_append, isB_cons]
    exact ⟨h x (by simp), hs, isB_joinWith sep hs (y :: rest) (fun p hp => h p (by simp [hp]))⟩

open Lc.Lemmas.Path in
theorem isB_pathClean (s : Bytes) (h : IsB s) : IsB (pathClean s) := by
  rw [pathClean_eq_assemble]
  have hst : ∀ c ∈ (pathComps s).foldl (cleanStep (isAbs s)) [], IsB c := by
    intro c hc
    rcases foldl_cleanStep_mem _ _ _ c hc with e | e
    · simp at e
    · unfold pathComps at e
      exact isB_splitOn _ s h c (List.mem_filter.mp e).1
  generalize (pathComps s).foldl (cleanStep (isAbs s)) [] = stack at hst
  generalize isAbs s = r
  have hbody : IsB (joinWith SLASH stack.reverse) :=
    isB_joinWith 47 (by omega) _ (fun p hp => hst p (by simpa using hp))
  unfold assemble
  cases r
  · simp only [Bool.false_eq_true, if_false]
    split
    · simp [IsB, DOT]
    · exact hbody
  · simp only [if_true, List.isEmpty_cons, Bool.false_eq_true, if_false]
    rw [isB_cons]
    exact ⟨by simp [SLASH], hbody⟩

theorem isB_pathJoin (elems : List Bytes) (h : ∀ p ∈ elems, IsB p) : IsB (pathJoin elems) := by
  unfold pathJoin
  simp only []
  split
  · exact isB_nil
  · apply isB_pathClean
    apply isB_joinWith 47 (by omega)
    intro p hp
    exact h p (List.dropWhile_subset _ hp)

theorem isB_pathJoin2 {a b : Bytes} (ha : IsB a) (hb : IsB b) : IsB (pathJoin [a, b]) :=
  isB_pathJoin _ (by
    intro p hp
    simp only [List.mem_cons, List.not_mem_nil, or_false] at hp
    rcases hp with rfl | rfl
    · exact ha
    · exact hb)

instance (s : Bytes) : Decidable (IsB s) := by unfold IsB; infer_instance
instance (s : Bytes) : Decidable (TokenOK s) := by unfold TokenOK; infer_instance
instance (s : Bytes) : Decidable (KeyOK s) := by unfold KeyOK; infer_instance

/-- `WF` as a conjunction of clauses each of which can be evaluated -/
theorem KMount.wf_iff (m : KMount) : m.WF ↔
    (TokenOK m.id ∧ TokenOK m.parent ∧ TokenOK m.dev ∧ TokenOK m.opts ∧ TokenOK m.fstype) ∧
    (∀ o ∈ m.optional, TokenOK o ∧ o ≠ [45]) ∧ (IsB m.root ∧ IsB m.mp ∧ IsB m.source) ∧
    m.super ≠ [] ∧ (∀ o ∈ m.super, KeyOK o.key ∧ ∀ v ∈ o.val, IsB v) ∧
    (∀ o ∈ m.super.getLast?, ∀ v ∈ o.val, v.getLast? ≠ some 13) :=
  ⟨fun h => ⟨⟨h.id, h.parent, h.dev, h.opts, h.fstype⟩, h.optional, ⟨h.root, h.mp, h.source⟩,
      h.superNe, h.super, h.superLast⟩,
   fun ⟨⟨a, b, c, d, e⟩, f, ⟨g, h, i⟩, j, k, l⟩ => ⟨a, b, c, d, e, f, g, h, i, j, k, l⟩⟩

instance (m : KMount) : Decidable m.WF := decidable_of_iff _ (KMount.wf_iff m).symm

/-- a mount whose super options are `rw` and the three overlay directories, as the kernel
    lists an overlay -/
theorem overlay_wf {id parent dev root mp opts fstype source lo up wk : Bytes}
    {optional : List Bytes}
    (htok : TokenOK id ∧ TokenOK parent ∧ TokenOK dev ∧ TokenOK opts ∧ TokenOK fstype)
    (hopt : ∀ o ∈ optional, TokenOK o ∧ o ≠ [45])
    (hroot : IsB root) (hmp : IsB mp) (hsrc : IsB source)
    (hlo : IsB lo) (hup : IsB up) (hwk : IsB wk) (hcr : wk.getLast? ≠ some 13) :
    KMount.WF ⟨id, parent, dev, root, mp, opts, optional, fstype, source,
      [⟨b!"rw", none⟩, ⟨b!"lowerdir", some lo⟩, ⟨b!"upperdir", some up⟩,
       ⟨b!"workdir", some wk⟩]⟩ where
  id := htok.1
  parent := htok.2.1
  dev := htok.2.2.1
  opts := htok.2.2.2.1
  fstype := htok.2.2.2.2
  optional := hopt
  root := hroot
  mp := hmp
  source := hsrc
  superNe := List.cons_ne_nil _ _
  super := by
    intro o ho
    simp only [List.mem_cons, List.not_mem_nil, or_false] at ho
    rcases ho with rfl | rfl | rfl | rfl
    · exact ⟨(by decide +kernel : KeyOK b!"rw"), fun v hv => nomatch hv⟩
    · exact ⟨(by decide +kernel : KeyOK b!"lowerdir"), fun v hv => Option.some.inj hv ▸ hlo⟩
    · exact ⟨(by decide +kernel : KeyOK b!"upperdir"), fun v hv => Option.some.inj hv ▸ hup⟩
    · exact ⟨(by decide +kernel : KeyOK b!"workdir"), fun v hv => Option.some.inj hv ▸ hwk⟩
  superLast := by
    intro o ho v hv
    cases ho
    cases hv
    exact hcr

end Lc.Spec

namespace Lc.Lemmas.Mountinfo
open Lc Lc.Mountinfo Lc.Spec

/-! ### bytes of escaped text -/

/-- every byte of escaped text is an unescaped original byte, the backslash or an octal digit -/
theorem mem_mangleWith {E : Nat → Bool} {s : Bytes} {c : Nat} (hs : IsB s)
    (h : c ∈ mangleWith E s) : (c ∈ s ∧ E c = false) ∨ c = 92 ∨ (48 ≤ c ∧ c ≤ 55) := by
  unfold mangleWith at h
  rw [List.mem_flatMap] at h
  obtain ⟨b, hb, hc⟩ := h
  have hb256 := hs b hb
  by_cases hE : E b = true
  · simp [hE, esc3] at hc
    omega
  · simp [hE] at hc
    subst hc
    left
    exact ⟨hb, by simpa using hE⟩

theorem not_mem_mangleWith_of_esc {E : Nat → Bool} {s : Bytes} {c : Nat} (hs : IsB s)
    (hE : E c = true) (h92 : c ≠ 92) (hd : ¬(48 ≤ c ∧ c ≤ 55)) : c ∉ mangleWith E s := by
  intro h
  rcases mem_mangleWith hs h with ⟨_, h'⟩ | h' | h'
  · rw [hE] at h'; cases h'
  · exact h92 h'
  · exact hd h'

theorem not_mem_mangleWith_of_not_mem {E : Nat → Bool} {s : Bytes} {c : Nat} (hs : IsB s)
    (hc : c ∉ s) (h92 : c ≠ 92) (hd : ¬(48 ≤ c ∧ c ≤ 55)) : c ∉ mangleWith E s := by
  intro h
  rcases mem_mangleWith hs h with ⟨h', _⟩ | h' | h'
  · exact hc h'
  · exact h92 h'
  · exact hd h'

theorem mangleWith_append (E : Nat → Bool) (a b : Bytes) :
    mangleWith E (a ++ b) = mangleWith E a ++ mangleWith E b := by
  simp [mangleWith]

/-! ### joinWith -/

theorem mem_joinWith {sep c : Nat} {l : List Bytes} (h : c ∈ joinWith sep l) :
    c = sep ∨ ∃ p ∈ l, c ∈ p := by
  induction l with
  | nil => simp [joinWith] at h
  | cons x rest ih =>
    cases rest with
    | nil => right; exact ⟨x, by simp, by simpa [joinWith] using h⟩
    | cons y r =>
      simp only [joinWith, List.mem_append, List.mem_cons] at h
      rcases h with h | h | h
      · right; exact ⟨x, by simp, h⟩
      · left; exact h
      · rcases ih h with h' | ⟨p, hp, hc⟩
        · left; exact h'
        · right; exact ⟨p, by simp [hp], hc⟩

theorem joinWith_append_last (sep : Nat) (xs : List Bytes) (y : Bytes) (hne : xs ≠ []) :
    joinWith sep (xs ++ [y]) = joinWith sep xs ++ sep :: y := by
  induction xs with
  | nil => exact absurd rfl hne
  | cons x rest ih =>
    cases rest with
    | nil => simp [joinWith]
    | cons z r =>
      have := ih (by simp)
      simp only [List.cons_append, joinWith] at this ⊢
      rw [this]
      simp

theorem splitN2_noSep (sep : Nat) (s : Bytes) (h : sep ∉ s) : splitN2 sep s = [s] := by
  induction s with
  | nil => rfl
  | cons c cs ih =>
    have hc : c ≠ sep := by intro e; apply h; simp [e]
    have hcs : sep ∉ cs := by intro e; apply h; simp [e]
    simp [splitN2, hc, ih hcs]

/-! ### last byte / carriage return -/

/-- the string is non-empty and its last byte is not a carriage return -/
def LastNotCR (s : Bytes) : Prop := ∃ a x, s = a ++ [x] ∧ x ≠ 13

theorem LastNotCR.append_left {s : Bytes} (a : Bytes) (h : LastNotCR s) : LastNotCR (a ++ s) := by
  obtain ⟨b, x, rfl, hx⟩ := h
  exact ⟨a ++ b, x, by simp, hx⟩

theorem lastNotCR_of_not_mem {s : Bytes} (hne : s ≠ []) (h : 13 ∉ s) : LastNotCR s := by
  refine ⟨s.dropLast, s.getLast hne, (List.dropLast_concat_getLast hne).symm, ?_⟩
  intro e
  exact h (e ▸ List.getLast_mem hne)

theorem dropCR_of_lastNotCR {s : Bytes} (h : LastNotCR s) : dropCR s = s := by
  obtain ⟨a, x, rfl, hx⟩ := h
  unfold dropCR
  simp only [List.reverse_append, List.reverse_cons, List.reverse_nil, List.nil_append,
    List.cons_append]
  split
  · rename_i r heq
    simp only [List.cons.injEq] at heq
    exact absurd heq.1 hx
  · rfl

/-! ### findDash and indexing into a field list -/

theorem findDash_append (opt : List Bytes) (rest : List Bytes) (k : Nat)
    (h : ∀ o ∈ opt, o ≠ [45]) : findDash (opt ++ [45] :: rest) k = some (k + opt.length) := by
  induction opt generalizing k with
  | nil => simp [findDash]
  | cons o os ih =>
    have ho : o ≠ [45] := h o (by simp)
    simp only [List.cons_append, findDash, ho, if_false]
    rw [ih (k + 1) (fun x hx => h x (by simp [hx]))]
    simp; omega

/-! ### bytes of the rendered fields -/

theorem not_mem_renderSOpt {o : SOpt} {c : Nat} (hk : c ∉ o.key) (h61 : c ≠ 61)
    (hv : ∀ v, o.val = some v → IsB v) (hE : optEsc c = true) (h92 : c ≠ 92)
    (hd : ¬(48 ≤ c ∧ c ≤ 55)) : c ∉ renderSOpt o := by
  unfold renderSOpt
  cases hval : o.val with
  | none => simpa using hk
  | some v =>
    simp only [List.mem_append, List.mem_cons, not_or]
    exact ⟨hk, h61, not_mem_mangleWith_of_esc (hv v hval) hE h92 hd⟩

theorem not_mem_renderSuper {l : List SOpt} {c : Nat} (h44 : c ≠ 44) (h61 : c ≠ 61)
    (hk : ∀ o ∈ l, c ∉ o.key) (hv : ∀ o ∈ l, ∀ v, o.val = some v → IsB v)
    (hE : optEsc c = true) (h92 : c ≠ 92) (hd : ¬(48 ≤ c ∧ c ≤ 55)) : c ∉ renderSuper l := by
  intro h
  rcases mem_joinWith h with h | ⟨p, hp, hc⟩
  · exact h44 h
  · rw [List.mem_map] at hp
    obtain ⟨o, ho, rfl⟩ := hp
    exact not_mem_renderSOpt (hk o ho) h61 (hv o ho) hE h92 hd hc

/-- no field of a rendered line contains a blank or a newline -/
theorem lineFields_clean {m : KMount} (wf : m.WF) :
    ∀ f ∈ lineFields m, 32 ∉ f ∧ 10 ∉ f := by
  intro f hf
  simp only [lineFields, List.cons_append, List.nil_append, List.mem_cons, List.mem_append,
    List.not_mem_nil, or_false] at hf
  have hp32 : pathEsc 32 = true := by decide
  have hp10 : pathEsc 10 = true := by decide
  have hs32 : srcEsc 32 = true := by decide
  have hs10 : srcEsc 10 = true := by decide
  rcases hf with rfl | rfl | rfl | rfl | rfl | rfl | hf | rfl | rfl | rfl | rfl
  · exact ⟨wf.id.2.1, wf.id.2.2.1⟩
  · exact ⟨wf.parent.2.1, wf.parent.2.2.1⟩
  · exact ⟨wf.dev.2.1, wf.dev.2.2.1⟩
  · exact ⟨not_mem_mangleWith_of_esc wf.root hp32 (by decide) (by decide),
           not_mem_mangleWith_of_esc wf.root hp10 (by decide) (by decide)⟩
  · exact ⟨not_mem_mangleWith_of_esc wf.mp hp32 (by decide) (by decide),
           not_mem_mangleWith_of_esc wf.mp hp10 (by decide) (by decide)⟩
  · exact ⟨wf.opts.2.1, wf.opts.2.2.1⟩
  · have := (wf.optional f hf).1
    exact ⟨this.2.1, this.2.2.1⟩
  · decide
  · exact ⟨wf.fstype.2.1, wf.fstype.2.2.1⟩
  · exact ⟨not_mem_mangleWith_of_esc wf.source hs32 (by decide) (by decide),
           not_mem_mangleWith_of_esc wf.source hs10 (by decide) (by decide)⟩
  · constructor
    · exact not_mem_renderSuper (by decide) (by decide) (fun o ho => (wf.super o ho).1.1.2.1)
        (fun o ho => (wf.super o ho).2) (by decide) (by decide) (by decide)
    · exact not_mem_renderSuper (by decide) (by decide) (fun o ho => (wf.super o ho).1.1.2.2.1)
        (fun o ho => (wf.super o ho).2) (by decide) (by decide) (by decide)

theorem lineFields_ne_nil (m : KMount) : lineFields m ≠ [] := by simp [lineFields]

/-- `strings.Split(line, " ")` gives back exactly the fields the kernel wrote -/
theorem splitOn_renderLine {m : KMount} (wf : m.WF) :
    splitOn 32 (renderLine m) = lineFields m :=
  splitOn_joinWith 32 _ (lineFields_ne_nil m) (fun f hf => (lineFields_clean wf f hf).1)

theorem renderLine_no_nl {m : KMount} (wf : m.WF) : 10 ∉ renderLine m := by
  intro h
  rcases mem_joinWith h with h | ⟨f, hf, hc⟩
  · cases h
  · exact (lineFields_clean wf f hf).2 hc

theorem lastNotCR_renderSOpt {o : SOpt} (hk : TokenOK o.key)
    (hv : ∀ v, o.val = some v → v.getLast? ≠ some 13) : LastNotCR (renderSOpt o) := by
  unfold renderSOpt
  cases hval : o.val with
  | none => exact lastNotCR_of_not_mem hk.1 hk.2.2.2
  | some v =>
    have hv' := hv v hval
    show LastNotCR (o.key ++ 61 :: mangleWith optEsc v)
    rcases List.eq_nil_or_concat v with rfl | ⟨v', x, rfl⟩
    · exact ⟨o.key, 61, by simp [mangleWith], by decide⟩
    · have hx : x ≠ 13 := by
        intro e; apply hv'; simp [e]
      rw [List.concat_eq_append, mangleWith_append]
      by_cases hE : optEsc x = true
      · refine ⟨o.key ++ 61 :: (mangleWith optEsc v' ++ [92, 48 + x / 64, 48 + (x / 8) % 8]),
          48 + x % 8, ?_, by omega⟩
        simp [mangleWith, hE, esc3]
      · refine ⟨o.key ++ 61 :: mangleWith optEsc v', x, ?_, hx⟩
        simp [mangleWith, hE]

theorem lastNotCR_renderSuper {l : List SOpt} (hne : l ≠ [])
    (hk : ∀ o ∈ l, TokenOK o.key)
    (hlast : ∀ o, l.getLast? = some o → ∀ v, o.val = some v → v.getLast? ≠ some 13) :
    LastNotCR (renderSuper l) := by
  rcases List.eq_nil_or_concat l with rfl | ⟨l', o, rfl⟩
  · exact absurd rfl hne
  · rw [List.concat_eq_append] at hk hlast ⊢
    have ho : LastNotCR (renderSOpt o) :=
      lastNotCR_renderSOpt (hk o (by simp)) (hlast o (by simp))
    unfold renderSuper
    rw [List.map_append, List.map_cons, List.map_nil]
    by_cases hl' : l' = []
    · subst hl'; simpa [joinWith] using ho
    · rw [joinWith_append_last 44 _ _ (by simpa using hl')]
      have := ho.append_left (joinWith 44 (List.map renderSOpt l') ++ [44])
      simpa using this

theorem renderLine_lastNotCR {m : KMount} (wf : m.WF) : LastNotCR (renderLine m) := by
  have hs : LastNotCR (renderSuper m.super) :=
    lastNotCR_renderSuper wf.superNe (fun o ho => (wf.super o ho).1.1) wf.superLast
  have e : lineFields m =
      ([m.id, m.parent, m.dev, mangleWith pathEsc m.root, mangleWith pathEsc m.mp, m.opts]
        ++ m.optional ++ [[45], m.fstype, mangleWith srcEsc m.source]) ++ [renderSuper m.super] := by
    simp [lineFields]
  unfold renderLine
  rw [e, joinWith_append_last 32 _ _ (by simp)]
  have := hs.append_left (joinWith 32 ([m.id, m.parent, m.dev, mangleWith pathEsc m.root,
    mangleWith pathEsc m.mp, m.opts] ++ m.optional ++ [[45], m.fstype,
    mangleWith srcEsc m.source]) ++ [32])
  simpa using this

/-! ### the line scanner on rendered text -/

/-- `bufio.ScanLines` over the rendered table yields exactly the rendered lines: no rendered line
    contains a newline or ends in a carriage return -/
theorem scanLines_render {t : List KMount} (wf : ∀ m ∈ t, m.WF) :
    scanLines (render t) = t.map renderLine := by
  have hr : render t = (t.map renderLine).flatMap (· ++ [10]) := by
    unfold render
    rw [List.flatMap_map]
  rw [hr]
  apply Lemmas.LayerfileScanner.scanLines_lines
  · intro b hb
    obtain ⟨m, hm, rfl⟩ := List.mem_map.mp hb
    exact renderLine_no_nl (wf m hm)
  · intro b hb
    obtain ⟨m, hm, rfl⟩ := List.mem_map.mp hb
    exact dropCR_of_lastNotCR (renderLine_lastNotCR (wf m hm))

/-! ### shadow bookkeeping, lookup -/

theorem shadowIds_append_one (pre : List KMount) (m : KMount) :
    shadowIds (pre ++ [m]) = shadowStep (shadowIds pre) m := by
  simp [shadowIds, List.foldl_append]

/-- induction on a list from its end -/
theorem snoc_ind {α : Type} {P : List α → Prop} (nil : P []) (snoc : ∀ l x, P l → P (l ++ [x])) :
    ∀ l, P l := by
  intro l
  rw [← List.reverse_reverse l]
  induction l.reverse with
  | nil => exact nil
  | cons x r ih => rw [List.reverse_cons]; exact snoc _ x ih

theorem find?_reverse_last {α : Type} (p : α → Bool) (A B : List α) (x : α)
    (hx : p x = true) (hB : ∀ b ∈ B, p b = false) :
    (A ++ x :: B).reverse.find? p = some x := by
  rw [List.reverse_append, List.reverse_cons, List.append_assoc, List.find?_append]
  have : List.find? p B.reverse = none := by
    rw [List.find?_eq_none]
    intro b hb
    simp [hB b (by simpa using hb)]
  rw [this]
  simp [hx]

/-! ### the line parser on a line of known shape -/

/-- what `probeLine` appends for a line with the given (already split) fields -/
def lineResult (st : PState) (mountID parentID stDev root mp opts fstype src : Bytes)
    (o : OvlOpts) : PState :=
  { m := { list := st.m.list ++ [⟨o.lower, unescape mp, o.upper, o.work, fstype, opts,
             !shadowingFsTypes.contains fstype && st.shadow.contains parentID, stDev,
             unescape root, mountID, parentID⟩],
           devices := addDevice st.m.devices stDev (unescape src) (unescape root) (unescape mp) },
    shadow := if shadowingFsTypes.contains fstype || st.shadow.contains parentID
              then mountID :: st.shadow else st.shadow }

/-- `probeLine` on any line whose blank-separated fields are six leading fields, any
    number of optional fields other than "-", the "-" separator and three more fields. -/
theorem probeLine_of_segs (st : PState) (line : Bytes)
    (mountID parentID stDev root mp opts fstype src so : Bytes) (optional : List Bytes)
    (hsegs : splitOn 32 line =
      [mountID, parentID, stDev, root, mp, opts] ++ optional ++ [[45], fstype, src, so])
    (hopt : ∀ o ∈ optional, o ≠ [45]) :
    probeLine st line = .ok (lineResult st mountID parentID stDev root mp opts fstype src
      (if fstype = b!"overlay" then parseOverlayOpts so else {})) := by
  have hget : ∀ k, (mountID :: parentID :: stDev :: root :: mp :: opts :: (optional ++
      [[45], fstype, src, so]))[6 + optional.length + k]? = [[45], fstype, src, so][k]? := by
    intro k
    have : 6 + optional.length + k = (optional.length + k) + 6 := by omega
    rw [this]
    simp only [List.getElem?_cons_succ]
    rw [List.getElem?_append_right (Nat.le_add_right _ _), Nat.add_sub_cancel_left]
  have hlen : ¬ (mountID :: parentID :: stDev :: root :: mp :: opts :: (optional ++
      [[45], fstype, src, so])).length < 10 := by
    simp only [List.length_cons, List.length_append, List.length_nil]; omega
  unfold probeLine
  simp only [hsegs, List.cons_append, List.nil_append]
  rw [if_neg hlen]
  simp only [List.drop_succ_cons, List.drop_zero, findDash_append optional _ 6 hopt]
  rw [hget 1, hget 2, hget 3]
  simp only [List.getElem?_cons_succ, List.getElem?_cons_zero]
  unfold lineResult
  split <;> rfl

/-! ### the device table -/

theorem find?_map_of_pred {α : Type} (p : α → Bool) (f : α → α) (l : List α)
    (h : ∀ x, p (f x) = p x) : (l.map f).find? p = (l.find? p).map f := by
  rw [List.find?_map]
  have : p ∘ f = p := funext h
  rw [this]

/-- looking a device number up after `addDevice` -/
theorem find?_addDevice (devs : List Device) (sd name root mp d : Bytes) :
    (addDevice devs sd name root mp).find? (·.stDev == d) =
      if sd = d then
        some (match devs.find? (·.stDev == d) with
          | some dv => if root = [47] then { dv with roots := dv.roots ++ [mp] }
                       else { dv with subroots := dv.subroots ++ [(root, mp)] }
          | none => ⟨sd, name, if root = [47] then [mp] else [], if root = [47] then [] else [(root, mp)]⟩)
      else devs.find? (·.stDev == d) := by
  have hA : (if devs.any (·.stDev == sd) then devs else devs ++ [⟨sd, name, [], []⟩]).find?
        (·.stDev == d) =
      if sd = d then
        some (match devs.find? (·.stDev == d) with
          | some dv => dv
          | none => ⟨sd, name, [], []⟩)
      else devs.find? (·.stDev == d) := by
    by_cases hsd : sd = d
    · subst hsd
      rw [if_pos rfl]
      cases hf : devs.find? (·.stDev == sd) with
      | some dv =>
        have : devs.any (·.stDev == sd) = true :=
          List.any_eq_true.mpr ⟨dv, List.mem_of_find?_eq_some hf,
            List.find?_some (p := fun x : Device => x.stDev == sd) hf⟩
        simp [this, hf]
      | none =>
        have : devs.any (·.stDev == sd) = false := by
          rw [List.any_eq_false]; exact List.find?_eq_none.mp hf
        simp [this, hf, List.find?_append]
    · rw [if_neg hsd]
      by_cases hany : devs.any (·.stDev == sd) = true
      · simp [hany]
      · simp only [hany]
        rw [if_neg (by simp), List.find?_append]
        simp [hsd]
  -- both branches of `addDevice` map one update over the (possibly extended) list
  let upd : Device → Device := fun dv =>
    if root = [47] then { dv with roots := dv.roots ++ [mp] }
    else { dv with subroots := dv.subroots ++ [(root, mp)] }
  have hadd : addDevice devs sd name root mp =
      (if devs.any (·.stDev == sd) then devs else devs ++ [⟨sd, name, [], []⟩]).map
        fun x => if x.stDev == sd then upd x else x := by
    unfold addDevice
    by_cases hr : root = [47]
    · simp only [upd, hr, if_true]
    · simp only [upd, hr, if_false]
  have hupd : ∀ x : Device, (upd x).stDev = x.stDev := fun x => by
    by_cases hr : root = [47]
    · simp only [upd, hr, if_true]
    · simp only [upd, hr, if_false]
  rw [hadd, find?_map_of_pred (fun x : Device => x.stDev == d) _ _
    (by intro x; split <;> simp only [hupd]), hA]
  by_cases hsd : sd = d
  · subst hsd
    rw [if_pos rfl, if_pos rfl, Option.map_some]
    cases hf : devs.find? (·.stDev == sd) with
    | some dv =>
      have h1 : dv.stDev = sd := by
        simpa using List.find?_some (p := fun x : Device => x.stDev == sd) hf
      simp [h1, upd]
    | none =>
      by_cases hr : root = [47]
      · simp [upd, hr]
      · simp [upd, hr]
  · rw [if_neg hsd, if_neg hsd]
    cases hf : devs.find? (·.stDev == d) with
    | none => rfl
    | some dv =>
      have h1 : dv.stDev = d := by
        simpa using List.find?_some (p := fun x : Device => x.stDev == d) hf
      have : ¬ dv.stDev = sd := by rw [h1]; exact fun e => hsd e.symm
      simp [this]

/-- the device entry a reader must have for device number `d` after table `t` -/
def devLookup (t : List KMount) (d : Bytes) : Option Device :=
  (t.find? (·.dev == d)).map fun f =>
    ⟨f.dev, f.source, (t.filter (fun x => x.dev == d && x.root == [47])).map (·.mp),
     (t.filter (fun x => x.dev == d && x.root != [47])).map (fun x => (x.root, x.mp))⟩

theorem find?_devices (t : List KMount) (d : Bytes) :
    (t.foldl (fun d m => addDevice d m.dev m.source m.root m.mp) []).find? (·.stDev == d) =
      devLookup t d := by
  induction t using snoc_ind with
  | nil => rfl
  | snoc t' m ih =>
    rw [List.foldl_append, List.foldl_cons, List.foldl_nil, find?_addDevice, ih]
    unfold devLookup
    by_cases hmd : m.dev = d
    · subst hmd
      rw [if_pos rfl]
      cases hf : t'.find? (·.dev == m.dev) with
      | some f =>
        by_cases hr : m.root = [47]
        · simp [hf, List.find?_append, List.filter_append, hr]
        · simp [hf, List.find?_append, List.filter_append, hr]
      | none =>
        have hnone : ∀ q : KMount → Bool, t'.filter (fun x => x.dev == m.dev && q x) = [] := by
          intro q
          rw [List.filter_eq_nil_iff]
          intro a ha
          have := List.find?_eq_none.mp hf a ha
          simp at this ⊢
          intro e; exact absurd e this
        have hnil := hnone fun x => x.root == [47]
        have hnil2 := hnone fun x => x.root != [47]
        by_cases hr : m.root = [47]
        · simp [hf, List.find?_append, List.filter_append, hr, hnil, hnil2]
        · simp [hf, List.find?_append, List.filter_append, hr, hnil, hnil2]
    · rw [if_neg hmd]
      simp [List.find?_append, List.filter_append, hmd]

/-! ### the shadow set and the mount tree -/

/-- `x` is of a shadowing type or has a proper ancestor of a shadowing type -/
def Sh (t : List KMount) (x : KMount) : Prop :=
  isShadowingType x.fstype = true ∨ ∃ a, Ancestor t a x ∧ isShadowingType a.fstype = true

theorem Sh.child {t : List KMount} {x m : KMount} (hx : Sh t x) (hp : IsParent t x m) :
    ∃ a, Ancestor t a m ∧ isShadowingType a.fstype = true := by
  rcases hx with h | ⟨a, ha, hs⟩
  · exact ⟨x, .parent hp, h⟩
  · exact ⟨a, .step ha hp, hs⟩

/-- a shadowing ancestor of `m` comes through a shadowed-or-shadowing parent -/
theorem parent_of_ancestor {t : List KMount} {a m : KMount} (h : Ancestor t a m)
    (hs : isShadowingType a.fstype = true) : ∃ b, IsParent t b m ∧ Sh t b := by
  cases h with
  | parent hp => exact ⟨a, hp, Or.inl hs⟩
  | step hab hp => exact ⟨_, hp, Or.inr ⟨a, hab, hs⟩⟩

/-- `Sh` read from the parent -/
theorem Sh.iff_parent {t : List KMount} {m : KMount} :
    Sh t m ↔ isShadowingType m.fstype = true ∨ ∃ b, IsParent t b m ∧ Sh t b := by
  constructor
  · rintro (h | ⟨a, ha, hs⟩)
    · exact Or.inl h
    · exact Or.inr (parent_of_ancestor ha hs)
  · rintro (h | ⟨b, hb, hsb⟩)
    · exact Or.inl h
    · exact Or.inr (hsb.child hb)

theorem parent_before {t pre post : List KMount} {m b : KMount} (hpf : ParentsFirst t)
    (ht : t = pre ++ m :: post) (hb : IsParent t b m) : b ∈ pre := by
  obtain ⟨hbt, hbid, hne⟩ := hb
  rw [ht] at hbt
  rcases List.mem_append.mp hbt with h | h
  · exact h
  · rcases List.mem_cons.mp h with h | h
    · subst h; exact absurd rfl hne
    · exact absurd hbid (hpf pre m post ht b h)

theorem ids_before_ne {t pre post : List KMount} {m : KMount} (hid : DistinctIds t)
    (ht : t = pre ++ m :: post) : ∀ x ∈ pre, x.id ≠ m.id := by
  unfold DistinctIds at hid
  rw [ht, List.pairwise_append] at hid
  exact fun x hx => hid.2.2 x hx m List.mem_cons_self

/-- The shadow set after any prefix of a table (distinct ids, parents listed first) is
    the set of ids of the prefix's mounts that are shadowing or have a shadowing ancestor. -/
theorem mem_shadowIds (t : List KMount) (hid : DistinctIds t) (hpf : ParentsFirst t)
    (pre : List KMount) : ∀ rest, t = pre ++ rest →
      ∀ id, id ∈ shadowIds pre ↔ ∃ x ∈ pre, x.id = id ∧ Sh t x := by
  induction pre using snoc_ind with
  | nil =>
    intro rest _ id
    simp [shadowIds]
  | snoc p m ih =>
    intro rest ht id
    have ht' : t = p ++ m :: rest := by rw [ht]; simp
    have ihp := ih (m :: rest) ht'
    have hpar : ∀ b, IsParent t b m → b ∈ p := fun b => parent_before hpf ht'
    have hidp := ids_before_ne hid ht'
    have hsub : ∀ x ∈ p, x ∈ t := by intro x hx; rw [ht']; simp [hx]
    rw [shadowIds_append_one]
    unfold shadowStep
    have hcont : (shadowIds p).contains m.parent = true ↔ ∃ b, IsParent t b m ∧ Sh t b := by
      rw [List.contains_iff_mem, ihp]
      constructor
      · rintro ⟨x, hx, hxid, hsx⟩
        exact ⟨x, ⟨hsub x hx, hxid, hidp x hx⟩, hsx⟩
      · rintro ⟨b, hb, hsb⟩
        exact ⟨b, hpar b hb, hb.2.1, hsb⟩
    have hsnoc : (∃ x ∈ p ++ [m], x.id = id ∧ Sh t x) ↔
        (∃ x ∈ p, x.id = id ∧ Sh t x) ∨ (m.id = id ∧ Sh t m) := by
      simp only [List.mem_append, List.mem_singleton, or_and_right, exists_or, exists_eq_left]
    rw [hsnoc, ← ihp, Sh.iff_parent, ← hcont, ← Bool.or_eq_true]
    by_cases hc : (isShadowingType m.fstype || (shadowIds p).contains m.parent) = true
    · rw [if_pos hc, List.mem_cons, or_comm, eq_comm]
      simp only [hc, and_true]
    · rw [if_neg hc]
      exact ⟨Or.inl, fun h => h.elim (fun h' => h') fun h' => absurd h'.2 hc⟩

end Lc.Lemmas.Mountinfo
