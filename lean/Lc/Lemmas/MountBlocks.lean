/-
  `mountOne` and `mountCmd` of the command model cut into named blocks (overlay block, one
  import, the import loop; the checks of `mountCmd` and its three passes over the base chain),
  with the equations that say the model's functions are these sequences.  Proofs about `mount`
  go through the blocks: walking `mountOne` itself makes `mvcgen` copy the continuation into
  every branch of its nested conditionals.
-/
import Lc.Model.Layers

namespace Lc.MountTrace
open Lc Lc.Layers Lc.Mountinfo

/-- the option string of the overlay mount -/
def ovData (cfg : Config) (bl l : Layer) : Bytes :=
  b!"lowerdir=" ++ buildPath cfg bl ++ b!",upperdir=" ++ upperPath cfg l ++ b!",workdir=" ++ workPath cfg l

def mountOverlay (cfg : Config) (d : Defs) (l : Layer) : M Unit := do
  if l.base.length > 0 then
    if (getMount d.mounts (buildPath cfg l)).isNone then
      let bl ← getL d l.base
      fsMount b!"overlay" (buildPath cfg l) b!"overlay" (ovData cfg bl l)

def mountItem (cfg : Config) (d : Defs) (m : Expanded) : M Unit := do
  if (getMount d.mounts m.mount).isNone then
    if !(← fExists m.source) then
      if inAnyLayerDirectory cfg (m.source.length + 1) m.source then fsMkdir m.source
      else fail "nosource"
    fsMount m.source m.mount m.fstype []

def mountItems (cfg : Config) (d : Defs) (expanded : List Expanded) : M Unit := do
  for m in expanded do mountItem cfg d m

def mountOne' (cfg : Config) (d : Defs) (name : Bytes) : M Defs := do
  let l ← getL d name
  if l.state < S_mountable then fail "notmountable"
  mountOverlay cfg d l
  let expanded ← liftRes (expandConfigMounts cfg d l)
  mountItems cfg d expanded
  let d ← refreshMountInfo cfg d
  let l ← getL d name
  let l' ← liftRes (findLayerstate cfg (← getW).fs d l)
  pure (setLayer d l')

theorem ite_bind {α β} (c : Prop) [Decidable c] (x y : M α) (k : α → M β) :
    (if c then x else y) >>= k = if c then x >>= k else y >>= k := by
  split <;> rfl

/-- the model's `mountOne` is this sequence of blocks: with the binds pushed into the
    conditionals of the blocks the two sides differ only in the join points of the `do` notation -/
theorem mountOne_eq (cfg : Config) (d : Defs) (name : Bytes) : mountOne cfg d name = mountOne' cfg d name := by
  unfold mountOne' mountItems mountOverlay mountItem ovData
  simp only [ite_bind, bind_assoc, pure_bind]
  rfl

def mkChainDirs (cfg : Config) (chain : List Layer) (d : Defs) : M Defs :=
  chain.foldlM (fun d a => makedirs cfg d a.name) d

def mountChain (cfg : Config) (chain : List Layer) (d : Defs) : M Defs :=
  chain.foldlM (fun d a => mountOne cfg d a.name) d

def linkChain (cfg : Config) (d : Defs) (chain : List Layer) : M PUnit :=
  forIn chain PUnit.unit fun a _ => do
    let a' ← getL d a.name
    makeExportSymlinks cfg a'
    pure (ForInStep.yield PUnit.unit)

/-- the checks of `mountCmd` and the computation of the chain -/
def mountPre (d : Defs) (name : Bytes) : M (List Layer) := do
  testName d [(name, NAME_NEED)]
  let l ← getL d name
  errorIfError l
  ancestorsAndSelf d (d.layers.length + 1) name []

theorem mountCmd_eq (cfg : Config) (d : Defs) (name : Bytes) :
    mountCmd cfg d name = (do
      let chain ← mountPre d name
      let d ← mkChainDirs cfg chain d
      let d ← mountChain cfg chain d
      linkChain cfg d chain
      pure d) := by
  unfold mountPre
  simp only [bind_assoc]
  rfl

end Lc.MountTrace
