/-
  C15 (a) — call-site facts regenerated from /repo's source on every run
  (tools/extract → Lc/Generated/Guards.lean).  If the source changes so that a fact no
  longer holds, these `decide` proofs fail and the check goes looking for a failing input.
-/
import Lc.Generated.Guards

namespace Lc.Props.C15Facts
open Lc.Generated

/-- every call of a mutating primitive inside package fs is dominated by the pretender -/
theorem all_fs_mutators_guarded : fsMutatorSites.all (·.guarded) = true := by decide

/-- no other layercake package calls a mutating primitive directly -/
theorem no_mutator_outside_fs : outsideMutatorSites = [] := by decide

/-- every command function parses the global switches (getArgs installs the pretender)
    before it loads the layers or calls package manage -/
theorem every_command_installs_pretender : commandFns.all (·.getArgsFirst) = true := by decide

/-- every entry of main's dispatch table is one of those command functions -/
theorem dispatch_targets_are_commands :
    dispatchTable.all (fun d => commandFns.any (·.name == d.2)) = true := by decide +kernel

/-- the facts are not vacuous: the extractor found the mutators and the commands -/
theorem facts_nonempty : fsMutatorSites.length ≥ 8 ∧ commandFns.length ≥ 13 ∧ dispatchTable.length ≥ 14 := by
  decide

end Lc.Props.C15Facts
