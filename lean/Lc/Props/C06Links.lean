/-
  C06 (part) — `RecoverMissingLinks`: which symbolic links the walk over the build root adds.

  Theorems over the model of stage/supplement.go `RecoverMissingLinks` / `addMissingLinks` /
  `ultimateSymlinkTarget` (Lc/Model/StageLinks.lean), for every lstat oracle `env`, every
  tree `tree` (what `Readdirnames`/`lstat` show of the build root through real directories,
  entries in any order) and every member map `m`; no bounds:
    * `walk_fuel`, `chain_fuel`: the number of nodes of the tree is enough fuel for the
      recursion, `MaxSymlinkChain` for the loop of `ultimateSymlinkTarget`; more changes nothing,
    * `recovered_are_links_to_members`: nothing is removed; every added name is a symbolic link
      the walk visits, was no member, and its chain of links ends after 1..`MaxSymlinkChain` hops
      at a name that is a member — at that moment and, in fact, already before the walk
      (`recovered_exactly`: the member set afterwards is exactly the old one plus those links, so
      it does not depend on the order `Readdirnames` returns the names in),
    * `walk_skips_nogo`, `walk_skips_nogo_paths`: where an added link lies,
    * `chain_bound_exact`, `chain_too_long_is_error`: the loop follows a chain of k links iff
      k ≤ `MaxSymlinkChain` (= 5, counting the link the walk found); a visited link that is no
      member and has a longer (or circular) chain makes the whole walk fail,
    * `recovered_names_clean`, `candidates_step_clean`: every added name is a clean absolute
      path — no hypothesis on the tree is needed, `path.Join` cleans — which discharges, for the
      recovery step, the assumption `StepClean` of `Lc.Props.C06.parents_precede`,
    * `walk_eq_recoverAll`: the walk is the pipeline step `.recover` on the candidate list of the
      walk (the form in which the harness hands the step to the model).
-/
import Lc.Lemmas.StageLinks

namespace Lc.Props.C06Links
open Lc Lc.Stage Lc.ExportPath Lc.InLayers
open Lc.TreeWF (CleanAbs)

/-! ### fuel -/

/-- **Fuel suffices.**  With at least as much fuel as the tree has nodes the walk does not run
    out of fuel (the error class "fuel" does not occur), and the result is the one for exactly
    that much. -/
theorem walk_fuel (env : Env) (tree : Node) (dir : Bytes) (m : EMap) (fuel : Nat)
    (h : tree.size ≤ fuel) :
    walkDir env fuel dir tree m ≠ Res.err "fuel" ∧
    walkDir env fuel dir tree m = walkDir env tree.size dir tree m :=
  ⟨walkDir_no_fuel fuel tree h dir m, walkDir_fuel fuel tree.size tree h (Nat.le_refl _) dir m⟩

/-- in particular `recoverMissingLinks` (which hands out `tree.size`) never reports "fuel" -/
theorem recoverMissingLinks_no_fuel (env : Env) (tree : Node) (m : EMap) :
    recoverMissingLinks env tree m ≠ Res.err "fuel" :=
  walkDir_no_fuel _ tree (Nat.le_refl _) _ m

/-- The loop of `ultimateSymlinkTarget` makes at most `MaxSymlinkChain` iterations: that much
    fuel is never used up, and more gives the same result. -/
theorem chain_fuel (env : Env) (source absPath : Bytes) (fuel : Nat) (h : maxSymlinkChain ≤ fuel) :
    ultimateTarget env source absPath ≠ Res.err "fuel" ∧
    chainLoop env fuel 1 source absPath = ultimateTarget env source absPath :=
  ⟨ultimateTarget_no_fuel,
   chainLoop_fuel fuel maxSymlinkChain 1 source absPath (by omega) (by decide) (by decide)⟩

/-! ### the chain of links -/

/-- **The bound of the code.**  `ultimateSymlinkTarget(source, absPath)` returns `t` exactly
    when following `k` links from `absPath` — `k` counts the link at `absPath` itself — ends at
    the name `t` that is not a symbolic link, for some `1 ≤ k ≤ MaxSymlinkChain`. -/
theorem chain_bound_exact (env : Env) (source absPath t : Bytes) :
    ultimateTarget env source absPath = .ok t ↔
      ∃ k, 1 ≤ k ∧ k ≤ maxSymlinkChain ∧ Chain env source absPath k t :=
  ⟨ultimateTarget_ok, fun ⟨_, _, hk, hc⟩ => ultimateTarget_complete hc hk⟩

/-- … and when `MaxSymlinkChain` hops all arrive at a symbolic link again (the chain has more
    than `MaxSymlinkChain` links, or is circular) the result is the error. -/
theorem chain_longer_fails (env : Env) (source absPath : Bytes)
    (h : LinksAhead env source absPath maxSymlinkChain) :
    ultimateTarget env source absPath = Res.err "stage" :=
  ultimateTarget_too_long h

/-! ### what the walk adds -/

/-- **Recovered names are links to members.**  After a successful walk: (1) every member is
    still a member; (2) every new member `n` is a symbolic link the walk visited
    (`Visits`: reached from the root through real directories that pass the two
    `DoNotTraverse` tests), was no member at its moment (`mk`, a map between the one before and
    the one after the walk), is a symbolic link for `lstat`, and following its chain ends after
    `k` hops, `1 ≤ k ≤ MaxSymlinkChain`, at a name `t` that is a member at that moment — and was
    one before the walk began. -/
theorem recovered_are_links_to_members (env : Env) (tree : Node) (m m' : EMap)
    (h : recoverMissingLinks env tree m = .ok m') :
    (∀ n ∈ m.names, n ∈ m'.names) ∧
    (∀ n ∈ m'.names, n ∉ m.names →
      ∃ (tgt : Bytes) (mk : EMap) (t : Bytes) (k : Nat),
        Visits [SLASH] tree n (.symlink tgt) ∧
        (∀ x ∈ m.names, x ∈ mk.names) ∧ (∀ x ∈ mk.names, x ∈ m'.names) ∧ n ∉ mk.names ∧
        isSymlinkAt env (inRoot env n) = true ∧
        1 ≤ k ∧ k ≤ maxSymlinkChain ∧ Chain env n (inRoot env n) k t ∧
        t ∈ mk.names ∧ t ∈ m.names) := by
  have hs := walkDir_spec _ _ _ _ _ h
  refine ⟨hs.mono, fun n hn hnm => ?_⟩
  obtain ⟨⟨tgt, hv⟩, hl, t, hu, ht⟩ := (hs.added n hn).resolve_left hnm
  obtain ⟨k, hk1, hk2, hc⟩ := ultimateTarget_ok hu
  -- the member map of before serves as the one of the link's moment
  exact ⟨tgt, m, t, k, hv, fun _ h => h, hs.mono, hnm, hl, hk1, hk2, hc, ht, ht⟩

/-- **Nothing is missed.**  A visited symbolic link whose chain ends, within the bound, at a
    name that was a member before the walk is a member after it. -/
theorem recovered_complete (env : Env) (tree : Node) (m m' : EMap)
    (h : recoverMissingLinks env tree m = .ok m') (n tgt t : Bytes) (k : Nat)
    (hv : Visits [SLASH] tree n (.symlink tgt)) (hk : k ≤ maxSymlinkChain)
    (hc : Chain env n (inRoot env n) k t) (ht : t ∈ m.names) : n ∈ m'.names := by
  have hs := walkDir_spec _ _ _ _ _ h
  refine (hs.seen n tgt hv).resolve_right fun ⟨t', hu, hnt⟩ => ?_
  rw [ultimateTarget_complete hc hk] at hu
  exact hnt (Except.ok.inj hu ▸ ht)

/-- **The member set after the walk, exactly** — the old members and the visited links whose
    chain ends within the bound at an old member.  The right-hand side does not mention the
    order of the directory entries: the set the walk yields (when it succeeds) does not depend
    on the order in which `Readdirnames` returns the names. -/
theorem recovered_exactly (env : Env) (tree : Node) (m m' : EMap)
    (h : recoverMissingLinks env tree m = .ok m') (n : Bytes) :
    n ∈ m'.names ↔
      n ∈ m.names ∨
      ((∃ tgt, Visits [SLASH] tree n (.symlink tgt)) ∧
        ∃ t k, k ≤ maxSymlinkChain ∧ Chain env n (inRoot env n) k t ∧ t ∈ m.names) := by
  have hs := walkDir_spec _ _ _ _ _ h
  constructor
  · intro hn
    refine (hs.added n hn).imp_right fun ⟨hv, _, t, hu, ht⟩ => ?_
    obtain ⟨k, _, hk, hc⟩ := ultimateTarget_ok hu
    exact ⟨hv, t, k, hk, hc, ht⟩
  · rintro (hn | ⟨⟨tgt, hv⟩, t, k, hk, hc, ht⟩)
    · exact hs.mono n hn
    · exact recovered_complete env tree m m' h n tgt t k hv hk hc ht

/-! ### DoNotTraverse -/

/-- **The walk skips the `DoNotTraverse` places.**  Every added name lies at a place of the
    tree given by entry names `comps` (through directories, ending at a symbolic link), its name
    is those names joined onto "/", no directory on the way — a proper prefix of `comps` — has a
    name in `nogoPaths`, and none of the directories' own entry names is in `nogoNames`. -/
theorem walk_skips_nogo (env : Env) (tree : Node) (m m' : EMap)
    (h : recoverMissingLinks env tree m = .ok m') :
    ∀ n ∈ m'.names, n ∉ m.names →
      ∃ (es : List (Bytes × Node)) (comps : List Bytes) (tgt : Bytes),
        tree = .dir es ∧ At es comps (.symlink tgt) ∧ n = joinAll [SLASH] comps ∧
        (∀ pre, pre <+: comps → pre ≠ comps → joinAll [SLASH] pre ∉ nogoPaths) ∧
        (∀ x ∈ comps.dropLast, x ∉ nogoNames) := by
  intro n hn hnm
  obtain ⟨⟨tgt, es, he, hd, hr⟩, _⟩ := ((walkDir_spec _ _ _ _ _ h).added n hn).resolve_left hnm
  obtain ⟨comps, hat, hj, hp, hx⟩ := hr.comps
  refine ⟨es, comps, tgt, he, hat, hj, ?_, ?_⟩
  · intro pre hpre hne hmem
    have hc : nogoPaths.contains (joinAll [SLASH] pre) = true := List.contains_iff_mem.mpr hmem
    by_cases hnil : pre = []
    · rw [hnil] at hc; exact absurd hc (by decide)
    · rw [hp pre hpre hnil hne] at hc; cases hc
  · intro x hx' hmem
    have hc : nogoNames.contains x = true := List.contains_iff_mem.mpr hmem
    rw [hx x hx'] at hc; cases hc

/-- The same on the byte strings, for a tree whose entry names are clean path elements (not
    empty, no slash, not "." or ".." — what `Readdirnames` returns): an added name does not lie
    below a `DoNotTraverse` path, and none of its elements but the last is a `DoNotTraverse`
    name. -/
theorem walk_skips_nogo_paths (env : Env) (tree : Node) (m m' : EMap)
    (h : recoverMissingLinks env tree m = .ok m')
    (hclean : ∀ es, tree = .dir es → ∀ comps c, At es comps c → ∀ x ∈ comps, CleanName x) :
    ∀ n ∈ m'.names, n ∉ m.names →
      (∀ p ∈ nogoPaths, hasPrefix n (p ++ [SLASH]) = false) ∧
      (∀ x ∈ (pathComps n).dropLast, x ∉ nogoNames) := by
  intro n hn hnm
  obtain ⟨es, comps, tgt, he, hat, hj, hp, hx⟩ := walk_skips_nogo env tree m m' h n hn hnm
  have hc := hclean es he comps _ hat
  have hn' : n = absPath comps := by
    rw [hj]
    have := joinAll_absPath comps [] (by simp) hc
    rw [List.nil_append] at this
    exact this
  constructor
  · intro p hpm
    cases hpre : hasPrefix n (p ++ [SLASH]) with
    | false => rfl
    | true =>
      rw [hn'] at hpre
      obtain ⟨pre, h1, _, h3, h4⟩ := below_nogo_prefix comps hc p hpm hpre
      exact absurd (h4 ▸ hpm) (hp pre h1 h3)
  · rw [hn', pathComps_absPath comps hc]
    exact hx

/-! ### chains that are too long -/

theorem failing_chain_is_error (env : Env) (tree : Node) (m : EMap) (n tgt : Bytes) (f : Fault)
    (hv : Visits [SLASH] tree n (.symlink tgt)) (hn : n ∉ m.names)
    (hbad : ultimateTarget env n (inRoot env n) = .error f) :
    ∃ f', recoverMissingLinks env tree m = .error f' := by
  cases h : recoverMissingLinks env tree m with
  | error f => exact ⟨f, rfl⟩
  | ok m' =>
    -- a walk that succeeds has an answer for the chain of every non-member link it visits
    have hs := walkDir_spec _ _ _ _ _ h
    rcases hs.seen n tgt hv with h0 | ⟨t, hu, _⟩
    · obtain ⟨_, _, t, hu, _⟩ := (hs.added n h0).resolve_left hn
      rw [hbad] at hu; cases hu
    · rw [hbad] at hu; cases hu

/-- **A chain that is too long makes the whole walk fail.**  If the walk visits a symbolic link
    that is no member and from which `MaxSymlinkChain` hops all arrive at a symbolic link again
    (six or more links in a row, or a loop), `RecoverMissingLinks` returns an error — whatever
    else the tree holds. -/
theorem chain_too_long_is_error (env : Env) (tree : Node) (m : EMap) (n tgt : Bytes)
    (hv : Visits [SLASH] tree n (.symlink tgt)) (hn : n ∉ m.names)
    (hl : LinksAhead env n (inRoot env n) maxSymlinkChain) :
    ∃ f, recoverMissingLinks env tree m = .error f :=
  failing_chain_is_error env tree m n tgt _ hv hn (ultimateTarget_too_long hl)

/-! ### clean names -/

/-- **Recovered names are clean.**  Every name the walk adds is a clean absolute path
    (`path.Clean n = n`, leading slash).  No hypothesis on the tree: the walk forms its names
    with `path.Join` from "/". -/
theorem recovered_names_clean (env : Env) (tree : Node) (m m' : EMap)
    (h : recoverMissingLinks env tree m = .ok m') :
    ∀ n ∈ m'.names, n ∉ m.names → CleanAbs n := by
  intro n hn hnm
  obtain ⟨⟨_, _, _, _, hr⟩, _⟩ := ((walkDir_spec _ _ _ _ _ h).added n hn).resolve_left hnm
  exact hr.cleanAbs rfl

/-- hence the recovery keeps the invariant of `Lc.Props.C06.pipeline_names_clean` -/
theorem recovery_keeps_names_clean (env : Env) (tree : Node) (m m' : EMap)
    (h : recoverMissingLinks env tree m = .ok m') (hm : NamesClean m) : NamesClean m' := by
  intro n hn
  by_cases hnm : n ∈ m.names
  · exact hm n hnm
  · exact recovered_names_clean env tree m m' h n hn hnm

/-- **The candidates of the walk satisfy `StepClean`** — the assumption
    `Lc.Props.C06.parents_precede` makes about a `.recover` step holds for the candidate list
    of every tree. -/
theorem candidates_step_clean (env : Env) (tree : Node) : StepClean (.recover (candidates env tree)) := by
  intro c hc
  obtain ⟨_, _, _, _, hr⟩ := candsDir_visits _ _ _ c hc
  exact hr.cleanAbs rfl

/-! ### the walk as a pipeline step -/

/-- **The walk is `.recover` on its candidates.**  For a build root (a directory) without
    unreadable directories, in an environment where no symbolic link has an empty target, the
    walk with the member map threaded through equals `recoverAll` on the candidate list — the
    candidates (name, final target, failure) do not depend on the map. -/
theorem walk_eq_recoverAll (env : Env) (es : List (Bytes × Node)) (m : EMap)
    (hne : NoEmptyLink env) (hr : (Node.dir es).readable = true) :
    recoverMissingLinks env (.dir es) m = recoverAll env m (candidates env (.dir es)) :=
  walkDir_eq_recoverAll hne _ es (Nat.le_refl _) (by rw [Node.readable_dir] at hr; exact hr) _ m

/-- … so the pipeline step the harness emits is the walk -/
theorem recover_step_is_walk (env : Env) (es : List (Bytes × Node)) (s : St)
    (hne : NoEmptyLink env) (hr : (Node.dir es).readable = true) :
    runStep env s (.recover (candidates env (.dir es))) =
      (recoverMissingLinks env (.dir es) s.map).map fun m => { s with map := m } := by
  rw [walk_eq_recoverAll env es s.map hne hr]; rfl

/-! ### non-vacuity: concrete trees -/

/-- a build root: the eselect-style chain `/usr/bin/python -> python-exec2c ->
    ../lib/python-exec/python-exec2`; a relative target with `..` (`/usr/lib64/libz.so`); a
    link to a directory (`/usr/share/doc-link`); a dangling link; links in places the walk does
    not enter (`/var/db`, `/usr/portage`, any `tmp`/`cache`), among them a loop -/
def exTree : Node :=
  .dir [
    (b!"usr", .dir [
      (b!"bin", .dir [
        (b!"python", .symlink b!"python-exec2c"),
        (b!"python-exec2c", .symlink b!"../lib/python-exec/python-exec2"),
        (b!"dangling", .symlink b!"../nowhere/x"),
        (b!"sh", .file)]),
      (b!"lib", .dir [
        (b!"python-exec", .dir [(b!"python-exec2", .file)]),
        (b!"libz.so.1", .file)]),
      (b!"lib64", .dir [(b!"libz.so", .symlink b!"../../usr/lib/./libz.so.1")]),
      (b!"share", .dir [
        (b!"doc", .dir [(b!"README", .file)]),
        (b!"doc-link", .symlink b!"/usr/share/doc")]),
      (b!"portage", .dir [(b!"ln", .symlink b!"/usr/bin/sh")]),
      (b!"tmp", .dir [(b!"a", .symlink b!"b"), (b!"b", .symlink b!"a")])]),
    (b!"var", .dir [
      (b!"db", .dir [(b!"ln", .symlink b!"/usr/bin/sh")]),
      (b!"cache", .dir [(b!"ln", .symlink b!"/usr/bin/sh")]),
      (b!"tmp", .symlink b!"../usr/tmp")]),
    (b!"fifo", .other)]

def exEnv : Env := Env.ofTree b!"/r" exTree

def exMembers : EMap :=
  [{ ltype := ltFile, name := b!"/usr/lib/python-exec/python-exec2" },
   { ltype := ltFile, name := b!"/usr/lib/libz.so.1" },
   { ltype := ltDir, name := b!"/usr/share/doc" },
   { ltype := ltFile, name := b!"/usr/bin/sh" },
   { ltype := ltDir, name := b!"/usr/tmp" }]

/-- the walk adds the two links of the eselect chain, the `..` link, the link to the directory
    and `/var/tmp` (a link NAMED `tmp` is looked at; a directory named `tmp` is not entered);
    not the dangling link, nothing from `/usr/portage`, `/var/db`, `cache`, `tmp` -/
example : (recoverMissingLinks exEnv exTree exMembers).map EMap.names =
    .ok [b!"/usr/lib/python-exec/python-exec2", b!"/usr/lib/libz.so.1", b!"/usr/share/doc",
         b!"/usr/bin/sh", b!"/usr/tmp",
         b!"/usr/bin/python", b!"/usr/bin/python-exec2c", b!"/usr/lib64/libz.so",
         b!"/usr/share/doc-link", b!"/var/tmp"] := by decide +kernel

example : exTree.size = 29 := by decide +kernel
example : (Node.dir [(b!"a", .unreadable)]).readable = false ∧ exTree.readable = true := by decide +kernel

/-- the candidate list of that tree: name, final target, failure -/
example : (candidates exEnv exTree).map (fun c => (c.name, c.target, c.tooLong)) =
    [(b!"/usr/bin/python", b!"/usr/lib/python-exec/python-exec2", false),
     (b!"/usr/bin/python-exec2c", b!"/usr/lib/python-exec/python-exec2", false),
     (b!"/usr/bin/dangling", b!"/usr/nowhere/x", false),
     (b!"/usr/lib64/libz.so", b!"/usr/lib/libz.so.1", false),
     (b!"/usr/share/doc-link", b!"/usr/share/doc", false),
     (b!"/var/tmp", b!"/usr/tmp", false)] := by decide +kernel

/-- the eselect chain takes two hops from `/usr/bin/python`, one from `python-exec2c` -/
example : ultimateTarget exEnv b!"/usr/bin/python" b!"/r/usr/bin/python" =
    .ok b!"/usr/lib/python-exec/python-exec2" := by decide +kernel
example : Chain exEnv b!"/usr/bin/python" b!"/r/usr/bin/python" 2 b!"/usr/lib/python-exec/python-exec2" :=
  Chain.hop (c := 112) (rest := b!"ython-exec2c") (by decide) (by decide)
    (Chain.last (c := 46) (rest := b!"./lib/python-exec/python-exec2") (by decide) (by decide))

theorem exTree_hyps : NoEmptyLink exEnv ∧ exTree.readable = true :=
  ⟨noEmptyLink_of_tree _ _ (by decide), by decide +kernel⟩

/-- `walk_eq_recoverAll` on the example: its hypotheses hold, both sides are the same -/
example : NoEmptyLink exEnv ∧ exTree.readable = true := exTree_hyps
example : recoverMissingLinks exEnv exTree exMembers = recoverAll exEnv exMembers (candidates exEnv exTree) :=
  walk_eq_recoverAll exEnv _ exMembers exTree_hyps.1 exTree_hyps.2

/-- a loop `a -> b -> a` where the walk goes: the whole walk fails … -/
def exLoop : Node := .dir [(b!"etc", .dir [(b!"a", .symlink b!"b"), (b!"b", .symlink b!"a")])]
example : recoverMissingLinks (Env.ofTree b!"/r" exLoop) exLoop exMembers = Res.err "stage" := by decide +kernel
example : LinksAhead (Env.ofTree b!"/r" exLoop) b!"/etc/a" b!"/r/etc/a" maxSymlinkChain := by
  have ha : ∀ k, LinksAhead (Env.ofTree b!"/r" exLoop) b!"/etc/a" b!"/r/etc/a" k ∧
      LinksAhead (Env.ofTree b!"/r" exLoop) b!"/etc/b" b!"/r/etc/b" k := by
    intro k
    induction k with
    | zero => exact ⟨.zero, .zero⟩
    | succ k ih =>
      exact ⟨LinksAhead.succ (c := 98) (rest := []) (by decide) (by decide) ih.2,
             LinksAhead.succ (c := 97) (rest := []) (by decide) (by decide) ih.1⟩
  exact (ha _).1
example : Visits [SLASH] exLoop b!"/etc/a" (.symlink b!"b") :=
  ⟨_, rfl, by decide,
    Reach.deeper (mt := b!"etc") (es' := [(b!"a", .symlink b!"b"), (b!"b", .symlink b!"a")])
      List.mem_cons_self (by decide) (by decide) (Reach.here (mt := b!"a") List.mem_cons_self)⟩
/-- … unless the links of the loop are members already (they are skipped before the chain is
    looked at) -/
example : (recoverMissingLinks (Env.ofTree b!"/r" exLoop) exLoop
    [{ ltype := ltSymlink, name := b!"/etc/a" }, { ltype := ltSymlink, name := b!"/etc/b" }]).isOk = true := by
  decide +kernel

/-! #### the exact bound: `MaxSymlinkChain` = 5 links resolve, 6 do not -/

/-- `l1 -> l2 -> … -> lN -> f` in one directory -/
def chainDir (links : List (Bytes × Bytes)) : Node :=
  .dir [(b!"d", .dir (links.map (fun lt => (lt.1, Node.symlink lt.2)) ++ [(b!"f", .file)]))]

def exFive : Node :=
  chainDir [(b!"l1", b!"l2"), (b!"l2", b!"l3"), (b!"l3", b!"l4"), (b!"l4", b!"l5"), (b!"l5", b!"f")]
def exSix : Node :=
  chainDir [(b!"l0", b!"l1"), (b!"l1", b!"l2"), (b!"l2", b!"l3"), (b!"l3", b!"l4"), (b!"l4", b!"l5"),
            (b!"l5", b!"f")]
def exF : EMap := [{ ltype := ltFile, name := b!"/d/f" }]

/-- at the bound: five links in a row resolve, from the first one on -/
example : ultimateTarget (Env.ofTree b!"/r" exFive) b!"/d/l1" b!"/r/d/l1" = .ok b!"/d/f" := by decide +kernel
example : (recoverMissingLinks (Env.ofTree b!"/r" exFive) exFive exF).map EMap.names =
    .ok [b!"/d/f", b!"/d/l1", b!"/d/l2", b!"/d/l3", b!"/d/l4", b!"/d/l5"] := by decide +kernel
/-- one past it: from `l0` there are six; the call fails, and with it the whole walk, although
    `l1` … `l5` on their own would resolve -/
example : ultimateTarget (Env.ofTree b!"/r" exSix) b!"/d/l0" b!"/r/d/l0" = Res.err "stage" := by decide +kernel
example : ultimateTarget (Env.ofTree b!"/r" exSix) b!"/d/l1" b!"/r/d/l1" = .ok b!"/d/f" := by decide +kernel
example : recoverMissingLinks (Env.ofTree b!"/r" exSix) exSix exF = Res.err "stage" := by decide +kernel

/-- an empty link target is the panic `target[0]` (not an error return) -/
example : ultimateTarget (Env.ofTree b!"/r" (.dir [(b!"e", .symlink [])])) b!"/e" b!"/r/e" = Res.panic := by
  decide +kernel
/-- a directory that cannot be listed is an error of the walk; one below `/proc` is never opened -/
example : recoverMissingLinks exEnv (.dir [(b!"x", .unreadable)]) [] = Res.err "stage" ∧
    recoverMissingLinks exEnv (.dir [(b!"proc", .dir [(b!"1", .unreadable)])]) [] = .ok [] := by decide +kernel
/-- absolute targets are NOT cleaned before the lookup in the member map (relative ones are, by
    `path.Join`): `/usr/bin/sh2 -> /usr//bin/sh` and `/usr/doc2 -> /usr/doc/` are not added
    although `/usr/bin/sh` and `/usr/doc` are members; their relative spellings are.  (Seen
    with the real stagemaker as well; reported, not repaired.) -/
example :
    let t : Node := .dir [(b!"usr", .dir [
      (b!"bin", .dir [(b!"sh", .file), (b!"sh2", .symlink b!"/usr//bin/sh"), (b!"sh3", .symlink b!"../bin//sh")]),
      (b!"doc", .dir []), (b!"doc2", .symlink b!"/usr/doc/"), (b!"doc3", .symlink b!"doc/")])]
    (recoverMissingLinks (Env.ofTree b!"/r" t) t
        [{ ltype := ltFile, name := b!"/usr/bin/sh" }, { ltype := ltDir, name := b!"/usr/doc" }]).map EMap.names =
      .ok [b!"/usr/bin/sh", b!"/usr/doc", b!"/usr/bin/sh3", b!"/usr/doc3"] := by decide +kernel

end Lc.Props.C06Links
