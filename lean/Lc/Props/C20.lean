/-
  C20 — concurrent layercake invocations leave a serially explainable mount table.
  The property is FALSE for the code as it is (there is no lock between reading the mount
  table and mounting): recorded finding `no-lock-between-check-and-mount`.  Proved here,
  over the interleaving model Lc/Model/Concurrent.lean:
  * the negation, with concrete schedules for mount/mount and mount/umount (kept in the
    corpus and replayed against the real code on every run), and that one later umount
    removes the stacked mounts;
  * what does hold for EVERY schedule: a process mounts a target only if its own last
    reading of the table did not show it (so stacking needs a stale reading), one turn
    changes the table by at most one mount, and a reading is an exact snapshot; without
    interference a process that finds its target mounted issues no mount;
  * single steps of `chroot` (no further kernel interaction if the table just read shows
    the layer's mounts, otherwise it goes on as `mount` does) and of `umount -all` (a layer
    with a child's overlay is skipped and the command fails, a layer of which the first
    reading showed no mount is passed over).
-/
import Lc.Model.Concurrent
import Lc.Lemmas.Ite

namespace Lc.Props.C20
open Lc Lc.Concurrent

def t1 : Bytes := b!"/VB/layers/b0/build/mnt/a"

/-- The full statement fails: schedule probe₀ probe₁ mount₀ mount₁ stacks two mounts on one
    mountpoint, which no serial order of the two commands produces. -/
theorem c20_counterexample :
    (run [] (mountActs [t1]) (mountActs [t1]) [false, true, false, true]).kernel = [t1, t1] ∧
    (serial01 [] (mountActs [t1]) (mountActs [t1])).kernel = [t1] ∧
    (serial10 [] (mountActs [t1]) (mountActs [t1])).kernel = [t1] := by
  decide +kernel

/-- mount/umount: a umount that read the table before the concurrent mount finished leaves
    a partly mounted layer, again not serially explainable -/
theorem c20_counterexample_mount_umount :
    (run [t1] (mountActs [t1, b!"/VB/layers/b0/build/mnt/b"]) (umountActs b!"/VB/layers/b0/build")
        [false, true, false, true]).kernel = [b!"/VB/layers/b0/build/mnt/b"] ∧
    (serial01 [t1] (mountActs [t1, b!"/VB/layers/b0/build/mnt/b"]) (umountActs b!"/VB/layers/b0/build")).kernel = [] ∧
    (serial10 [t1] (mountActs [t1, b!"/VB/layers/b0/build/mnt/b"]) (umountActs b!"/VB/layers/b0/build")).kernel
      = [t1, b!"/VB/layers/b0/build/mnt/b"] := by
  decide +kernel

/-- with the fix 8d11829 (stacked mounts are listed individually) one later umount does
    remove both stacked mounts of the counterexample -/
theorem later_umount_cleans_counterexample :
    (serial01 [t1, t1] (umountActs b!"/VB/layers/b0/build") []).kernel = [] := by
  decide +kernel

/-- a reading of the table is an exact snapshot -/
theorem probe_is_snapshot (fuel : Nat) (p : Proc) (rest : List Act) (k : List Bytes)
    (h : p.pending = .probe :: rest) :
    turn (fuel + 1) p k = ({ p with cache := k, pending := rest }, k) := by
  simp [turn, h]

/-- The three things a turn can do to the table, as a rule for proving `Q` of its result: the
    recursive calls change `pending` and `busy` only, so the cache `c` is the same throughout. -/
theorem turn_cases {Q : Proc × List Bytes → Prop} {c k : List Bytes}
    (same : ∀ p, Q (p, k)) (mount : ∀ p t, c.contains t = false → Q (p, k ++ [t]))
    (umount : ∀ p t k', removeLast t k = some k' → Q (p, k')) :
    ∀ (fuel : Nat) (p : Proc), p.cache = c → Q (turn fuel p k) := by
  intro fuel
  induction fuel with
  | zero => exact fun p _ => same p
  | succ n ih =>
    intro p hc
    unfold turn
    cases p.pending with
    | nil => exact same _
    | cons a rest =>
      cases a with
      | probe => exact same _
      | ensure t =>
        dsimp only
        by_cases ht : p.cache.contains t = true
        · rw [if_pos ht]; exact ih _ hc
        · rw [if_neg ht]; exact mount _ t (by rw [← hc]; simpa using ht)
      | planUmount pre => exact ite_ind (same _) (ih _ hc)
      | failIfCached t => exact ite_ind (same _) (ih _ hc)
      | doneIfCached ts => exact ite_ind (same _) (ih _ hc)
      | probe0 => exact same _
      | allLayer pre kids => exact ite_ind (ih _ hc) (ite_ind (ih _ hc) (ih _ hc))
      | failIfBusy => exact ite_ind (same _) (ih _ hc)
      | umount t =>
        refine ite_ind (same _) ?_
        cases hk : removeLast t k with
        | some k' => exact umount _ t k' hk
        | none => exact same _

/-- For EVERY process state and table: in one turn the table is left alone, or exactly one
    target is mounted — and then the process's cache did not contain it — or exactly one
    mount is removed, or the process gives up.  Stacking therefore requires a stale cache. -/
theorem turn_effect (fuel : Nat) (p : Proc) (k : List Bytes) :
    let r := turn fuel p k
    r.2 = k ∨ (∃ t, r.2 = k ++ [t] ∧ p.cache.contains t = false) ∨ (∃ t, removeLast t k = some r.2) :=
  turn_cases (Q := fun r => r.2 = k ∨ (∃ t, r.2 = k ++ [t] ∧ p.cache.contains t = false) ∨
      ∃ t, removeLast t k = some r.2)
    (fun _ => .inl rfl) (fun _ t ht => .inr (.inl ⟨t, rfl, ht⟩)) (fun _ t _ hk => .inr (.inr ⟨t, hk⟩))
    fuel p rfl

/-- a process never mounts what its own cache shows as mounted -/
theorem ensure_skips_cached (fuel : Nat) (p : Proc) (t : Bytes) (rest : List Act) (k : List Bytes)
    (hp : p.pending = .ensure t :: rest) (hc : p.cache.contains t = true) :
    turn (fuel + 1) p k = turn fuel { p with pending := rest } k := by
  have hm : t ∈ p.cache := by simpa using hc
  simp [turn, hp, hm]

/-- without interference the check is sound: a process that reads the table, finds its
    target mounted and re-reads afterwards issues no mount at all (two turns: the reading,
    then — the ensure being skipped — the closing reading) -/
theorem fresh_cache_no_mount (fuel : Nat) (p : Proc) (t : Bytes) (rest : List Act) (k : List Bytes)
    (hp : p.pending = .probe :: .ensure t :: .probe :: rest) (hk : k.contains t = true) :
    (turn (fuel + 2) (turn (fuel + 1) p k).1 (turn (fuel + 1) p k).2).2 = k := by
  have hm : t ∈ k := by simpa using hk
  simp [turn, hp, hm]

/-- chroot into a layer whose own mounts the freshly read table all shows performs no further
    kernel interaction at all: no mount call and no second reading (two turns leave the table
    as it is and the process finished) -/
theorem chroot_mounted_no_mount (fuel : Nat) (p : Proc) (layers : List (List Bytes)) (k : List Bytes)
    (hp : p.pending = chrootChainActs layers) (hk : ∀ x, x ∈ layers.getLast?.getD [] → x ∈ k) :
    (turn (fuel + 2) (turn (fuel + 1) p k).1 k).2 = k ∧
    (turn (fuel + 2) (turn (fuel + 1) p k).1 k).1.pending = [] := by
  rw [probe_is_snapshot fuel p _ k hp]
  have hc : (∀ x, x ∈ layers.getLast?.getD [] → x ∈ k) = True := eq_true hk
  simp [turn, hc]

/-- chroot into a layer that the freshly read table does NOT show fully mounted continues
    exactly as `mount` of the same chain does after its first reading of the table: same
    kernel interactions, same final process state (Layerdefs.Chroot → Layerdefs.Mount) -/
theorem chroot_unmounted_as_mount (fuel : Nat) (p q : Proc) (layers : List (List Bytes)) (k : List Bytes)
    (hp : p.pending = chrootChainActs layers) (hq : q.pending = mountChainActs layers)
    (hf : q.failed = p.failed) (hs : q.snap = p.snap) (hb : q.busy = p.busy)
    (hk : ¬ ∀ x, x ∈ layers.getLast?.getD [] → x ∈ k) :
    turn (fuel + 2) (turn (fuel + 1) p k).1 k = turn (fuel + 1) (turn (fuel + 1) q k).1 k := by
  rw [probe_is_snapshot fuel p _ k hp, probe_is_snapshot fuel q _ k hq]
  have hc : (∀ x, x ∈ layers.getLast?.getD [] → x ∈ k) = False := eq_false hk
  conv => lhs; unfold turn
  simp [hc, hf, hs, hb]

/-- `umount -all` skips a layer on which the latest reading of the table shows a child's
    overlay: no unmount call for it, no kernel interaction, the command is marked busy -/
theorem allLayer_busy_skipped (fuel : Nat) (p : Proc) (pre : Bytes) (kids : List Bytes) (rest : List Act)
    (k : List Bytes) (hp : p.pending = .allLayer pre kids :: rest)
    (hk : kids.any p.cache.contains = true) :
    turn (fuel + 1) p k = turn fuel { p with pending := rest, busy := true } k := by
  simp only [turn, hp]
  rw [if_pos hk]

/-- … and a layer of which the FIRST reading showed no mount is passed over without any
    kernel interaction either (its list of mounts is not refreshed: a mount another process
    made meanwhile is left alone — and the race of finding `no-lock-between-check-and-mount`
    is exactly that such a mount can appear after the check) -/
theorem allLayer_unmounted_passed (fuel : Nat) (p : Proc) (pre : Bytes) (kids : List Bytes) (rest : List Act)
    (k : List Bytes) (hp : p.pending = .allLayer pre kids :: rest)
    (hk : kids.any p.cache.contains = false) (hs : p.snap.filter (atOrBelow pre) = []) :
    turn (fuel + 1) p k = turn fuel { p with pending := rest } k := by
  simp [turn, hp, hk, hs, sortBy]

/-- a command that skipped a busy layer ends in failure without touching the table -/
theorem failIfBusy_fails (fuel : Nat) (p : Proc) (rest : List Act) (k : List Bytes)
    (hp : p.pending = .failIfBusy :: rest) (hb : p.busy = true) :
    turn (fuel + 1) p k = ({ p with pending := [], failed := true }, k) := by
  simp [turn, hp, hb]

end Lc.Props.C20
