/-
  C02 — the layer hierarchy stays a well-formed forest and every command terminates
  (the parts carried by the command model's guards, the cycle check and normalizeOrder).

  1. `*_rejects_*` (rejected_unchanged): each rejection reason named by the property makes
     the command return an `error` (never a panic) with the world exactly as it was —
     for EVERY configuration, layer table, argument and world.
  2. `normalize_fuel`: a table accepted by checkInheritance never exhausts the key builder
     of normalizeOrder and never dereferences a missing base.
  3. `ancestor_precedes`: in the normalized order every ancestor stands before its
     descendants.
  4. `list_total`: FindLayers never panics.
  5. the invariant `WF` (Lemmas/ForestInv.lean): unique legal names, every parent exists,
     no layer its own ancestor, `order` = the normalized order.  `add_preserves_WF`,
     `remove_preserves_WF`, `rename_preserves_WF`, `rebase_preserves_WF`: a command that
     returns normally — from ANY world, whatever faults, crash points or pretend switch
     are set — returns a well-formed table, and the table differs from the old one exactly
     as the command says.  `reachable_WF`: after any sequence of commands.
  6. `findLayers_WF_partial`, `getLayers_WF_partial`, `run_WF_partial`: the table an
     invocation reads from the disk is well-formed (hypothesis: the listing of the layers
     directory has no name twice), and so is what the invocation returns.
  7. the tree invariant `TreeWF` (Lemmas/TreeWF.lean, TreeKeeps.lean): `children_nodup`
     discharges that hypothesis (`findLayers_WF`, `getLayers_WF`, `run_WF`); `run_keeps_treeWF`:
     every command except mount / chroot keeps it, any world, any exit.
  8. the forest ON DISK (Lemmas/DiskView.lean, DiskForest.lean, DiskCmd.lean):
     `disk_forest_after_run`, `disk_inv_after_run`, `disk_forest_after_rename`,
     `disk_forest_reachable`, `disk_reach_inv` — after any sequence of init / add / remove /
     rebase / mkdirs / list invocations (any exit, any fault / crash / pretend setting) and of
     renames that return normally, the installation can be listed and the table read is `WF`.
-/
import Lc.Lemmas.Prefix
import Lc.Lemmas.RunM
import Lc.Lemmas.Forest
import Lc.Lemmas.ForestInv
import Lc.Lemmas.ForestCmd
import Lc.Lemmas.TreeWF
import Lc.Lemmas.TreeKeeps
import Lc.Lemmas.DiskCmd

namespace Lc.Props.C02
open Lc Lc.Layers Lc.RunM Lc.Forest

/-- the command was refused with error class `c` and nothing happened -/
def RefusedWith {α} (r : Except Fault α × World) (w : World) (c : String) : Prop :=
  r = (.error (.err c), w)

/-- refused with one of the listed classes, nothing happened -/
def Refused {α} (r : Except Fault α × World) (w : World) (classes : List String) : Prop :=
  ∃ c, c ∈ classes ∧ r = (.error (.err c), w)

/-! ### 1. rejected commands change nothing -/

/-- **add**: empty, illegal or already used name -/
theorem add_rejects_name (cfg : Config) (d : Defs) (name base cf : Bytes) (w : World)
    (h : name = [] ∨ isLegalLayerName name = false ∨ (findLayer d name).isSome = true) :
    RefusedWith ((addLayer cfg d name base cf).run.run w) w "name" := by
  unfold RefusedWith addLayer
  exact testName_refuses d _ _ w (by simp only [List.all_cons, not_free d name h, Bool.false_and])

/-- **add**: a parent is named but is illegal or does not exist -/
theorem add_rejects_parent (cfg : Config) (d : Defs) (name base cf : Bytes) (w : World)
    (hb : base ≠ []) (h : isLegalLayerName base = false ∨ findLayer d base = none) :
    RefusedWith ((addLayer cfg d name base cf).run.run w) w "name" := by
  unfold RefusedWith addLayer
  exact testName_refuses d _ _ w (by simp only [List.all_cons, not_optneed d base hb h, Bool.false_and, Bool.and_false])

/-- **rename**: the source is missing (or its name empty / illegal) -/
theorem rename_rejects_source (cfg : Config) (d : Defs) (old new : Bytes) (co : List Bytes) (w : World)
    (h : old = [] ∨ isLegalLayerName old = false ∨ findLayer d old = none) :
    RefusedWith ((renameLayer cfg d old new co).run.run w) w "name" := by
  unfold RefusedWith renameLayer
  exact testName_refuses d _ _ w (by simp only [List.all_cons, not_need d old h, Bool.false_and])

/-- **rename**: the new name is empty, illegal or already used -/
theorem rename_rejects_newname (cfg : Config) (d : Defs) (old new : Bytes) (co : List Bytes) (w : World)
    (h : new = [] ∨ isLegalLayerName new = false ∨ (findLayer d new).isSome = true) :
    RefusedWith ((renameLayer cfg d old new co).run.run w) w "name" := by
  unfold RefusedWith renameLayer
  exact testName_refuses d _ _ w (by simp only [List.all_cons, not_free d new h, Bool.false_and, Bool.and_false])

/-- **rebase**: the layer is missing -/
theorem rebase_rejects_missing (cfg : Config) (d : Defs) (name nb : Bytes) (w : World)
    (h : name = [] ∨ isLegalLayerName name = false ∨ findLayer d name = none) :
    RefusedWith ((rebaseLayer cfg d name nb).run.run w) w "name" :=
  ForestCmd.rebaseLayer_missing cfg d name nb w h

/-- **rebase**: the new parent is named but illegal or missing -/
theorem rebase_rejects_parent (cfg : Config) (d : Defs) (name nb : Bytes) (w : World)
    (hb : nb ≠ []) (h : isLegalLayerName nb = false ∨ findLayer d nb = none) :
    RefusedWith ((rebaseLayer cfg d name nb).run.run w) w "name" := by
  unfold RefusedWith rebaseLayer
  exact testName_refuses d _ _ w
    (by simp only [List.all_cons, Nat.add_comm NAME_NEED, not_optneed d nb hb h, Bool.false_and, Bool.and_false])

theorem check_fails (d : Defs) (l : Layer) (n k : Bytes) (hl : findLayer d n = some l)
    (h : ∀ fuel, chainOk (setLayer d { l with base := k }).layers fuel [n] k = false) :
    checkInheritance (setLayer d { l with base := k }).layers = false := by
  obtain rfl := (ForestInv.findLayer_mem hl).2
  refine Bool.eq_false_iff.mpr (fun hc => ?_)
  unfold checkInheritance at hc
  have := (h _).symm.trans (List.all_eq_true.mp hc _ (mem_setLayer d l { l with base := k } l.name hl rfl))
  cases this

/-- rebasing a layer onto itself closes a cycle: the check on the modified table fails -/
theorem self_base_is_cycle (d : Defs) (l : Layer) (n : Bytes) (hn : n ≠ [])
    (hl : findLayer d n = some l) :
    checkInheritance (setLayer d { l with base := n }).layers = false :=
  check_fails d l n n hl (fun fuel =>
    chainOk_self d l { l with base := n } n hn hl (ForestInv.findLayer_mem hl).2 fuel [n] (List.mem_singleton.mpr rfl))

/-- rebasing a layer onto one of its descendants closes a cycle -/
theorem descendant_base_is_cycle (d : Defs) (l : Layer) (n k : Bytes) (hn : n ≠ [])
    (hl : findLayer d n = some l) (hd : Desc d.layers n k) :
    checkInheritance (setLayer d { l with base := k }).layers = false :=
  check_fails d l n k hl (fun fuel =>
    chainOk_cycle d l { l with base := k } n hn hl (ForestInv.findLayer_mem hl).2 k hd fuel [n] (List.mem_singleton.mpr rfl))

/-- outcome of rebase once the modified table fails the cycle check -/
theorem rebase_rejects_of_cycle (cfg : Config) (d : Defs) (name nb : Bytes) (w : World) (l : Layer)
    (hl : findLayer d name = some l)
    (hc : checkInheritance (setLayer d { l with base := nb }).layers = false) :
    Refused ((rebaseLayer cfg d name nb).run.run w) w ["name", "errorstate", "busy", "orphan"] := by
  unfold Refused rebaseLayer testName getL errorIfError errorIfBusy fail
  simp only [hl, hc, run_bind, run_ite, run_pure, run_throw]
  by_cases h1 : (List.all [(name, NAME_NEED), (nb, NAME_NEED + NAME_OPTIONAL)] fun t => testName1 d t.fst t.snd) = true <;>
    by_cases h2 : l.state = S_error <;> by_cases h3 : isBusy l true = true <;> simp [h1, h2, h3]

/-- **rebase onto itself** is rejected, nothing changes (and, the layer being idle and
    sound, the class is "orphan") -/
theorem rebase_rejects_self (cfg : Config) (d : Defs) (name : Bytes) (w : World) (l : Layer)
    (hn : name ≠ []) (hl : findLayer d name = some l) :
    Refused ((rebaseLayer cfg d name name).run.run w) w ["name", "errorstate", "busy", "orphan"] :=
  rebase_rejects_of_cycle cfg d name name w l hl (self_base_is_cycle d l name hn hl)

/-- **rebase onto a descendant** (any depth) is rejected, nothing changes -/
theorem rebase_rejects_descendant (cfg : Config) (d : Defs) (name nb : Bytes) (w : World) (l : Layer)
    (hn : name ≠ []) (hl : findLayer d name = some l) (hd : Desc d.layers name nb) :
    Refused ((rebaseLayer cfg d name nb).run.run w) w ["name", "errorstate", "busy", "orphan"] :=
  rebase_rejects_of_cycle cfg d name nb w l hl (descendant_base_is_cycle d l name nb hn hl hd)

/-- **remove**: the layer is missing -/
theorem remove_rejects_missing (cfg : Config) (d : Defs) (name : Bytes) (files : Bool) (w : World)
    (h : name = [] ∨ isLegalLayerName name = false ∨ findLayer d name = none) :
    RefusedWith ((removeLayer cfg d name files).run.run w) w "name" :=
  ForestCmd.removeLayer_missing cfg d name files w h

/-- **remove**: the layer has children -/
theorem remove_rejects_parent (cfg : Config) (d : Defs) (name : Bytes) (files : Bool) (w : World)
    (l k : Layer) (hl : findLayer d name = some l) (hk : k ∈ d.layers) (hkb : k.base = name) :
    Refused ((removeLayer cfg d name files).run.run w) w ["name", "errorstate", "haschild"] := by
  have hc : hasChild d name = true := by
    unfold hasChild; rw [List.any_eq_true]; exact ⟨k, hk, by simp [hkb]⟩
  unfold Refused removeLayer testName getL errorIfError fail
  simp only [hl, hc, run_bind, run_ite, run_pure, run_throw]
  by_cases h1 : testName1 d name NAME_NEED = true <;> by_cases h2 : l.state = S_error <;> simp [h1, h2]

/-! ### 2. normalizeOrder never runs out of fuel -/

/-- every key of an accepted table is defined -/
theorem keys_defined (layers : List Layer) (h : checkInheritance layers = true) (l : Layer)
    (hl : l ∈ layers) : (sortKey layers (layers.length + 1) l.base l.name).isSome = true := by
  unfold checkInheritance at h
  exact chainOk_sortKey layers _ _ _ _ (List.all_eq_true.mp h l hl)

/-- **normalize_fuel**: on a table that passes checkInheritance, normalizeOrder returns an
    order (the sort-key walk neither exhausts its fuel `#layers + 1` — in Go: it terminates —
    nor dereferences a missing base — in Go: no nil-pointer panic). -/
theorem normalize_fuel (layers : List Layer) (h : checkInheritance layers = true) :
    ∃ order, normalizeOrder layers = .ok order :=
  normalizeOrder_of_check layers h

/-! ### 3. parents first -/

/-- the order is a permutation of the layer names: nothing lost, nothing invented -/
theorem order_perm (layers : List Layer) (order : List Bytes)
    (h : normalizeOrder layers = .ok order) : order.Perm (layers.map (·.name)) :=
  Forest.order_perm layers order h

/-- … so with unique layer names every name occurs exactly once -/
theorem order_nodup (layers : List Layer) (order : List Bytes)
    (h : normalizeOrder layers = .ok order) (hu : (layers.map (·.name)).Nodup) : order.Nodup :=
  (order_perm layers order h).nodup_iff.mpr hu

/-- `a` is a proper ancestor of `c`: reachable from `c` by following base links through
    the table (each link resolved by name lookup, as the Go code does).  `Forest.Desc` is the
    same walk between names instead of records, from a name up to a name; the cycle theorems
    use it because they speak of a table in which the record under a name has just been
    replaced. -/
inductive Ancestor (layers : List Layer) : Layer → Layer → Prop where
  | parent (c p : Layer) : c ∈ layers → c.base ≠ [] →
      layers.find? (·.name == c.base) = some p → Ancestor layers p c
  | trans (a p c : Layer) : Ancestor layers a p → c ∈ layers → c.base ≠ [] →
      layers.find? (·.name == c.base) = some p → Ancestor layers a c

/-- the key of an ancestor is a proper prefix of the key of the descendant -/
theorem ancestor_key_prefix (layers : List Layer)
    (hk : ∀ l ∈ layers, (sortKey layers (layers.length + 1) l.base l.name).isSome = true)
    (a c : Layer) (h : Ancestor layers a c) :
    a ∈ layers ∧ c ∈ layers ∧ ∃ ka s, s ≠ [] ∧
      sortKey layers (layers.length + 1) a.base a.name = some ka ∧
      sortKey layers (layers.length + 1) c.base c.name = some (ka ++ s) := by
  induction h with
  | parent c p hc hb hp =>
    have hpm : p ∈ layers := List.mem_of_find?_eq_some hp
    obtain ⟨kc, hkc⟩ := Option.isSome_iff_exists.mp (hk c hc)
    obtain ⟨kp, hkp, e⟩ := key_child layers layers.length c p kc hb hp hkc
    exact ⟨hpm, hc, kp, 47 :: c.name, by simp, hkp, by rw [hkc, e]⟩
  | trans a p c _ hc hb hp ih =>
    obtain ⟨ham, _, ka, s, hs, hka, hkp'⟩ := ih
    obtain ⟨kc, hkc⟩ := Option.isSome_iff_exists.mp (hk c hc)
    obtain ⟨kp, hkp, e⟩ := key_child layers layers.length c p kc hb hp hkc
    rw [hkp'] at hkp
    injection hkp with hkp
    refine ⟨ham, hc, ka, s ++ 47 :: c.name, by simp, hka, ?_⟩
    rw [hkc, e, ← hkp, List.append_assoc]

/-- **ancestor_precedes**: in the order computed by normalizeOrder every proper ancestor of
    a layer stands before it (so parents are probed, mounted, listed before children).
    No hypothesis on the names is needed: the parent's key is a proper prefix of the
    child's (`prefix_lt`), whatever bytes the names contain; with unique names
    (`order_nodup`) "before" is unambiguous. -/
theorem ancestor_precedes (layers : List Layer) (order : List Bytes)
    (h : normalizeOrder layers = .ok order) (a c : Layer) (hac : Ancestor layers a c) :
    Before order a.name c.name := by
  obtain ⟨hk, ho⟩ := normalizeOrder_ok layers order h
  obtain ⟨ham, hcm, ka, s, hs, hka, hkc⟩ := ancestor_key_prefix layers hk a c hac
  have hsorted := sortBy_sorted keyLt
    (fun x y hxy => bytesLt_asymm hxy) (fun x y z h1 h2 => bytesLt_trans h1 h2) (keyed layers)
  have hma : (a.name, some ka) ∈ sortBy keyLt (keyed layers) := by
    rw [mem_sortBy]; unfold keyed
    exact List.mem_map.mpr ⟨a, ham, by rw [hka]⟩
  have hmc : (c.name, some (ka ++ s)) ∈ sortBy keyLt (keyed layers) := by
    rw [mem_sortBy]; unfold keyed
    exact List.mem_map.mpr ⟨c, hcm, by rw [hkc]⟩
  have hlt : keyLt (a.name, some ka) (c.name, some (ka ++ s)) = true := prefix_lt ka s hs
  obtain ⟨l1, l2, e, hb⟩ := sorted_lt_before keyLt (fun x => bytesLt_irrefl _) hsorted hma hmc hlt
  refine ⟨l1.map (·.1), l2.map (·.1), ?_, ?_⟩
  · rw [ho, e]; simp
  · exact List.mem_map.mpr ⟨_, hb, rfl⟩

/-- the direct-parent case in the words of the property -/
theorem parent_precedes (layers : List Layer) (order : List Bytes)
    (h : normalizeOrder layers = .ok order) (c p : Layer) (hc : c ∈ layers) (hb : c.base ≠ [])
    (hp : layers.find? (·.name == c.base) = some p) : Before order c.base c.name := by
  have := ancestor_precedes layers order h p c (Ancestor.parent c p hc hb hp)
  rwa [ForestInv.find_name hp] at this

/-! ### 4. listing is total -/

/-- **list_total**: FindLayers on ANY world returns the layer table or an error, never a
    panic; and it only reads. -/
theorem list_total (cfg : Config) (w : World) :
    ((findLayers cfg).run.run w).1 ≠ .error Fault.panic ∧ ((findLayers cfg).run.run w).2 = w := by
  rw [ForestCmd.findLayers_run]
  refine ⟨?_, rfl⟩
  show (if _ then if _ then _ else _ else _) ≠ _
  split
  · split
    · rename_i h2
      obtain ⟨o, ho⟩ := normalize_fuel _ h2
      rw [ho]
      intro h; cases h
    · intro h; cases h
  · intro h; cases h

/-! ### non-vacuity: a three-level forest  a ← b ← c,  plus a root whose name sorts first -/

def exCfg : Config :=
  { basepath := b!"/lc", layerdirs := b!"/lc/layers", buildRoot := b!"build", binPkg := b!"packages",
    generated := b!"generated", workdir := b!"overlayfs/workdir", upperdir := b!"overlayfs/upperdir",
    exportdirs := b!"/lc/exports", exportBinPkg := b!"packages", exportGenerated := b!"generated" }

def exA : Layer := { name := b!"m", layerPath := b!"/lc/layers/m" }
def exB : Layer := { name := b!"b", base := b!"m", layerPath := b!"/lc/layers/b" }
def exC : Layer := { name := b!"a", base := b!"b", layerPath := b!"/lc/layers/a" }
def exR : Layer := { name := b!"0", layerPath := b!"/lc/layers/0" }
/-- deliberately stored children-first -/
def exLayers : List Layer := [exC, exB, exR, exA]
def exD : Defs := { layers := exLayers }

example : checkInheritance exLayers = true := by decide
example : normalizeOrder exLayers = .ok [b!"0", b!"m", b!"b", b!"a"] := rfl
example : Ancestor exLayers exA exC :=
  Ancestor.trans exA exB exC (Ancestor.parent exB exA (by simp [exLayers]) (by decide) (by decide))
    (by simp [exLayers]) (by decide) (by decide)
example : Before [b!"0", b!"m", b!"b", b!"a"] b!"m" b!"a" :=
  ancestor_precedes exLayers _ rfl exA exC
    (Ancestor.trans exA exB exC (Ancestor.parent exB exA (by simp [exLayers]) (by decide) (by decide))
      (by simp [exLayers]) (by decide) (by decide))
/-- `a` is a descendant (depth 2) of `m`; rebasing `m` onto it, or onto itself, is refused -/
example : Desc exLayers b!"m" b!"a" :=
  Desc.step b!"a" exC (by decide) (by decide) (Desc.child b!"b" exB (by decide) (by decide) (by decide))
example (w : World) := rebase_rejects_descendant exCfg exD b!"m" b!"a" w exA (by decide) (by decide)
  (Desc.step b!"a" exC (by decide) (by decide) (Desc.child b!"b" exB (by decide) (by decide) (by decide)))
example (w : World) := rebase_rejects_self exCfg exD b!"m" w exA (by decide) (by decide)
example : checkInheritance (setLayer exD { exA with base := b!"a" }).layers = false := by decide
example : (rebaseLayer exCfg exD b!"m" b!"a").run.run {} = (.error (.err "orphan"), {}) := rfl
example (w : World) := add_rejects_name exCfg exD b!"b" [] [] w (Or.inr (Or.inr (by decide)))
set_option maxRecDepth 100000 in
example (w : World) := add_rejects_name exCfg exD b!"x/y" [] [] w (Or.inr (Or.inl (by decide +kernel)))
example (w : World) := add_rejects_parent exCfg exD b!"new" b!"nope" [] w (by decide) (Or.inr (by decide))
example (w : World) := remove_rejects_parent exCfg exD b!"m" false w exA exB (by decide) (by simp [exD, exLayers]) (by decide)
/-- a table that fails the check: `normalize_fuel`'s hypothesis is not vacuous the other way -/
example : checkInheritance [{ exA with base := b!"m" }] = false := by decide
example : normalizeOrder [{ exA with base := b!"m" }] = Res.panic := rfl

/-! ### 5. the forest invariant -/

open Lc.ForestInv Lc.ForestCmd

/-! what `WF` says, in the words of the property -/

/-- names are unique -/
theorem wf_names_unique (d : Defs) (h : WF d) (x y : Layer) (hx : x ∈ d.layers) (hy : y ∈ d.layers)
    (e : x.name = y.name) : x = y := nodup_name_inj h.nodup hx hy e

/-- every layer's parent exists (and is what the code's lookup finds) -/
theorem wf_parent_exists (d : Defs) (h : WF d) (l : Layer) (hl : l ∈ d.layers) (hb : l.base ≠ []) :
    ∃ p, findLayer d l.base = some p ∧ p ∈ d.layers ∧ p.name = l.base := by
  obtain ⟨p, hp, hn⟩ := h.parent l hl hb
  cases hf : findLayer d l.base with
  | none =>
    exact absurd (List.mem_map.mpr ⟨p, hp, hn⟩) ((findLayer_none_iff d l.base).mp hf)
  | some q => exact ⟨q, rfl, (findLayer_mem hf).1, (findLayer_mem hf).2⟩

/-- no layer is its own ancestor -/
theorem wf_no_self_ancestor (d : Defs) (h : WF d) (l : Layer) : ¬ Ancestor d.layers l l := by
  intro ha
  obtain ⟨hk, _⟩ := normalizeOrder_ok _ _ h.order
  obtain ⟨_, _, ka, s, hs, h1, h2⟩ := ancestor_key_prefix d.layers hk l l ha
  rw [h1] at h2
  injection h2 with h2
  exact hs (by simpa using h2)

/-- list/status can order the layers: `order` holds every name exactly once, ancestors first -/
theorem wf_order (d : Defs) (h : WF d) :
    d.order.Perm (d.layers.map (·.name)) ∧ d.order.Nodup ∧
      ∀ a c, Ancestor d.layers a c → Before d.order a.name c.name :=
  ⟨order_perm _ _ h.order, order_nodup _ _ h.order h.nodup,
    fun a c hac => ancestor_precedes _ _ h.order a c hac⟩

/-- **add_preserves_WF**: a successful `add` returns a well-formed table: the old records
    followed by one new record with the given name and base; the name was free. -/
theorem add_preserves_WF (cfg : Config) (d d' : Defs) (n b f : Bytes) (w w' : World) (h : WF d)
    (hr : (addLayer cfg d n b f).run.run w = (.ok d', w')) :
    WF d' ∧ findLayer d n = none ∧
      ∃ x : Layer, x.name = n ∧ x.base = b ∧ x.layerPath = layerPath cfg n ∧
        d'.layers = d.layers ++ [x] := by
  obtain ⟨h1, h2, cm, ce, o, ho, rfl⟩ := Lc.Hoare.ret_elim _ _ (addLayer_ret cfg d n b f) w d' w' hr
  obtain ⟨a1, a2, a3⟩ := (free_iff d n).mp h1
  have hb := (optneed_iff d b).mp h2
  refine ⟨wf_add d _ o h a1 a2 a3 ?_ ho, a3, _, rfl, rfl, rfl, rfl⟩
  intro hbne
  rcases hb with e | ⟨_, hs⟩
  · exact absurd e hbne
  · exact hs

/-- **remove_preserves_WF**: a successful `remove` returns a well-formed table: the old
    records without the one named `n`; no remaining record has base `n`. -/
theorem remove_preserves_WF (cfg : Config) (d d' : Defs) (n : Bytes) (files : Bool) (w w' : World)
    (h : WF d) (hr : (removeLayer cfg d n files).run.run w = (.ok d', w')) :
    WF d' ∧ (findLayer d n).isSome = true ∧ d'.layers = d.layers.filter (·.name != n) ∧
      findLayer d' n = none ∧ ∀ l ∈ d'.layers, l.base ≠ n := by
  obtain ⟨h1, h2, o, ho, rfl⟩ := Lc.Hoare.ret_elim _ _ (removeLayer_ret cfg d n files) w d' w' hr
  obtain ⟨_, _, a3⟩ := (need_iff d n).mp h1
  refine ⟨wf_remove d n o h h2 ho, a3, rfl, ?_, ?_⟩
  · rw [findLayer_none_iff]
    intro hm
    obtain ⟨x, hx, e⟩ := List.mem_map.mp hm
    have := (List.mem_filter.mp hx).2
    simp [e] at this
  · exact fun l hl => no_child h2 l (List.mem_filter.mp hl).1

/-- **rename_preserves_WF**: a successful `rename old new` — whatever order the children
    were visited in — returns a well-formed table: the record of `old` is replaced by one
    named `new` (same base, moved to the end), every record with base `old` has base `new`,
    nothing else changed.  In the (name, base) view: the new table is the old one under
    the renaming `old ↦ new` of names and bases. -/
theorem rename_preserves_WF (cfg : Config) (d d' : Defs) (old new : Bytes) (co : List Bytes)
    (w w' : World) (h : WF d) (hr : (renameLayer cfg d old new co).run.run w = (.ok d', w')) :
    WF d' ∧ ∃ l, findLayer d old = some l ∧ findLayer d new = none ∧
      d'.layers = renamed d.layers old new { l with name := new, layerPath := layerPath cfg new } ∧
      d'.layers.length = d.layers.length ∧
      ∀ a b, (a, b) ∈ d'.layers.map nb ↔
        ∃ x ∈ d.layers, a = rn old new x.name ∧ b = rn old new x.base := by
  obtain ⟨h1, h2, l, o, d1, hl, hd1, ho, rfl⟩ :=
    Lc.Hoare.ret_elim _ _ (renameLayer_ret cfg d old new co) w d' w' hr
  obtain ⟨a1, a2, a3⟩ := (free_iff d new).mp h2
  have hren : d1.layers.filter (·.name != old) ++ [{ l with name := new, layerPath := layerPath cfg new }]
      = renamed d.layers old new { l with name := new, layerPath := layerPath cfg new } :=
    hd1 ▸ kids_foldl_renamed d h.nodup old new co _
  rw [hren] at ho
  have hlm := findLayer_mem hl
  have hoe : old ≠ [] := by have := (h.legal l hlm.1).1; rwa [hlm.2] at this
  have hlb : l.base ≠ old := by
    have := self_base_ne d.layers h.acyclic l hlm.1 (h.legal l hlm.1).1
    rwa [hlm.2] at this
  have hwf := wf_rename d old new l { l with name := new, layerPath := layerPath cfg new } o h hl a1 a2 a3 rfl rfl ho
  refine ⟨?_, l, hl, a3, hren, ?_, ?_⟩
  · exact wf_of_view hwf (by show List.map nb (_ ++ _) = _; rw [hren]) rfl
  · show List.length (_ ++ _) = _
    rw [hren]; exact length_renamed d.layers old new l _ h.nodup hl
  · intro a b
    show (a, b) ∈ List.map nb (_ ++ _) ↔ _
    rw [hren]
    exact mem_view_renamed d.layers old new l { l with name := new, layerPath := layerPath cfg new }
      h.nodup hl hlb rfl rfl a b

/-- **rebase_preserves_WF**: a successful `rebase n nb` returns a well-formed table in which
    only the base of `n` changed, to `nb`. -/
theorem rebase_preserves_WF (cfg : Config) (d d' : Defs) (n nb : Bytes) (w w' : World) (h : WF d)
    (hr : (rebaseLayer cfg d n nb).run.run w = (.ok d', w')) :
    WF d' ∧ (findLayer d n).isSome = true ∧
      d'.layers = d.layers.map (fun x => if x.name = n then { x with base := nb } else x) := by
  obtain ⟨_, _, l, o, hl, hc, ho, rfl⟩ := Lc.Hoare.ret_elim _ _ (rebaseLayer_ret cfg d n nb) w d' w' hr
  refine ⟨wf_setLayer d _ o h hc ho, by rw [hl]; rfl, ?_⟩
  show (setLayer d { l with base := nb }).layers = _
  unfold setLayer
  apply List.map_congr_left
  intro x hx
  have hlm := findLayer_mem hl
  by_cases e : x.name = n
  · have : x = l := nodup_name_inj h.nodup hx hlm.1 (e.trans hlm.2.symm)
    subst this
    simp [e]
  · have e' : ¬ (x.name == l.name) = true := by rw [hlm.2]; simpa using e
    simp only [e', e, if_false, Bool.false_eq_true]

/-! after any sequence of commands -/

/-- the four structural commands -/
inductive SCmd where
  | add (name base configFile : Bytes)
  | remove (name : Bytes) (files : Bool)
  | rename (old new : Bytes) (childOrder : List Bytes)
  | rebase (name newbase : Bytes)
  deriving Repr

def SCmd.apply (cfg : Config) (d : Defs) : SCmd → M Defs
  | .add n b f => addLayer cfg d n b f
  | .remove n f => removeLayer cfg d n f
  | .rename o n co => renameLayer cfg d o n co
  | .rebase n b => rebaseLayer cfg d n b

/-- one command on (table, world): a command that fails leaves the table as it was (what it
    did to the world before failing stays) -/
def stepS (cfg : Config) (s : Defs × World) (c : SCmd) : Defs × World :=
  match (c.apply cfg s.1).run.run s.2 with
  | (.ok d', w') => (d', w')
  | (.error _, w') => (s.1, w')

/-- **step_preserves_WF**: one command, successful or not, in any world -/
theorem step_preserves_WF (cfg : Config) (s : Defs × World) (c : SCmd) (h : WF s.1) :
    WF (stepS cfg s c).1 := by
  unfold stepS
  split
  · rename_i d' w' hr
    cases c with
    | add n b f => exact (add_preserves_WF cfg s.1 d' n b f s.2 w' h hr).1
    | remove n f => exact (remove_preserves_WF cfg s.1 d' n f s.2 w' h hr).1
    | rename o n co => exact (rename_preserves_WF cfg s.1 d' o n co s.2 w' h hr).1
    | rebase n b => exact (rebase_preserves_WF cfg s.1 d' n b s.2 w' h hr).1
  · exact h

/-- every state passed while running the commands `cs` one after the other -/
def statesS (cfg : Config) : Defs × World → List SCmd → List (Defs × World)
  | s, [] => [s]
  | s, c :: cs => s :: statesS cfg (stepS cfg s c) cs

/-- **reachable_WF**: start from a well-formed table in any world (any file system, any
    fault / crash / pretend setting); run any list of add / remove / rename / rebase
    commands, each successful or not: every intermediate and the final table is a
    well-formed forest.  No bound on the length. -/
theorem reachable_WF (cfg : Config) (cs : List SCmd) (d0 : Defs) (w0 : World) (h : WF d0) :
    (∀ s ∈ statesS cfg (d0, w0) cs, WF s.1) ∧ WF (cs.foldl (stepS cfg) (d0, w0)).1 := by
  induction cs generalizing d0 w0 with
  | nil => exact ⟨by intro s hs; simp [statesS] at hs; subst hs; exact h, h⟩
  | cons c cs ih =>
    have hstep := step_preserves_WF cfg (d0, w0) c h
    obtain ⟨i1, i2⟩ := ih (stepS cfg (d0, w0) c).1 (stepS cfg (d0, w0) c).2 hstep
    refine ⟨?_, i2⟩
    intro s hs
    simp only [statesS, List.mem_cons] at hs
    rcases hs with rfl | hs
    · exact h
    · exact i1 s hs

/-- tables reachable when the environment may do anything between the commands: each
    command runs in an arbitrary world -/
inductive Reach (cfg : Config) (d0 : Defs) : Defs → Prop where
  | start : Reach cfg d0 d0
  | step (d : Defs) (c : SCmd) (w : World) : Reach cfg d0 d → Reach cfg d0 (stepS cfg (d, w) c).1

/-- **reach_WF**: … and even then -/
theorem reach_WF (cfg : Config) (d0 d : Defs) (h : WF d0) (hr : Reach cfg d0 d) : WF d := by
  induction hr with
  | start => exact h
  | step d c w _ ih => exact step_preserves_WF cfg (d, w) c ih

/-! ### 6. what an invocation reads from the disk -/

/-- **findLayers_WF_partial**: whatever is on the disk, the table a successful FindLayers
    returns is well-formed.  Names are legal because `readLayerFiles` skips every directory
    entry whose name is not; non-empty because `path.Base` never returns ""; parents exist
    and there is no cycle because `checkInheritance` is tested; the order is computed.
    PARTIAL in one point: uniqueness of names is inherited from the directory listing, so it
    is a hypothesis that `Fs.children` (os.ReadDir) lists no name twice.  (The model's tree is
    an association list without a built-in uniqueness invariant; for the real ReadDir this
    is a fact about the kernel.) -/
theorem findLayers_WF_partial (cfg : Config) (w w' : World) (d : Defs)
    (hls : (Fs.children w.fs cfg.layerdirs).Nodup)
    (hr : (findLayers cfg).run.run w = (.ok d, w')) : WF d :=
  findLayers_wf cfg w w' d hls hr

/-- … and stays so through the probe: what `getLayers` hands to every command -/
theorem getLayers_WF_partial (cfg : Config) (inuse : List (Bytes × List User)) (w w' : World) (d : Defs)
    (hls : (Fs.children w.fs cfg.layerdirs).Nodup)
    (hr : (getLayers cfg inuse).run.run w = (.ok d, w')) : WF d := by
  unfold getLayers at hr
  obtain ⟨d1, w1, h1, h2⟩ := bind_ok_inv _ _ _ _ _ hr
  have hd1 := findLayers_WF_partial cfg w w1 d1 hls h1
  exact Lc.Hoare.ret_elim _ _ (probeAll_ret cfg inuse d1 hd1) w1 d w' h2

/-- the commands covered by `run_WF_partial` -/
def structural : Cmd → Bool
  | .init | .add .. | .remove .. | .rename .. | .rebase .. | .probe => true
  | _ => false

/-- **run_WF_partial**: one whole invocation (read the disk, probe, run the command) of
    init / add / remove / rename / rebase / list that ends normally returns a well-formed
    table — in any world.  Same hypothesis as `findLayers_WF_partial`. -/
theorem run_WF_partial (cfg : Config) (inuse : List (Bytes × List User)) (c : Cmd) (w : World)
    (d : Defs) (hc : structural c = true) (hls : (Fs.children w.fs cfg.layerdirs).Nodup)
    (hr1 : (run cfg inuse c w).1 = .ok d) : WF d := by
  generalize hw' : (run cfg inuse c w).2 = w'
  have hr : run cfg inuse c w = (.ok d, w') := by rw [← hr1, ← hw']
  clear hr1 hw'
  -- everything but init: read the layers, then the command on what was read
  have key : ∀ cmd : Defs → M Defs, (∀ d1 w1, WF d1 → (cmd d1).run.run w1 = (.ok d, w') → WF d) →
      (getLayers cfg inuse >>= cmd).run.run w = (.ok d, w') → WF d := by
    intro cmd hcmd hr
    obtain ⟨d1, w1, h1, h2⟩ := bind_ok_inv _ _ _ _ _ hr
    exact hcmd d1 w1 (getLayers_WF_partial cfg inuse w w1 d1 hls h1) h2
  unfold run at hr
  cases c with
  | init =>
    obtain ⟨_, w1, _, h2⟩ := bind_ok_inv (initBase cfg) (fun _ => (pure {} : M Defs)) _ _ _ hr
    cases h2
    exact wf_empty
  | add n b f => exact key _ (fun d1 w1 h h2 => (add_preserves_WF cfg d1 d n b f w1 w' h h2).1) hr
  | remove n f => exact key _ (fun d1 w1 h h2 => (remove_preserves_WF cfg d1 d n f w1 w' h h2).1) hr
  | rename o n co => exact key _ (fun d1 w1 h h2 => (rename_preserves_WF cfg d1 d o n co w1 w' h h2).1) hr
  | rebase n b => exact key _ (fun d1 w1 h h2 => (rebase_preserves_WF cfg d1 d n b w1 w' h h2).1) hr
  | probe => exact key pure (fun d1 w1 h h2 => by cases h2; exact h) hr
  | mkdirs _ => cases hc
  | mount _ => cases hc
  | umount _ _ => cases hc
  | shake => cases hc
  | chroot _ => cases hc

/-! ### non-vacuity of 5 and 6: the forest  0,  m ← b ← a  of the examples above -/

/-- a run known only through a view of its value: it ended normally, with a value of that view
    (the way to state a concrete run by kernel evaluation: worlds and tables have no decidable
    equality, lists of bytes have) -/
theorem ok_of_view {α β} (r : Except Fault α × World) (f : α → β) (b : β)
    (h : r.1.toOption.map f = some b) : ∃ a w', r = (.ok a, w') ∧ f a = b := by
  obtain ⟨x, w'⟩ := r
  cases x with
  | error e => cases h
  | ok a => exact ⟨a, w', rfl, by simpa [Except.toOption] using h⟩

/-- the example table with its order -/
def exW : Defs := { layers := exLayers, order := [b!"0", b!"m", b!"b", b!"a"] }

/-- pretend mode: every command runs through without a file-system precondition -/
def exPretend : World := { pretend := true }

theorem exW_wf : WF exW := by
  refine ⟨by decide +kernel, ?_, parent_of_check _ (by decide +kernel), by decide +kernel, rfl⟩
  intro l hl
  simp only [exW, exLayers, List.mem_cons, List.not_mem_nil, or_false] at hl
  rcases hl with rfl | rfl | rfl | rfl <;> exact ⟨by decide +kernel, by decide +kernel⟩

/-- the hypotheses of the `*_preserves_WF` theorems are satisfiable, the conclusions say
    something: concrete successful runs and the tables they return -/
example : ∃ d' w', (addLayer exCfg exW b!"n" b!"b" []).run.run exPretend = (.ok d', w') ∧
    WF d' ∧ d'.order = [b!"0", b!"m", b!"b", b!"a", b!"n"] :=
  by
  refine ⟨_, _, rfl, ?_, rfl⟩
  exact (add_preserves_WF exCfg exW _ b!"n" b!"b" [] exPretend _ exW_wf rfl).1
example : ∃ d' w', (removeLayer exCfg exW b!"a" false).run.run exPretend = (.ok d', w') ∧
    WF d' ∧ d'.order = [b!"0", b!"m", b!"b"] :=
  by
  refine ⟨_, _, rfl, ?_, rfl⟩
  exact (remove_preserves_WF exCfg exW _ b!"a" false exPretend _ exW_wf rfl).1
example : ∃ d' w', (renameLayer exCfg exW b!"b" b!"x" []).run.run exPretend = (.ok d', w') ∧
    WF d' ∧ d'.order = [b!"0", b!"m", b!"x", b!"a"] ∧
    d'.layers.map nb = [(b!"a", b!"x"), (b!"0", []), (b!"m", []), (b!"x", b!"m")] :=
  by
  obtain ⟨d, w', hr, ho⟩ := ok_of_view ((renameLayer exCfg exW b!"b" b!"x" []).run.run exPretend)
    (fun d => (d.order, d.layers.map nb))
    ([b!"0", b!"m", b!"x", b!"a"], [(b!"a", b!"x"), (b!"0", []), (b!"m", []), (b!"x", b!"m")]) (by decide +kernel)
  exact ⟨d, w', hr, (rename_preserves_WF exCfg exW _ b!"b" b!"x" [] exPretend _ exW_wf hr).1,
    congrArg Prod.fst ho, congrArg Prod.snd ho⟩
example : ∃ d' w', (rebaseLayer exCfg exW b!"a" b!"0").run.run exPretend = (.ok d', w') ∧
    WF d' ∧ d'.order = [b!"0", b!"a", b!"m", b!"b"] :=
  by
  refine ⟨_, _, rfl, ?_, rfl⟩
  exact (rebase_preserves_WF exCfg exW _ b!"a" b!"0" exPretend _ exW_wf rfl).1

/-- a table that is not well-formed (a dangling base): `WF` is not trivially true -/
example : ¬ WF { layers := [exB], order := [b!"b"] } := by
  intro h
  have := h.acyclic
  revert this
  decide

/-- a sequence with successes and refusals (remove of a parent, rebase onto a descendant):
    every table on the way is well-formed, and the final order is the expected one -/
def exSeq : List SCmd :=
  [.add b!"n" b!"b" [], .remove b!"b" false, .rebase b!"m" b!"a", .rename b!"b" b!"x" [b!"n", b!"a"],
   .rebase b!"n" b!"0", .remove b!"a" false]
example : ((exSeq.foldl (stepS exCfg) (exW, exPretend)).1).order = [b!"0", b!"n", b!"m", b!"x"] := rfl
example := (reachable_WF exCfg exSeq exW exPretend exW_wf).2
/-- the same with a fault injected at the first mutation (not pretending, empty disk): the
    add fails, the table stays -/
example : (stepS exCfg (exW, { faultAt := some 1 }) (.add b!"n" b!"b" [])).1.order = exW.order := rfl

/-- a disk: layers `m`, `b` (base m), a directory with an illegal name and one without a
    layerconfig; FindLayers returns the two layers, parents first -/
def exDisk : World :=
  { fs := [(b!"/", .dir), (b!"/lc", .dir), (b!"/lc/layers", .dir),
           (b!"/lc/layers/b", .dir), (b!"/lc/layers/b/layerconfig", .file b!"base m\n"),
           (b!"/lc/layers/m", .dir), (b!"/lc/layers/m/layerconfig", .file []),
           (b!"/lc/layers/x.y", .dir), (b!"/lc/layers/x.y/layerconfig", .file []),
           (b!"/lc/layers/empty", .dir)] }
example : (Fs.children exDisk.fs exCfg.layerdirs).Nodup := by decide
set_option maxRecDepth 100000 in
example : ∃ d, (findLayers exCfg).run.run exDisk = (.ok d, exDisk) ∧ WF d ∧ d.order = [b!"m", b!"b"] := by
  obtain ⟨d, w', hr, ho⟩ := ok_of_view ((findLayers exCfg).run.run exDisk) (·.order) [b!"m", b!"b"] (by decide +kernel)
  have hw : w' = exDisk := by have := (list_total exCfg exDisk).2; rw [hr] at this; exact this
  subst hw
  exact ⟨d, hr, findLayers_WF_partial exCfg _ _ d (by decide +kernel) hr, ho⟩

/-- one whole invocation on that disk, not pretending: `rebase b ""` ends normally, returns a
    well-formed table of two roots and has rewritten b's layerconfig -/
example : ∀ d, (run exCfg [] (.rebase b!"b" []) exDisk).1 = .ok d → WF d :=
  fun d h => run_WF_partial exCfg [] (.rebase b!"b" []) exDisk d rfl (by decide) h
example : (run exCfg [] (.rebase b!"b" []) exDisk).1.toOption.map (·.order) = some [b!"b", b!"m"] := by
  decide +kernel
example : Fs.readFile (run exCfg [] (.rebase b!"b" []) exDisk).2.fs b!"/lc/layers/b/layerconfig" = some [] := by
  decide +kernel
set_option maxRecDepth 100000 in
example : ∃ d w', (getLayers exCfg []).run.run { exDisk with pretend := true } = (.ok d, w') ∧ WF d
    ∧ d.order = [b!"m", b!"b"] := by
  obtain ⟨d, w', hr, ho⟩ := ok_of_view ((getLayers exCfg []).run.run { exDisk with pretend := true }) (·.order)
    [b!"m", b!"b"] (by decide +kernel)
  exact ⟨d, w', hr, getLayers_WF_partial exCfg [] _ _ _ (by decide +kernel) hr, ho⟩
/-- `reach_WF` with a different world at every step -/
example : WF (stepS exCfg ((stepS exCfg (exW, exPretend) (.add b!"n" b!"b" [])).1, { crashAt := some 2 })
    (.remove b!"a" true)).1 :=
  reach_WF exCfg exW _ exW_wf (Reach.step _ _ _ (Reach.step _ _ _ Reach.start))
/-- `wf_no_self_ancestor` / `wf_order` are about a table with real ancestors -/
example : ¬ Ancestor exW.layers exA exA := wf_no_self_ancestor exW exW_wf exA
example : Before exW.order b!"m" b!"a" :=
  (wf_order exW exW_wf).2.2 exA exC
    (Ancestor.trans exA exB exC (Ancestor.parent exB exA (by simp [exW, exLayers]) (by decide) (by decide))
      (by simp [exW, exLayers]) (by decide) (by decide))

/-! ### 7. the disk: a well-formed tree stays well-formed, and lists without a name twice -/

open Lc.TreeWF Lc.TreeKeeps

/-- **children_nodup**: in a well-formed tree (`TreeWF`: no path twice, every path clean and
    absolute, parents present) a directory listing has no name twice -/
theorem children_nodup (fs : Fs.Tree) (h : TreeWF fs) (dir : Bytes) : (Fs.children fs dir).Nodup :=
  Lc.TreeWF.children_nodup h dir

/-- **findLayers_WF**: `findLayers_WF_partial` with the tree invariant instead of the
    hypothesis on the listing -/
theorem findLayers_WF (cfg : Config) (w w' : World) (d : Defs) (hT : TreeWF w.fs)
    (hr : (findLayers cfg).run.run w = (.ok d, w')) : WF d :=
  findLayers_WF_partial cfg w w' d (Lc.TreeWF.children_nodup hT _) hr

theorem getLayers_WF (cfg : Config) (inuse : List (Bytes × List User)) (w w' : World) (d : Defs)
    (hT : TreeWF w.fs) (hr : (getLayers cfg inuse).run.run w = (.ok d, w')) : WF d :=
  getLayers_WF_partial cfg inuse w w' d (Lc.TreeWF.children_nodup hT _) hr

theorem run_WF (cfg : Config) (inuse : List (Bytes × List User)) (c : Cmd) (w : World)
    (d : Defs) (hc : structural c = true) (hT : TreeWF w.fs)
    (hr : (run cfg inuse c w).1 = .ok d) : WF d :=
  run_WF_partial cfg inuse c w d hc (Lc.TreeWF.children_nodup hT _) hr

/-- **run_keeps_treeWF**: a whole invocation of any command except `mount` / `chroot`, from
    ANY world (any pretend / force / fault / crash setting), on ANY exit, leaves a well-formed
    tree well-formed — provided the three configured directories are clean absolute paths
    (`CfgClean`).  `mount` and `chroot` are excluded because they create directories and
    symbolic links at paths copied verbatim from a layerconfig, which need not be clean; the
    model's tree does not normalise them as a real kernel would. -/
theorem run_keeps_treeWF (cfg : Config) (inuse : List (Bytes × List User)) (c : Cmd) (w : World)
    (hc : CfgClean cfg) (hs : fsSafe c = true) (hT : TreeWF w.fs) :
    TreeWF (run cfg inuse c w).2.fs := run_tw cfg inuse c w hc hs hT

/-- the example disk is well-formed, the example configuration clean; after a real
    (non-pretending) `rebase` and after an `add` interrupted by a crash it still is -/
example : TreeWF exDisk.fs ∧ CfgClean exCfg := by decide +kernel
example : TreeWF (run exCfg [] (.rebase b!"b" []) exDisk).2.fs :=
  run_keeps_treeWF exCfg [] _ exDisk (by decide +kernel) rfl (by decide +kernel)
example : TreeWF (run exCfg [] (.add b!"n" b!"b" []) { exDisk with crashAt := some 3 }).2.fs :=
  run_keeps_treeWF exCfg [] _ _ (by decide +kernel) rfl (by decide +kernel)
/-- a tree with a path twice, a tree with an unclean path, a tree with an orphan: not well-formed -/
example : ¬ TreeWF [(b!"/a", .dir), (b!"/a", .dir)] := by decide
example : ¬ TreeWF [(b!"/", .dir), (b!"/a", .dir), (b!"/a/../a", .dir)] := by decide
example : ¬ TreeWF [(b!"/", .dir), (b!"/a/b", .dir)] := by decide
/-- without the invariant a listing can have a name twice -/
example : ¬ (Fs.children [(b!"/", .dir), (b!"/a", .dir), (b!"/a", .file [])] b!"/").Nodup := by decide

/-! ### 8. the forest ON DISK: what the next invocation reads -/

open Lc.DiskView Lc.DiskForest Lc.DiskCmd

/-- side conditions on the configuration (all decidable): the three configured directories
    are clean absolute paths; no automatic export link lies at, above or below a layer
    directory (`ExportsApart`, Lemmas/ExportsApart.lean); the layers directory is not itself
    called `.bashrc` and is neither of the two files `init` writes -/
def CfgOK (cfg : Config) : Prop :=
  CfgClean cfg ∧ ExportsApart.ExportsApart cfg ∧ pathBase cfg.layerdirs ≠ b!".bashrc" ∧
    cfg.layerdirs ∉ initFiles cfg

instance (cfg : Config) : Decidable (CfgOK cfg) := inferInstanceAs (Decidable (_ ∧ _ ∧ _ ∧ _))

/-- **a forest on disk can be listed**: `findLayers` succeeds, only reads, and returns a
    well-formed table — the one described by `diskLayers` -/
theorem forest_lists (cfg : Config) (w : World) (hf : DiskForest cfg w.fs) :
    ∃ d, (findLayers cfg).run.run w = (.ok d, w) ∧ WF d ∧ d.layers = diskLayers cfg w.fs := by
  have hdir := Fs.isDir_of_get_dir w.fs _ hf.ok.dir
  obtain ⟨o, ho⟩ := normalize_fuel _ hf.check
  have hrun : (findLayers cfg).run.run w = (.ok { layers := diskLayers cfg w.fs, order := o }, w) := by
    have hc := hf.check
    unfold diskLayers at hc ho ⊢
    rw [findLayers_run, if_pos hdir, if_pos hc, ho]
    rfl
  exact ⟨_, hrun, findLayers_WF cfg w w _ hf.ok.tree hrun, rfl⟩

/-- … and conversely: a well-formed tree whose layers directory is a real directory, without
    symbolic links at layerconfig paths, on which `findLayers` succeeds, is a forest on disk -/
theorem lists_forest (cfg : Config) (w w' : World) (d : Defs) (hT : TreeWF w.fs)
    (hdir : Fs.get w.fs cfg.layerdirs = some .dir)
    (hnl : ∀ a, LegalNE a → ∀ t, Fs.get w.fs (cfgOf cfg a) ≠ some (.symlink t))
    (hr : (findLayers cfg).run.run w = (.ok d, w')) : DiskForest cfg w.fs := by
  obtain ⟨_, _, hL, hc, _⟩ := findLayers_ok cfg w w' d hr
  exact ⟨⟨hT, hdir, hnl⟩, by unfold diskLayers; rw [← hL]; exact hc⟩

/-- the commands of the property's sentence: init, add, remove, rebase, mkdirs, list.
    (`rename` is treated separately: interrupted between the directory move and the rewriting
    of the children it leaves dangling bases — `C11.rename_interrupted_dangling_base_witness`.) -/
def forestCmd : Cmd → Bool
  | .init | .add .. | .remove .. | .rebase .. | .mkdirs .. | .probe => true
  | _ => false

theorem forestCmd_fsSafe (c : Cmd) (h : forestCmd c = true) : fsSafe c = true := by
  cases c <;> first | rfl | cases h

/-- every command but init reads the layers first, which leaves the tree as it is: the forest
    on disk is kept if the command proper keeps it from a table just read, and without a
    layers directory the reading already fails -/
theorem read_then_disk {cfg : Config} {ds : List Bytes} (hld : LD cfg ds)
    (inuse : List (Bytes × List User)) (w : World) (hT : TreeWF w.fs) (cmd : Defs → M Defs)
    (hcmd : ∀ d w1, Start cfg w1.fs d → DiskForest cfg w1.fs → TreeWF ((cmd d).run.run w1).2.fs →
      DiskForest cfg ((cmd d).run.run w1).2.fs)
    (hTT : TreeWF ((getLayers cfg inuse >>= cmd).run.run w).2.fs) :
    (DiskForest cfg w.fs → DiskForest cfg ((getLayers cfg inuse >>= cmd).run.run w).2.fs) ∧
    (Fs.get w.fs cfg.layerdirs = none →
      Fs.get ((getLayers cfg inuse >>= cmd).run.run w).2.fs cfg.layerdirs = none ∨
        DiskForest cfg ((getLayers cfg inuse >>= cmd).run.run w).2.fs) := by
  rw [run_bind] at hTT ⊢
  have hfs := getLayers_fs_eq cfg inuse w
  generalize hgr : (getLayers cfg inuse).run.run w = r at hfs hTT ⊢
  obtain ⟨x, w1⟩ := r
  have hfs' : w1.fs = w.fs := hfs
  cases x with
  | error e =>
    refine ⟨fun hf => ?_, fun hab => Or.inl ?_⟩
    · show DiskForest cfg w1.fs
      rw [hfs']; exact hf
    · show Fs.get w1.fs _ = none
      rw [hfs']; exact hab
  | ok d =>
    refine ⟨fun hf => ?_, fun hab => ?_⟩
    · have hst := start_of_getLayers hld inuse w w1 d hf.ok hgr
      exact hcmd d w1 (hfs' ▸ hst) (hfs' ▸ hf) hTT
    · exfalso
      obtain ⟨_, hdir, _⟩ := getLayers_ok cfg inuse w w1 d hT hgr
      have := (present_iff _ _).mpr (isDir_key _ _ hdir)
      rw [hab] at this; cases this

/-- the two cases of the invariant, one invocation -/
theorem run_disk (cfg : Config) (inuse : List (Bytes × List User)) (c : Cmd) (w : World)
    (hc : CfgOK cfg) (hs : forestCmd c = true) (hT : TreeWF w.fs) :
    TreeWF (run cfg inuse c w).2.fs ∧
    (DiskForest cfg w.fs → DiskForest cfg (run cfg inuse c w).2.fs) ∧
    (Fs.get w.fs cfg.layerdirs = none →
      Fs.get (run cfg inuse c w).2.fs cfg.layerdirs = none ∨ DiskForest cfg (run cfg inuse c w).2.fs) := by
  obtain ⟨hcl, hA, hnb, hni⟩ := hc
  obtain ⟨ds, hld⟩ := ld_of_clean cfg hcl.2.1
  have hT' := run_keeps_treeWF cfg inuse c w hcl (forestCmd_fsSafe c hs) hT
  refine ⟨hT', ?_⟩
  unfold run at hT' ⊢
  cases c with
  | init =>
    have e : (runCmd cfg inuse .init).run.run w = ((initBase cfg >>= fun _ => (pure {} : M Defs)).run.run w) := rfl
    rw [e, world_bind_pure] at hT' ⊢
    exact ⟨fun hf => init_forest hld hni w hf hT', fun hab => (init_inv hld hni w ⟨hT, Or.inl hab⟩ hT').2⟩
  | add n b f =>
    exact read_then_disk hld inuse w hT (fun d => addLayer cfg d n b f) (add_forest hld hnb · n b f) hT'
  | remove n f =>
    exact read_then_disk hld inuse w hT (fun d => removeLayer cfg d n f) (remove_forest hld hA hcl.2.2.2 · n f) hT'
  | rebase n b =>
    exact read_then_disk hld inuse w hT (fun d => rebaseLayer cfg d n b) (rebase_forest hld · n b) hT'
  | mkdirs n =>
    exact read_then_disk hld inuse w hT (fun d => makedirs cfg d n) (fun d w1 _ => makedirs_forest hld d n w1) hT'
  | probe =>
    exact read_then_disk hld inuse w hT (fun d => pure d) (fun d w1 _ hf _ => hf) hT'
  | rename _ _ _ => cases hs
  | mount _ => cases hs
  | umount _ _ => cases hs
  | shake => cases hs
  | chroot _ => cases hs

/-- **disk_inv_after_run**: the installation invariant `DiskInv` (tree well-formed; no layers
    directory yet, or a forest on disk) is kept by a whole invocation of init / add / remove /
    rebase / mkdirs / list — from ANY world: pretending or not, with or without an injected
    fault or crash, whether the command returns normally, is rejected or fails half-way. -/
theorem disk_inv_after_run (cfg : Config) (inuse : List (Bytes × List User)) (c : Cmd) (w : World)
    (hc : CfgOK cfg) (hs : forestCmd c = true) (hi : DiskInv cfg w.fs) :
    DiskInv cfg (run cfg inuse c w).2.fs := by
  obtain ⟨hT', h1, h2⟩ := run_disk cfg inuse c w hc hs hi.1
  rcases hi.2 with hab | hf
  · exact ⟨hT', h2 hab⟩
  · exact ⟨hT', Or.inr (h1 hf)⟩

/-- **disk_forest_after_run** (the property's sentence): from a world whose installation is a
    forest on disk (it can be listed), after a whole invocation of init / add / remove /
    rebase / mkdirs / list — any exit, any pretend / fault / crash setting — the installation
    can again be listed: `findLayers` on the world left behind succeeds and returns a
    well-formed table (`WF`: unique legal names, every parent present, no cycle, ordered). -/
theorem disk_forest_after_run (cfg : Config) (inuse : List (Bytes × List User)) (c : Cmd) (w : World)
    (hc : CfgOK cfg) (hs : forestCmd c = true) (hf : DiskForest cfg w.fs) :
    DiskForest cfg (run cfg inuse c w).2.fs ∧
    ∃ d, (findLayers cfg).run.run (run cfg inuse c w).2 = (.ok d, (run cfg inuse c w).2) ∧ WF d := by
  have hf' := (run_disk cfg inuse c w hc hs hf.ok.tree).2.1 hf
  obtain ⟨d, hr, hwf, _⟩ := forest_lists cfg _ hf'
  exact ⟨hf', d, hr, hwf⟩

/-- one invocation: its in-use map and its command -/
abbrev Invocation := List (Bytes × List User) × Cmd

/-- the worlds passed while running the invocations one after the other; between two
    invocations the switches (pretend, force, fault and crash positions) may be set anew by
    `sw`, the tree and the mount table are handed on -/
def worldsAfter (cfg : Config) (sw : Nat → World → World) : Nat → World → List Invocation → List World
  | _, w, [] => [w]
  | k, w, (iu, c) :: rest => w :: worldsAfter cfg sw (k + 1) (sw k (run cfg iu c w).2) rest

/-- **disk_forest_reachable**: start from any world whose tree is well-formed and which has no
    layers directory yet or is a forest on disk; run any list of invocations of init / add /
    remove / rebase / mkdirs / list, each with its own in-use map and its own pretend / fault /
    crash setting (`sw` may change the switches between invocations as long as it keeps the
    tree).  Every world on the way satisfies the invariant; in particular whenever the layers
    directory exists the installation can be listed and the table read is a well-formed forest
    (`wf_order` then gives the listing order). -/
theorem disk_forest_reachable (cfg : Config) (hc : CfgOK cfg) (sw : Nat → World → World)
    (hsw : ∀ k w, (sw k w).fs = w.fs) (invs : List Invocation) (hcs : ∀ i ∈ invs, forestCmd i.2 = true) :
    ∀ (k : Nat) (w0 : World), DiskInv cfg w0.fs →
      ∀ w ∈ worldsAfter cfg sw k w0 invs, DiskInv cfg w.fs ∧
        (Fs.get w.fs cfg.layerdirs ≠ none →
          ∃ d, (findLayers cfg).run.run w = (.ok d, w) ∧ WF d ∧ d.layers = diskLayers cfg w.fs) := by
  induction invs with
  | nil =>
    intro k w0 hi w hw
    simp only [worldsAfter, List.mem_singleton] at hw
    subst hw
    refine ⟨hi, fun hne => ?_⟩
    rcases hi.2 with hab | hf
    · exact absurd hab hne
    · exact forest_lists cfg w hf
  | cons i rest ih =>
    intro k w0 hi w hw
    obtain ⟨iu, c⟩ := i
    simp only [worldsAfter, List.mem_cons] at hw
    rcases hw with rfl | hw
    · refine ⟨hi, fun hne => ?_⟩
      rcases hi.2 with hab | hf
      · exact absurd hab hne
      · exact forest_lists cfg w hf
    · have hstep := disk_inv_after_run cfg iu c w0 hc (hcs (iu, c) (by simp)) hi
      exact ih (fun j hj => hcs j (List.mem_cons_of_mem _ hj)) (k + 1) _
        (by rw [hsw]; exact hstep) w hw

theorem run_rename_ok {cfg : Config} {iu : List (Bytes × List User)} {o n : Bytes} {co : List Bytes} {w : World}
    {d' : Defs} (h : (run cfg iu (.rename o n co) w).1 = .ok d') :
    ∃ d w1, (getLayers cfg iu).run.run w = (.ok d, w1) ∧
      (renameLayer cfg d o n co).run.run w1 = (.ok d', (run cfg iu (.rename o n co) w).2) :=
  bind_ok_inv (getLayers cfg iu) (fun d => renameLayer cfg d o n co) w _ d' (Prod.ext h rfl)

/-- **disk_forest_after_rename**: a whole `rename` invocation that returns normally
    (pretending or not, whatever order the children are visited in) leaves a forest on disk:
    the installation can be listed again and the table read is well-formed.  A `rename` that is
    REJECTED changes nothing (`rename_rejects_source`, `rename_rejects_newname`, C04); a rename
    that fails between the directory move and the last rewrite (injected fault, crash, or an
    operating-system error) can leave children with a dangling base —
    `C11.rename_interrupted_dangling_base_witness` — so no statement is made for those exits. -/
theorem disk_forest_after_rename (cfg : Config) (inuse : List (Bytes × List User)) (old new : Bytes)
    (co : List Bytes) (w : World) (d' : Defs) (hc : CfgOK cfg) (hf : DiskForest cfg w.fs)
    (hok : (run cfg inuse (.rename old new co) w).1 = .ok d') :
    DiskForest cfg (run cfg inuse (.rename old new co) w).2.fs ∧
    ∃ d, (findLayers cfg).run.run (run cfg inuse (.rename old new co) w).2
        = (.ok d, (run cfg inuse (.rename old new co) w).2) ∧ WF d := by
  obtain ⟨hcl, hA, _, _⟩ := hc
  obtain ⟨ds, hld⟩ := ld_of_clean cfg hcl.2.1
  have hT' := run_keeps_treeWF cfg inuse (.rename old new co) w hcl rfl hf.ok.tree
  have hf' : DiskForest cfg (run cfg inuse (.rename old new co) w).2.fs := by
    obtain ⟨d, w1, h1, h2⟩ := run_rename_ok hok
    have hfs : w1.fs = w.fs := by
      have := getLayers_fs_eq cfg inuse w
      rw [h1] at this; exact this
    have hst := start_of_getLayers hld inuse w w1 d hf.ok h1
    exact rename_forest hld hA hcl.2.2.2 d old new co w1 (hfs ▸ hst) (hfs ▸ hf) d' _ h2 hT'
  obtain ⟨d, hr, hwf, _⟩ := forest_lists cfg _ hf'
  exact ⟨hf', d, hr, hwf⟩

/-- an invocation the sequence theorem accepts in the world `w`: one of init / add / remove /
    rebase / mkdirs / list (any exit), or a `rename` that returns normally or leaves the tree
    as it was (a rejected rename, a rename of a missing layer, …) -/
def Admissible (cfg : Config) (iu : List (Bytes × List User)) (c : Cmd) (w : World) : Prop :=
  forestCmd c = true ∨
    ∃ o n co, c = .rename o n co ∧ ((∃ d', (run cfg iu c w).1 = .ok d') ∨ (run cfg iu c w).2.fs = w.fs)

/-- the worlds reachable from `w0`: after an admissible invocation any world with the tree it
    left behind (the switches, the mount table, the trace may be anything) -/
inductive DiskReach (cfg : Config) (w0 : World) : World → Prop where
  | start : DiskReach cfg w0 w0
  | step (w w1 : World) (iu : List (Bytes × List User)) (c : Cmd) : DiskReach cfg w0 w →
      Admissible cfg iu c w → w1.fs = (run cfg iu c w).2.fs → DiskReach cfg w0 w1

/-- **disk_reach_inv**: `disk_forest_reachable` with `rename` among the commands -/
theorem disk_reach_inv (cfg : Config) (hc : CfgOK cfg) (w0 w : World) (hi : DiskInv cfg w0.fs)
    (hr : DiskReach cfg w0 w) :
    DiskInv cfg w.fs ∧ (Fs.get w.fs cfg.layerdirs ≠ none →
      ∃ d, (findLayers cfg).run.run w = (.ok d, w) ∧ WF d ∧ d.layers = diskLayers cfg w.fs) := by
  have key : DiskInv cfg w.fs := by
    induction hr with
    | start => exact hi
    | step w w1 iu c _ ha hfs ih =>
      rw [hfs]
      rcases ha with hfc | ⟨o, n, co, rfl, hok | hsame⟩
      · exact disk_inv_after_run cfg iu c w hc hfc ih
      · obtain ⟨d', hok⟩ := hok
        have hT' := run_keeps_treeWF cfg iu (.rename o n co) w hc.1 rfl ih.1
        refine ⟨hT', ?_⟩
        rcases ih.2 with hab | hf
        · -- without a layers directory `rename` cannot return normally
          exfalso
          obtain ⟨d, w2, h1, _⟩ := run_rename_ok hok
          obtain ⟨_, hdir, _⟩ := getLayers_ok cfg iu w w2 d ih.1 h1
          have := (present_iff _ _).mpr (isDir_key _ _ hdir)
          rw [hab] at this; cases this
        · exact Or.inr (disk_forest_after_rename cfg iu o n co w d' hc hf hok).1
      · rw [hsame]; exact ih
  refine ⟨key, fun hne => ?_⟩
  rcases key.2 with hab | hf
  · exact absurd hab hne
  · exact forest_lists cfg w hf

/-! non-vacuity of 8: the example disk and configuration; real (non-pretending) runs -/

example : CfgOK exCfg := by decide +kernel

/-- the example disk (layers `m`, `b` ← m, an illegal name, a directory without layerconfig):
    `findLayers` succeeds on it and it holds no symbolic link at all -/
theorem exDisk_forest : DiskForest exCfg exDisk.fs := by
  obtain ⟨d, w', hr, _⟩ := ok_of_view ((findLayers exCfg).run.run exDisk) (fun _ => ()) () (by decide +kernel)
  refine lists_forest exCfg exDisk w' d (by decide +kernel) (by decide +kernel) (fun a _ t hg => ?_) hr
  have hpl : exDisk.fs.all (fun e => match e.2 with | .symlink _ => false | _ => true) = true := by decide +kernel
  have := List.all_eq_true.mp hpl _ (Fs.get_some_mem _ _ _ hg)
  simp at this

/-- `disk_forest_after_run` on it: a real `add`, and the same `add` with a crash injected at
    its 4th (the layerconfig rename) and 5th mutation — listable each time; the listings -/
example := disk_forest_after_run exCfg [] (.add b!"n" b!"b" []) exDisk (by decide +kernel) rfl exDisk_forest
example := disk_forest_after_run exCfg [] (.add b!"n" b!"b" []) { exDisk with crashAt := some 4 }
  (by decide +kernel) rfl exDisk_forest
example : ((findLayers exCfg).run.run (run exCfg [] (.add b!"n" b!"b" []) exDisk).2).1.toOption.map (·.order)
    = some [b!"m", b!"b", b!"n"] := by decide +kernel
example : ((findLayers exCfg).run.run
      (run exCfg [] (.add b!"n" b!"b" []) { exDisk with crashAt := some 4 }).2).1.toOption.map (·.order)
    = some [b!"m", b!"b"] := by decide +kernel
example : ((findLayers exCfg).run.run
      (run exCfg [] (.add b!"n" b!"b" []) { exDisk with crashAt := some 5 }).2).1.toOption.map (·.order)
    = some [b!"m", b!"b", b!"n"] := by decide +kernel

/-- `disk_forest_reachable` from a disk that holds nothing but "/": list (fails), init, add a
    root, add a child, the same again (refused), rebase the root onto its child (refused),
    remove the root (refused), add a grandchild, rebase it onto the root, mkdirs, remove the
    middle layer with its files — the invariant all the way, and the final listing -/
def exEmpty : World := { fs := [(b!"/", .dir)] }
def exInvs : List Invocation :=
  [([], .probe), ([], .init), ([], .add b!"r" [] []), ([], .add b!"c" b!"r" []), ([], .add b!"c" b!"r" []),
   ([], .rebase b!"r" b!"c"), ([], .remove b!"r" false), ([], .add b!"g" b!"c" []), ([], .rebase b!"g" b!"r"),
   ([], .mkdirs b!"g"), ([], .remove b!"c" true)]
example : DiskInv exCfg exEmpty.fs := ⟨by decide +kernel, Or.inl (by decide +kernel)⟩
example := disk_forest_reachable exCfg (by decide +kernel) (fun _ w => w) (fun _ _ => rfl) exInvs (by decide +kernel) 0 exEmpty
  ⟨by decide +kernel, Or.inl (by decide +kernel)⟩
example : ((findLayers exCfg).run.run
      ((worldsAfter exCfg (fun _ w => w) 0 exEmpty exInvs).getLastD exEmpty)).1.toOption.map (·.order)
    = some [b!"r", b!"g"] := by decide +kernel
/-- `disk_forest_after_rename` on the example disk: a real rename of `m` (its child `b` is
    rewritten), and the listing afterwards -/
example : (run exCfg [] (.rename b!"m" b!"x" []) exDisk).1.toOption.map (·.order) = some [b!"x", b!"b"] := by
  decide +kernel
example : ((findLayers exCfg).run.run (run exCfg [] (.rename b!"m" b!"x" []) exDisk).2).1.toOption.map
    (fun d => d.layers.map nb) = some [(b!"b", b!"x"), (b!"x", [])] := by decide +kernel
/-- a disk that is not a forest (b's parent is missing): the hypothesis is not vacuous -/
example : ¬ DiskForest exCfg [(b!"/", .dir), (b!"/lc", .dir), (b!"/lc/layers", .dir),
    (b!"/lc/layers/b", .dir), (b!"/lc/layers/b/layerconfig", .file b!"base m\n")] := by
  intro h
  have := h.check
  revert this
  decide +kernel

end Lc.Props.C02
