/-
  C17, the name arithmetic of wildcard add-files lines (stage/addRemove.go: `addFromWildcard`,
  `removeFiles`, `rootChopLength`), over the model WITH the root and the cuts
  (`Lc/Model/StageGlob.lean`).  Two defects lived here (the cut `len(rootDir)` on root "/" ate
  the name's own slash, fix 35d092a; the `src=` cut on a pattern directly below "/"), both
  invisible to the root-free model of `Lc/Model/StageLine.lean`.

  All theorems are over every root / tree / name; the concrete witnesses are by `decide +kernel`.
-/
import Lc.Lemmas.StageGlob
import Lc.Lemmas.StageClosed

namespace Lc.Props.C17Glob
open Lc Lc.StageLine Lc.StageGlob Lc.ExportPath Lc.InLayers
open Lc.TreeWF (CleanAbs cleanAbs_absPath cleanAbs_comps under_absPath absPath_ne_root)
open Lc.Stage (pathDir_cleanAbs)

/-! ### the sentence both defects violated -/

/-- For every clean absolute root — "/" included — and every clean
    absolute stage name `n`, cutting `rootChopLength rootDir` bytes off the host path
    `path.Join(rootDir, n)` gives `n` back.  (`n = "/"` below a root other than "/" is the root
    directory itself, whose host path has nothing after the root: `chop_of_root_itself`; the
    parser accepts no such name and a wildcard match has a last element.) -/
theorem chop_gives_stage_name (rootDir n : Bytes) (hr : CleanAbs rootDir) (hn : CleanAbs n)
    (hne : rootDir = [SLASH] ∨ n ≠ [SLASH]) :
    (pathJoin [rootDir, n]).drop (rootChopLength rootDir) = n := by
  obtain ⟨ds, hds, ed⟩ := cleanAbs_comps rootDir hr
  obtain ⟨ns, hns, en⟩ := cleanAbs_comps n hn
  subst ed; subst en
  rw [pathJoin_abs_abs ds ns hds hns]
  by_cases hd : ds = []
  · subst hd
    simp [rootChopLength, absPath, joinWith]
  · have hroot : absPath ds ≠ [SLASH] := absPath_ne_root ds hds hd
    have hn' : ns ≠ [] := by
      rcases hne with h | h
      · exact absurd h hroot
      · intro e; apply h; rw [e]; rfl
    rw [absPath_append_abs ds ns hd hn']
    simp [rootChopLength, hroot]

/-- the excluded corner: the root directory itself below a root other than "/" -/
theorem chop_of_root_itself (rootDir : Bytes) (hr : CleanAbs rootDir) (h : rootDir ≠ [SLASH]) :
    (pathJoin [rootDir, [SLASH]]).drop (rootChopLength rootDir) = [] := by
  obtain ⟨ds, hds, ed⟩ := cleanAbs_comps rootDir hr
  subst ed
  have := pathJoin_abs_abs ds [] hds (by simp)
  rw [show absPath [] = [SLASH] from rfl] at this
  rw [this]
  simp [rootChopLength, h]

example : (pathJoin [b!"/", b!"/etc/env.d/00basic"]).drop (rootChopLength b!"/") = b!"/etc/env.d/00basic" := by decide +kernel
example : (pathJoin [b!"/r", b!"/etc/a b"]).drop (rootChopLength b!"/r") = b!"/etc/a b" := by decide +kernel
example : CleanAbs b!"/r" ∧ CleanAbs b!"/etc/a b" ∧ CleanAbs b!"/" := by decide +kernel

/-- a clean path strictly below a clean directory is `path.Join(d, n)` for a clean absolute
    name `n` other than "/" -/
theorem below_join {d m : Bytes} (hd : CleanAbs d) (hm : CleanAbs m) (hb : strictlyBelow d m = true) :
    ∃ n, CleanAbs n ∧ n ≠ [SLASH] ∧ m = pathJoin [d, n] := by
  obtain ⟨ds, ts, hds, hts, hne, ed, em⟩ := below_comps hd hm hb
  refine ⟨absPath ts, cleanAbs_absPath ts hts, absPath_ne_root ts hts hne, ?_⟩
  rw [ed, em, pathJoin_abs_abs ds ts hds hts]

/-! ### wildcard adds without `src=` -/

/-- all paths of the host tree are clean, absolute and strictly below `d` -/
def TreeBelow (d : Bytes) (t : HostTree) : Prop :=
  ∀ m ∈ t.paths, CleanAbs m ∧ strictlyBelow d m = true

instance (d : Bytes) (t : HostTree) : Decidable (TreeBelow d t) := by unfold TreeBelow; infer_instance

/-- Over a host tree of clean absolute paths below the root,
    every name a wildcard add line (no `src=`, `file` or `dir`) yields is clean and absolute —
    `StepClean` for the adds a wildcard line expands to (the assumption noted in C06 for names
    "out of `filepath.Glob`"), and the name is the match's stage name: the match is
    `path.Join(rootDir, n)`. -/
theorem wildcard_names_clean_abs (t : HostTree) (rootDir name : Bytes) (r : Bool)
    (hr : CleanAbs rootDir) (ht : TreeBelow rootDir t) :
    ∀ n ∈ wildcardNames t rootDir name r,
      CleanAbs n ∧ pathJoin [rootDir, n] ∈ globHost t (pathJoin [rootDir, name]) r := by
  intro n hn
  unfold wildcardNames at hn
  obtain ⟨m, hm, e⟩ := List.mem_map.mp hn
  obtain ⟨hmc, hmb⟩ := ht m (globHost_sub t _ r m hm)
  obtain ⟨n', hn'c, hn'ne, em⟩ := below_join hr hmc hmb
  have := chop_gives_stage_name rootDir n' hr hn'c (Or.inr hn'ne)
  rw [← em] at this
  rw [this] at e
  subst e
  exact ⟨hn'c, by rw [← em]; exact hm⟩

/-- a wildcard `omit` line deletes exactly the names the same
    `file` wildcard line adds (same glob, non-recursive, same cut) -/
theorem remove_same_names_as_add (t : HostTree) (rootDir name : Bytes) :
    removeNames t rootDir name = wildcardNames t rootDir name false := rfl

/-- the names a wildcard `omit` line deletes are clean absolute stage names -/
theorem remove_names_clean_abs (t : HostTree) (rootDir name : Bytes)
    (hr : CleanAbs rootDir) (ht : TreeBelow rootDir t) :
    ∀ n ∈ removeNames t rootDir name, CleanAbs n := fun n hn =>
  (wildcard_names_clean_abs t rootDir name false hr ht n (remove_same_names_as_add t rootDir name ▸ hn)).1

/-! ### the pre-fix cut -/

theorem old_chop_agrees_off_root (t : HostTree) (rootDir name : Bytes) (r : Bool) (h : rootDir ≠ [SLASH]) :
    rootChopLengthOld rootDir = rootChopLength rootDir ∧
    wildcardNamesOld t rootDir name r = wildcardNames t rootDir name r := by
  have : rootChopLengthOld rootDir = rootChopLength rootDir := by simp [rootChopLengthOld, rootChopLength, h]
  exact ⟨this, by unfold wildcardNamesOld wildcardNames; rw [this]⟩

/-- a root file system: /etc/env.d/00basic, a name with blanks, *.conf files, a nested
    directory and a symlink to a directory -/
def tRoot : HostTree := ⟨[
  (b!"/etc", .dir), (b!"/etc/env.d", .dir), (b!"/etc/env.d/00basic", .file),
  (b!"/etc/a b.conf", .file), (b!"/etc/x.conf", .file), (b!"/etc/x.txt", .file),
  (b!"/usr", .dir), (b!"/usr/lib", .dir), (b!"/usr/lib/deep", .dir), (b!"/usr/lib/deep/f", .file),
  (b!"/usr/lnk", .symlink)]⟩

/-- the same below /r -/
def tR : HostTree := ⟨tRoot.nodes.map fun n => (b!"/r" ++ n.1, n.2)⟩

/-- on root "/" the pre-fix cut yields a name without its
    leading slash where the fixed one yields the stage name -/
theorem old_chop_loses_slash_at_root :
    wildcardNamesOld tRoot b!"/" b!"/etc/env.d/*" false = [b!"etc/env.d/00basic"] ∧
    wildcardNames tRoot b!"/" b!"/etc/env.d/*" false = [b!"/etc/env.d/00basic"] := by decide +kernel

example : TreeBelow b!"/" tRoot := by decide +kernel
example : TreeBelow b!"/r" tR := by decide +kernel
example : wildcardNames tR b!"/r" b!"/etc/*.conf" false = [b!"/etc/a b.conf", b!"/etc/x.conf"] := by decide +kernel
example : wildcardNames tRoot b!"/" b!"/etc/*.conf" false = [b!"/etc/a b.conf", b!"/etc/x.conf"] := by decide +kernel
example : wildcardNamesOld tR b!"/r" b!"/etc/*.conf" false = wildcardNames tR b!"/r" b!"/etc/*.conf" false := by decide +kernel
/-- a `dir` line over a nested directory and a symlink to a directory: the directory
    contributes itself and everything below, the symlink itself only -/
example : wildcardNames tR b!"/r" b!"/usr/l*" true =
    [b!"/usr/lib", b!"/usr/lib/deep", b!"/usr/lib/deep/f", b!"/usr/lnk"] := by decide +kernel
example : wildcardNames tRoot b!"/" b!"/usr/l*" true =
    [b!"/usr/lib", b!"/usr/lib/deep", b!"/usr/lib/deep/f", b!"/usr/lnk"] := by decide +kernel
example : removeNames tRoot b!"/" b!"/usr/l*" = [b!"/usr/lib", b!"/usr/lnk"] := by decide +kernel

/-! ### wildcard adds with `src=` -/

/-- One match: with a clean absolute `prefix` (the line's name) and a clean
    absolute source pattern, for the match `path.Join(path.Dir(source), tail)` (`tail` clean,
    absolute, not "/": the match's path relative to the pattern's directory) the code's
    `path.Join(prefix, m[len(path.Dir(source)):])` is `path.Join(prefix, tail)`, clean,
    absolute, at or below `prefix`.  When `path.Dir(source)` is "/" the cut is 1 byte and
    `m[1:]` is the RELATIVE path `tail` without its slash; `path.Join` puts the separator
    back, so the name is the same (a plain concatenation would not: `src_concat_differs_at_root`). -/
theorem src_name_join (pfx source tail : Bytes) (hp : CleanAbs pfx) (hs : CleanAbs source)
    (ht : CleanAbs tail) (hne : tail ≠ [SLASH]) :
    srcName pfx source (pathJoin [pathDir source, tail]) = pathJoin [pfx, tail] ∧
    CleanAbs (pathJoin [pfx, tail]) ∧ Fs.under pfx (pathJoin [pfx, tail]) = true := by
  obtain ⟨ps, hps, ep⟩ := cleanAbs_comps pfx hp
  obtain ⟨ds, hds, ed⟩ := cleanAbs_comps (pathDir source) (pathDir_cleanAbs hs)
  obtain ⟨ts, hts, et⟩ := cleanAbs_comps tail ht
  have htne : ts ≠ [] := by intro e; apply hne; rw [et, e]; rfl
  have hj : pathJoin [pfx, tail] = absPath (ps ++ ts) := by rw [ep, et]; exact pathJoin_abs_abs ps ts hps hts
  refine ⟨?_, ?_, ?_⟩
  · unfold srcName
    rw [hj, ed, et, pathJoin_abs_abs ds ts hds hts, ep]
    by_cases hd : ds = []
    · subst hd
      have : (absPath ([] ++ ts)).drop (absPath []).length = joinWith SLASH ts := by
        simp [absPath, joinWith]
      rw [this]
      exact pathJoin_abs_rel ps ts hps hts htne
    · rw [absPath_append_abs ds ts hd htne, List.drop_left]
      exact pathJoin_abs_abs ps ts hps hts
  · rw [hj]; exact cleanAbs_absPath _ (mem_append_clean hps hts)
  · rw [hj, ep, under_absPath ps (ps ++ ts) hps (mem_append_clean hps hts)]
    exact List.prefix_append ps ts

/-- Over a host tree of clean absolute paths below the source
    pattern's directory, every name a wildcard add line with `src=` yields is clean, absolute,
    at or below `prefix`, and is `path.Join(prefix, tail)` for a match
    `path.Join(path.Dir(source), tail)` — whether that directory is "/" or not. -/
theorem src_names_below_prefix (t : HostTree) (pfx source : Bytes) (r : Bool)
    (hp : CleanAbs pfx) (hs : CleanAbs source) (ht : TreeBelow (pathDir source) t) :
    ∀ n ∈ wildcardNamesSrc t pfx source r,
      CleanAbs n ∧ Fs.under pfx n = true ∧
      ∃ tail, CleanAbs tail ∧ pathJoin [pathDir source, tail] ∈ globHost t source r ∧
        n = pathJoin [pfx, tail] := by
  intro n hn
  unfold wildcardNamesSrc at hn
  obtain ⟨m, hm, e⟩ := List.mem_map.mp hn
  obtain ⟨hmc, hmb⟩ := ht m (globHost_sub t _ r m hm)
  obtain ⟨tail, htc, htne, em⟩ := below_join (pathDir_cleanAbs hs) hmc hmb
  obtain ⟨h1, h2, h3⟩ := src_name_join pfx source tail hp hs htc htne
  rw [em, h1] at e
  subst e
  exact ⟨h2, h3, tail, htc, by rw [← em]; exact hm, rfl⟩

/-- host files for `src=` lines: directly below "/", below /s, with a blank, nested -/
def tSrc : HostTree := ⟨[
  (b!"/sr1", .file), (b!"/sr 2", .file), (b!"/srd", .dir), (b!"/srd/in", .file),
  (b!"/srl", .symlink)]⟩
def tSrcS : HostTree := ⟨tSrc.nodes.map fun n => (b!"/s" ++ n.1, n.2)⟩

/-- with the source pattern directly below "/" the code's
    `path.Join(prefix, m[1:])` is the name below the prefix, `prefix + m[1:]` is not; below any
    other directory the two agree -/
theorem src_concat_differs_at_root :
    wildcardNamesSrc tSrc b!"/p q" b!"/sr*" false = [b!"/p q/sr 2", b!"/p q/sr1", b!"/p q/srd", b!"/p q/srl"] ∧
    wildcardNamesSrcConcat tSrc b!"/p q" b!"/sr*" false = [b!"/p qsr 2", b!"/p qsr1", b!"/p qsrd", b!"/p qsrl"] ∧
    wildcardNamesSrcConcat tSrcS b!"/p q" b!"/s/sr*" false = wildcardNamesSrc tSrcS b!"/p q" b!"/s/sr*" false := by
  decide +kernel

example : TreeBelow (pathDir b!"/sr*") tSrc ∧ CleanAbs b!"/p q" ∧ CleanAbs b!"/sr*" := by decide +kernel
example : TreeBelow (pathDir b!"/s/sr*") tSrcS := by decide +kernel
/-- a `dir` line with `src=`: the directory, what is below it, the symlink alone -/
example : wildcardNamesSrc tSrcS b!"/p" b!"/s/srd*" true = [b!"/p/srd", b!"/p/srd/in"] := by decide +kernel
example : wildcardNamesSrc tSrc b!"/p" b!"/sr*" true =
    [b!"/p/sr 2", b!"/p/sr1", b!"/p/srd", b!"/p/srd/in", b!"/p/srl"] := by decide +kernel

/-- OUTSIDE the theorems' hypotheses (the tree is not below `path.Dir(source)` as a byte
    string): the directory part of the pattern may carry `\*` (the tokenizer keeps that escape,
    `parseSource` does not count it as a wildcard), `filepath.Glob` reads it as a literal `*`,
    but the cut is the length of the PATTERN's directory, escapes included.  One escape is
    absorbed by `path.Join` (the cut eats the slash only); two eat into the name. -/
theorem src_cut_counts_escapes :
    wildcardNamesSrc ⟨[(b!"/a*/x1", .file)]⟩ b!"/p" b!"/a\\*/x*" false = [b!"/p/x1"] ∧
    wildcardNamesSrc ⟨[(b!"/a**/x1", .file)]⟩ b!"/p" b!"/a\\*\\*/x*" false = [b!"/p/1"] := by decide +kernel

end Lc.Props.C17Glob
