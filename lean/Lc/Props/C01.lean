/-
  C01 — mount brings a layer stack to exactly its configured mounts, only as needed.

  Theorems over the command model (`Lc/Model/Layers.lean`): for EVERY configuration, `Defs`
  (forest, cached mount table), layer name and world (file system, kernel table, pretend /
  fault / crash switches), and for every exit of the run (normal or error).  The
  operations a run issues are what it appends to `World.trace`; `Emitted m w s` says the
  run of `m` from `w` appended exactly `s`.

  Master results (Lc/Lemmas/MountTrace.lean): `mountOne_run` — the trace of `mountOne` is
  `[overlay call]? ++ seg(import 1) ++ … ++ seg(import n)` in configuration order, a
  segment being `[mkdir source]? ++ ([] | mount call [propagation call]?)` and non-empty
  only if the cached table has no mount on the mountpoint; an error exit has issued a
  prefix of such a trace.  `mountCmd_emits` — the trace of `mountCmd` is
  mkdirs ++ one `mountOne` segment per chain layer, root base layer first, each run with the
  `Defs` returned by the previous layer's `mountOne` ++ export-link operations.
-/
import Lc.Lemmas.MountShape
import Lc.Lemmas.Expand
import Lc.Lemmas.KernelProbe
import Lc.Lemmas.MountKernel
import Lc.Lemmas.MountArgs
import Lc.Lemmas.MountTwice
import Lc.Lemmas.InputBytes

namespace Lc.Props.C01
open Lc Lc.Layers Lc.Mountinfo Lc.Trace Lc.MountTrace Lc.Expand

/-- the run appends some list of operations and never shortens the trace -/
theorem mountOne_emits_something (cfg : Config) (d : Defs) (name : Bytes) (w : World) :
    ∃ s, Emitted (mountOne cfg d name) w s := by
  obtain ⟨s, h, _⟩ := mountOne_run cfg d name w
  exact ⟨s, h⟩

/-- the option string and arguments of the overlay call, spelled out -/
theorem overlayOp_eq (cfg : Config) (bl l : Layer) :
    overlayOp cfg bl l = Op.mount b!"overlay" (buildPath cfg l) b!"overlay" 0
      (b!"lowerdir=" ++ buildPath cfg bl ++ b!",upperdir=" ++ upperPath cfg l
        ++ b!",workdir=" ++ workPath cfg l) := by
  simp [overlayOp, mountOp, mountFlags, ovData]

/-- **mount_trace_subset_config** ("exactly, nothing else is mounted"): every structural
    mount call of `mountOne` (any exit) is the overlay of that layer on its build path with
    the prescribed arguments, or the mount of one configured import `m` of that layer:
    target `pathJoin [buildPath l, m.mount]`, type `m.fstype`, source `m.source` resolved by
    `adjustPrefixedPath`, flags determined by the type as in `fs.Mount`, no data.  In both
    cases the cached table held no mount on the target. -/
theorem mount_trace_subset_config (cfg : Config) (d : Defs) (name : Bytes) (w : World) (s : List Op)
    (h : Emitted (mountOne cfg d name) w s) (src tgt fs : Bytes) (fl : Nat) (data : Bytes)
    (hop : Op.mount src tgt fs fl data ∈ s) (hs : isPropCall (.mount src tgt fs fl data) = false) :
    ∃ l, findLayer d name = some l ∧ getMount d.mounts tgt = none ∧
      ((l.base.length > 0 ∧ ∃ bl, findLayer d l.base = some bl ∧ src = b!"overlay" ∧
          tgt = buildPath cfg l ∧ fs = b!"overlay" ∧ fl = 0 ∧
          data = b!"lowerdir=" ++ buildPath cfg bl ++ b!",upperdir=" ++ upperPath cfg l
                  ++ b!",workdir=" ++ workPath cfg l) ∨
       (∃ ex e m, expandConfigMounts cfg d l = .ok ex ∧ e ∈ ex ∧ m ∈ l.cmounts ∧
          ExpandsTo cfg d l m e ∧ src = e.source ∧ tgt = e.mount ∧ fs = e.fstype ∧
          tgt = pathJoin [buildPath cfg l, m.mount] ∧ fs = m.fstype ∧
          fl = mountFlags fs ∧ data = [])) := by
  obtain ⟨hE, _⟩ := mountOne_emitted h
  obtain ⟨l, hl, hal⟩ := hE.ops _ hop
  refine ⟨l, hl, ?_⟩
  rcases hal with ⟨hb, hg, bl, hbl, hov⟩ | ⟨ex, e, hex, hee, hi⟩
  · rw [overlayOp_eq] at hov
    simp only [Op.mount.injEq] at hov
    obtain ⟨rfl, rfl, rfl, rfl, rfl⟩ := hov
    exact ⟨hg, .inl ⟨hb, bl, hbl, rfl, rfl, rfl, rfl, rfl⟩⟩
  · rcases hi with hi | ⟨hg, hi | ⟨_, hi⟩⟩
    · cases hi
    · simp only [mountOp, Op.mount.injEq] at hi
      obtain ⟨rfl, rfl, rfl, rfl, rfl⟩ := hi
      obtain ⟨m, hm, hme⟩ := expand_mem hex e hee
      exact ⟨hg, .inr ⟨ex, e, m, hex, hee, hm, hme, rfl, rfl, rfl, hme.1, hme.2.1, rfl, rfl⟩⟩
    · rw [hi, propOp_is_prop] at hs
      cases hs

/-- **mountOne_targets_unmounted**: every mount call of `mountOne` that is not a propagation
    call targets a path on which the cached table (`d.mounts`, as it was when `mountOne`
    started) has no mount — on every exit. -/
theorem mountOne_targets_unmounted (cfg : Config) (d : Defs) (name : Bytes) (w : World) (s : List Op)
    (h : Emitted (mountOne cfg d name) w s) (src tgt fs : Bytes) (fl : Nat) (data : Bytes)
    (hop : Op.mount src tgt fs fl data ∈ s) (hs : isPropCall (.mount src tgt fs fl data) = false) :
    getMount d.mounts tgt = none := by
  obtain ⟨_, _, hg, _⟩ := mount_trace_subset_config cfg d name w s h src tgt fs fl data hop hs
  exact hg

/-- nothing but mkdir and mount operations is issued by `mountOne`; a propagation call only
    on the mountpoint of a configured import whose source is /dev, /sys or /run -/
theorem mountOne_only_mkdir_mount (cfg : Config) (d : Defs) (name : Bytes) (w : World) (s : List Op)
    (h : Emitted (mountOne cfg d name) w s) (op : Op) (hop : op ∈ s) :
    (∃ p, op = .mkdir p) ∨ isMountOp op = true := by
  obtain ⟨hE, _⟩ := mountOne_emitted h
  obtain ⟨l, _, hal⟩ := hE.ops _ hop
  rcases hal with ⟨_, _, bl, _, hov⟩ | ⟨ex, e, _, _, hi⟩
  · rw [hov]; exact .inr rfl
  · rcases hi with hi | ⟨_, hi | ⟨_, hi⟩⟩
    · exact .inl ⟨_, hi⟩
    · rw [hi]; exact .inr rfl
    · rw [hi]; exact .inr rfl

/-- **mount_overlay_args**: the only call of `mountOne` that carries mount data is the overlay
    call, and its data is exactly `lowerdir=<parent build>,upperdir=<own upper>,workdir=<own work>`,
    source and type "overlay", target the layer's build path, flags 0. -/
theorem mount_overlay_args (cfg : Config) (d : Defs) (name : Bytes) (w : World) (s : List Op)
    (h : Emitted (mountOne cfg d name) w s) (src tgt fs : Bytes) (fl : Nat) (data : Bytes)
    (hop : Op.mount src tgt fs fl data ∈ s) (hdata : data ≠ []) :
    ∃ l bl, findLayer d name = some l ∧ findLayer d l.base = some bl ∧
      src = b!"overlay" ∧ tgt = buildPath cfg l ∧ fs = b!"overlay" ∧ fl = 0 ∧
      data = b!"lowerdir=" ++ buildPath cfg bl ++ b!",upperdir=" ++ upperPath cfg l
              ++ b!",workdir=" ++ workPath cfg l := by
  obtain ⟨hE, _⟩ := mountOne_emitted h
  obtain ⟨l, hl, hal⟩ := hE.ops _ hop
  rcases hal with ⟨hb, hg, bl, hbl, hov⟩ | ⟨ex, e, hex, hee, hi⟩
  · rw [overlayOp_eq] at hov
    simp only [Op.mount.injEq] at hov
    obtain ⟨rfl, rfl, rfl, rfl, rfl⟩ := hov
    exact ⟨l, bl, hl, hbl, rfl, rfl, rfl, rfl, rfl⟩
  · exfalso
    rcases hi with hi | ⟨hg, hi | ⟨_, hi⟩⟩
    · cases hi
    · simp only [mountOp, Op.mount.injEq] at hi
      exact hdata hi.2.2.2.2
    · simp only [propOp, Op.mount.injEq] at hi
      exact hdata hi.2.2.2.2

/-- an operation of an import is never the overlay call -/
theorem itemOp_ne_overlay (cfg : Config) (d : Defs) (e : Expanded) (bl l : Layer) (op : Op)
    (hi : IsItemOp d e op) : op ≠ overlayOp cfg bl l := by
  intro heq
  rw [overlayOp_eq] at heq
  rcases hi with hi | ⟨_, hi | ⟨_, hi⟩⟩
  · rw [hi] at heq; cases heq
  · rw [hi] at heq
    simp only [mountOp, Op.mount.injEq] at heq
    have := heq.2.2.2.2
    simp at this
  · rw [hi] at heq
    simp only [propOp, Op.mount.injEq] at heq
    have := heq.2.2.1
    simp at this

/-- **mount_order (overlay before imports)**: on every exit the trace of `mountOne` is either
    made of import operations only, or it is the overlay call followed by import operations
    only; so the overlay call — if issued — precedes every import mount. -/
theorem mount_order_overlay_first (cfg : Config) (d : Defs) (name : Bytes) (w : World) (s : List Op)
    (h : Emitted (mountOne cfg d name) w s) :
    s = [] ∨ ∃ l, findLayer d name = some l ∧
      ∃ it, (s = it ∨ ∃ bl, findLayer d l.base = some bl ∧ s = overlayOp cfg bl l :: it) ∧
        ∀ op ∈ it, (∃ ex e, expandConfigMounts cfg d l = .ok ex ∧ e ∈ ex ∧ IsItemOp d e op) ∧
                   ∀ bl, op ≠ overlayOp cfg bl l := by
  obtain ⟨hE, _⟩ := mountOne_emitted h
  rcases hE.shape with h0 | ⟨l, hl, it, hs, hit⟩
  · exact .inl h0
  · refine .inr ⟨l, hl, it, ?_, ?_⟩
    · rcases hs with hs | ⟨bl, _, hbl, hs⟩
      · exact .inl hs
      · exact .inr ⟨bl, hbl, hs⟩
    · intro op hop
      obtain ⟨ex, e, hex, hee, hi⟩ := hit op hop
      exact ⟨⟨ex, e, hex, hee, hi⟩, fun bl => itemOp_ne_overlay cfg d e bl l op hi⟩

/-- **mount_order (propagation)**: in the trace of `mountOne` every mount whose source is
    /dev, /sys or /run is immediately followed by `mount("", sameTarget, "", MS_SLAVE|MS_REC)`;
    on an error exit the only exception is such a mount being the very last operation (the
    kernel refused it, the run stopped).  On a normal exit there is no exception. -/
theorem mount_order_propagation (cfg : Config) (d : Defs) (name : Bytes) (w : World) (s : List Op)
    (h : Emitted (mountOne cfg d name) w s) :
    SlaveAdj false s ∧ (∀ d', ((mountOne cfg d name).run.run w).1 = .ok d' → SlaveAdj true s) := by
  obtain ⟨hE, hN⟩ := mountOne_emitted h
  refine ⟨hE.slave, ?_⟩
  intro d' hd
  obtain ⟨l, _, ht⟩ := hN d' hd
  exact ht.slave

/-- `SlaveAdj` read at a position: the successor of a /dev, /sys, /run mount -/
theorem SlaveAdj.at {strict : Bool} {s : List Op} (h : SlaveAdj strict s) (a b : List Op)
    (src tgt fs : Bytes) (fl : Nat) (data : Bytes) (hs : s = a ++ Op.mount src tgt fs fl data :: b)
    (hn : needsSlave src = true) :
    (b = [] ∧ strict = false) ∨ ∃ b', b = propOp tgt data :: b' := by
  subst hs
  induction a with
  | nil =>
    have := h.1 src tgt fs fl data rfl hn
    cases b with
    | nil => exact .inl ⟨rfl, this⟩
    | cons x b' => exact .inr ⟨b', by rw [this]⟩
  | cons x a ih => exact ih h.2

/-- **mount_order (chain)** and the lift of the per-layer results to the whole command:
    on every exit the trace of `mountCmd` consists of file-system operations only (early
    failure), or it is  pre ++ segs ++ post  where pre (directory creation) and post (export
    links) contain no mount/umount call, `chain` is the base chain of the named layer in `d`
    with the root base layer first, and `segs` is the concatenation, in chain order, of one
    `mountOne` trace per chain layer (the last one possibly cut short by an error), the first
    run with the cached table the command started with, each further one with the `Defs` the
    previous layer's `mountOne` returned. -/
theorem mountCmd_trace (cfg : Config) (d : Defs) (name : Bytes) (w : World) (s : List Op)
    (h : Emitted (mountCmd cfg d name) w s) :
    MountCmdE cfg d name s ∧
      (∀ d', ((mountCmd cfg d name).run.run w).1 = .ok d' → MountCmdN cfg d name s) :=
  (mountCmd_emits cfg d name).emitted (fun _ _ h => h.toE) h

/-- the chain starts at a layer without base (the root base layer) … -/
theorem BaseChain.root_first {d : Defs} {chain : List Layer} {n : Bytes} (h : BaseChain d chain n) :
    ∀ a rest, chain = a :: rest → a.base.length = 0 := by
  induction h with
  | nil _ => intro a rest h; cases h
  | snoc hl hn hc ih =>
    rename_i c l n'
    intro a rest heq
    cases c with
    | nil =>
      simp only [List.nil_append, List.cons.injEq] at heq
      rw [← heq.1]
      generalize hnil : ([] : List Layer) = c0 at hc
      cases hc with
      | nil h0 => exact h0
      | snoc _ _ _ => simp at hnil
    | cons x c' =>
      simp only [List.cons_append, List.cons.injEq] at heq
      exact ih a c' (by rw [heq.1])

/-- … and ends at the named layer, every element being the `d`-entry of its name and the
    base of each element being the name of its predecessor -/
theorem BaseChain.last {d : Defs} {c : List Layer} {l : Layer} {n : Bytes}
    (h : BaseChain d (c ++ [l]) n) : findLayer d n = some l ∧ BaseChain d c l.base := by
  generalize hc : c ++ [l] = c' at h
  cases h with
  | nil _ => simp at hc
  | snoc hl hn hb =>
    obtain ⟨h1, h2⟩ := List.append_inj' hc rfl
    simp only [List.cons.injEq, and_true] at h2
    subst h1; subst h2
    exact ⟨hl, hb⟩

/-- every operation of the per-layer segments lies in the segment of some chain layer `a`,
    run with some `Defs` `d'` handed to that layer's `mountOne` -/
theorem FoldErr.mem {cfg : Config} {d0 : Defs} {chain : List Layer} {s : List Op}
    (h : FoldErr (SegN cfg) (SegE cfg) d0 chain s) :
    ∀ op ∈ s, ∃ d' a seg, a ∈ chain ∧ MountOneE cfg d' a.name seg ∧ op ∈ seg := by
  induction h with
  | here hseg => intro op hop; exact ⟨_, _, _, List.mem_cons_self, hseg, hop⟩
  | later hseg _ ih =>
    intro op hop
    rcases List.mem_append.mp hop with hop | hop
    · exact ⟨_, _, _, List.mem_cons_self, MountOneN.toE hseg.1, hop⟩
    · obtain ⟨d', a, seg, ha, hs, ho⟩ := ih op hop
      exact ⟨d', a, seg, List.mem_cons_of_mem _ ha, hs, ho⟩

theorem FoldOk.mem {cfg : Config} {d0 d1 : Defs} {chain : List Layer} {s : List Op}
    (h : FoldOk (SegN cfg) d0 chain s d1) :
    ∀ op ∈ s, ∃ d' a seg, a ∈ chain ∧ MountOneE cfg d' a.name seg ∧ op ∈ seg := by
  induction h with
  | nil _ => intro op hop; cases hop
  | cons hseg _ ih =>
    intro op hop
    rcases List.mem_append.mp hop with hop | hop
    · exact ⟨_, _, _, List.mem_cons_self, MountOneN.toE hseg.1, hop⟩
    · obtain ⟨d', a, seg, ha, hs, ho⟩ := ih op hop
      exact ⟨d', a, seg, List.mem_cons_of_mem _ ha, hs, ho⟩

/-- **mountCmd_targets_unmounted**: every structural mount call of the whole command belongs
    to the `mountOne` of a chain layer `a` and targets a path that was not a mountpoint in the
    cached table of the `Defs` `d'` held during that layer's `mountOne`; it is the overlay of
    `a` or one of its configured imports (all of `mount_trace_subset_config` applies to it). -/
theorem mountCmd_targets_unmounted (cfg : Config) (d : Defs) (name : Bytes) (w : World) (s : List Op)
    (h : Emitted (mountCmd cfg d name) w s) (src tgt fs : Bytes) (fl : Nat) (data : Bytes)
    (hop : Op.mount src tgt fs fl data ∈ s) (hs : isPropCall (.mount src tgt fs fl data) = false) :
    ∃ d' l, (∃ chain, BaseChain d chain name ∧ ∃ a ∈ chain, findLayer d' a.name = some l) ∧
      getMount d'.mounts tgt = none ∧ OpAllowed cfg d' l (.mount src tgt fs fl data) := by
  obtain ⟨hE, _⟩ := mountCmd_trace cfg d name w s h
  rcases hE with hns | ⟨chain, pre, segs, post, d0, rfl, hpre, hpost, hchain, _, hsegs⟩
  · have := hns _ hop
    simp [isSys, isMountOp] at this
  · have hin : Op.mount src tgt fs fl data ∈ segs := by
      rcases List.mem_append.mp hop with hop | hop
      · rcases List.mem_append.mp hop with hop | hop
        · have := hpre _ hop; simp [isSys, isMountOp] at this
        · exact hop
      · have := hpost _ hop; simp [isSys, isMountOp] at this
    have hmem : ∃ d' a seg, a ∈ chain ∧ MountOneE cfg d' a.name seg ∧ Op.mount src tgt fs fl data ∈ seg := by
      rcases hsegs with ⟨d1, hok⟩ | herr
      · exact FoldOk.mem hok _ hin
      · exact FoldErr.mem herr _ hin
    obtain ⟨d', a, seg, ha, hseg, hopseg⟩ := hmem
    obtain ⟨l, hl, hal⟩ := hseg.ops _ hopseg
    refine ⟨d', l, ⟨chain, hchain, a, ha, hl⟩, ?_, hal⟩
    rcases hal with ⟨_, hg, bl, _, hov⟩ | ⟨ex, e, _, _, hi⟩
    · rw [overlayOp_eq] at hov
      simp only [Op.mount.injEq] at hov
      rw [hov.2.1]; exact hg
    · rcases hi with hi | ⟨hg, hi | ⟨_, hi⟩⟩
      · cases hi
      · simp only [mountOp, Op.mount.injEq] at hi
        rw [hi.2.1]; exact hg
      · rw [hi, propOp_is_prop] at hs; cases hs

/-- **mount_idempotent_partial**: if, when `mountOne` starts, the cached table already shows a
    mount on the build path (derived layer) and on every expanded mountpoint, then `mountOne`
    issues no mount call at all (any exit).
    PARTIAL: the hypothesis speaks about the cache; that the cache is in this state after a
    successful earlier `mount` of the same layer is `mountOne_establishes_cache`, and the
    statement about two runs of the command without a cache hypothesis is `mount_idempotent`
    (both below, through the kernel model and the probe round-trip). -/
theorem mount_idempotent_partial (cfg : Config) (d : Defs) (name : Bytes) (w : World) (s : List Op)
    (h : Emitted (mountOne cfg d name) w s)
    (hov : ∀ l, findLayer d name = some l → l.base.length > 0 → getMount d.mounts (buildPath cfg l) ≠ none)
    (himp : ∀ l ex, findLayer d name = some l → expandConfigMounts cfg d l = .ok ex →
      ∀ e ∈ ex, getMount d.mounts e.mount ≠ none) :
    ∀ op ∈ s, isMountOp op = false := by
  obtain ⟨hE, _⟩ := mountOne_emitted h
  intro op hop
  obtain ⟨l, hl, hal⟩ := hE.ops _ hop
  rcases hal with ⟨hb, hg, _⟩ | ⟨ex, e, hex, hee, hi⟩
  · exact absurd hg (hov l hl hb)
  · rcases hi with hi | ⟨hg, _⟩
    · rw [hi]; rfl
    · exact absurd hg (himp l ex hl hex e hee)

/-! ### where configured imports go and what `$$self` / `$$base` mean -/

/-- every expanded import of `l` sits at `pathJoin [buildPath l, m.mount]` for a configured
    import `m`, keeps its type, and has the source `adjustPrefixedPath` computes -/
theorem expand_places_under_buildpath (cfg : Config) (d : Defs) (l : Layer) (ex : List Expanded)
    (h : expandConfigMounts cfg d l = .ok ex) :
    ex.length = l.cmounts.length ∧
    ∀ e ∈ ex, ∃ m ∈ l.cmounts, e.mount = pathJoin [buildPath cfg l, m.mount] ∧ e.fstype = m.fstype ∧
      adjustPrefixedPath m.source (resolver d l) = .ok e.source := by
  refine ⟨expand_length h, ?_⟩
  intro e he
  obtain ⟨m, hm, h1, h2, _, _, h5⟩ := expand_mem h e he
  exact ⟨m, hm, h1, h2, h5⟩

/-- `$$self[/tail]` is the layer's own directory joined with the tail -/
theorem resolve_self (d : Defs) (l : Layer) (tail : Bytes) (ht : tail = [] ∨ ∃ t, tail = 47 :: t)
    (src : Bytes) (h : adjustPrefixedPath (b!"$$self" ++ tail) (resolver d l) = .ok src) :
    src = pathJoin [l.layerPath, tail] := by
  rw [adjust_self tail ht] at h
  unfold absCheck at h
  split at h
  · cases h
  · cases h; rfl

/-- `$$base[/tail]` is the directory of the root base layer of `l` (reached over base links,
    itself without base) joined with the tail -/
theorem resolve_base (d : Defs) (l : Layer) (tail : Bytes) (ht : tail = [] ∨ ∃ t, tail = 47 :: t)
    (src : Bytes) (h : adjustPrefixedPath (b!"$$base" ++ tail) (resolver d l) = .ok src) :
    ∃ r, UpChain d l r ∧ r.base.length = 0 ∧ src = pathJoin [r.layerPath, tail] := by
  cases hr : findLayerBase d (d.layers.length + 1) l with
  | none =>
    unfold adjustPrefixedPath at h
    rw [decompose_base tail ht] at h
    simp [resolver, hr] at h
    cases h
  | some r =>
    obtain ⟨h1, h2⟩ := findLayerBase_root d _ l r hr
    rw [adjust_base tail ht d l r hr] at h
    unfold absCheck at h
    split at h
    · cases h
    · cases h; exact ⟨r, h2, h1, rfl⟩

/-! ### non-vacuity: a derived layer with a /dev rbind and a `$$base` import -/

namespace Example
def cfg0 : Config := { basepath := b!"/b", layerdirs := b!"/b/L", buildRoot := b!"build", binPkg := b!"pk", generated := b!"gen", workdir := b!"work", upperdir := b!"upper", exportdirs := b!"/b/E", exportBinPkg := b!"p", exportGenerated := b!"g" }
def lb : Layer := { name := b!"b0", layerPath := b!"/b/L/b0", state := S_mountable, cmounts := [⟨b!"/dev", b!"/dev", b!"rbind"⟩] }
def lx : Layer := { name := b!"x", base := b!"b0", layerPath := b!"/b/L/x", state := S_mountable, cmounts := [⟨b!"/dev", b!"/dev", b!"rbind"⟩, ⟨b!"/pk", b!"$$base/pk", b!"bind"⟩] }
def d0 : Defs := { layers := [lb, lx], order := [b!"b0", b!"x"] }
/-- host with / and /dev mounted, /dev present; the fourth fault point (the mkdir after the propagation call, which is a fault point of its own) is made to fail -/
def w0 : World := { fs := [(b!"/dev", .dir)], kt := { mnts := [⟨1, 0, b!"0:1", [47], [47], b!"ext4", b!"/dev/sda", [], [], []⟩, ⟨2, 1, b!"0:5", [47], b!"/dev", b!"devtmpfs", b!"devtmpfs", [], [], []⟩] }, faultAt := some 4 }
def exX : List Expanded := [⟨b!"/b/L/x/build/dev", b!"/dev", b!"rbind", b!"/dev", b!"/dev"⟩, ⟨b!"/b/L/x/build/pk", b!"/b/L/b0/pk", b!"bind", b!"/pk", b!"$$base/pk"⟩]

set_option maxHeartbeats 2000000 in
/-- a real run of the model: overlay call, /dev rbind, propagation call, then the injected
    fault stops it (the hypotheses `Emitted … s`, `op ∈ s`, structural / propagation are all
    inhabited) -/
example : Emitted (mountOne cfg0 d0 b!"x") w0
    [overlayOp cfg0 lb lx, mountOp b!"/dev" b!"/b/L/x/build/dev" b!"rbind" [], propOp b!"/b/L/x/build/dev" []] := by
  unfold Emitted; decide +kernel

example : expandConfigMounts cfg0 d0 lx = .ok exX := by rfl

/-- the complete trace shape of the same layer is an instance of the grammar -/
example : MountOneN cfg0 d0 b!"x"
    ([overlayOp cfg0 lb lx] ++ (([] ++ ([] ++ fsMountOps b!"/dev" b!"/b/L/x/build/dev" b!"rbind" [])) ++
      ([Op.mkdir b!"/b/L/b0/pk"] ++ fsMountOps b!"/b/L/b0/pk" b!"/b/L/x/build/pk" b!"bind" []))) :=
  ⟨lx, rfl, _, _, rfl, .inr ⟨by decide, rfl, lb, rfl, rfl⟩, .inr ⟨exX, rfl,
    ItemSegs.snoc (ms := [_]) (ItemSegs.snoc (ms := []) ItemSegs.nil ⟨[], _, rfl, .inl rfl, .inr ⟨rfl, rfl⟩⟩)
      ⟨_, _, rfl, .inr rfl, .inr ⟨rfl, rfl⟩⟩⟩⟩

/-- `$$base/pk` of the derived layer resolves into the root base layer's directory -/
example : adjustPrefixedPath (b!"$$base" ++ b!"/pk") (resolver d0 lx) = .ok b!"/b/L/b0/pk" := by rfl
example : BaseChain d0 ([] ++ [lb] ++ [lx]) b!"x" :=
  BaseChain.snoc (l := lx) rfl (by decide) (BaseChain.snoc (l := lb) rfl (by decide) (BaseChain.nil rfl))
end Example

/-! ## The kernel table, its probe, and idempotence

  `Kernel.probe t` renders the kernel-table model as /proc/self/mountinfo text and parses it
  with the model of `fs.ProbeMounts`; C12 proves that parser against the kernel's escaping.
  The theorems below connect the three (`probe_sees_table`, `kmount_then_probe`), show what a
  successful `mountOne` leaves in the kernel table and in the cache it returns
  (`mountOne_mounts_all`, `mountOne_establishes_cache`), and compose them over the chain and
  over two consecutive runs of the command (`mount_idempotent`). -/

open Lc.Kernel Lc.KernelProbe Lc.MountKernel Lc.MountArgs Lc.Spec Lc.MountChain Lc.InputBytes Lc.FsGrow

/-- **probe_sees_table**: for every well-formed kernel table (device numbers and types are
    tokens; root, mountpoint, source, overlay directories any byte strings; no overlay workdir
    ending in CR) the probe succeeds, and `GetMount` on the result finds a mount at a path
    exactly when the table has a mount with that mountpoint; with stacked mounts it reports the
    topmost (latest) one, with its type, device, root and overlay directories. -/
theorem probe_sees_table {t : KTable} (h : KWF t) :
    ∃ M, Kernel.probe t = .ok M ∧
      (∀ mp, getMount M mp = none ↔ topmostAt t.mnts mp = none) ∧
      (∀ mp km, topmostAt t.mnts mp = some km → ∃ e, getMount M mp = some e ∧ Reports e km) :=
  KernelProbe.probe_sees_table h

/-- `kmount` keeps a well-formed table well-formed (remounts and propagation changes need no
    condition: they do not change the table) -/
theorem kmount_keeps_wf {t t' : KTable} {src tgt fstype : Bytes} {flags : Nat} {data : Bytes}
    (ht : KWF t) (ha : isStructural flags = true → ArgsOK src tgt fstype flags data)
    (h : kmount t src tgt fstype flags data = .ok t') : KWF t' :=
  kmount_wf ht ha h

/-- **kmount_then_probe**: after a successful `mount(2)` on a well-formed table the probe of
    the new table succeeds and shows a mount at the target; every mountpoint the probe of the
    old table showed is still shown; for an overlay mount the entry found has type "overlay"
    and the lower/upper/work directories the option parser reads from the mount data. -/
theorem kmount_then_probe {t t' : KTable} {src tgt fstype : Bytes} {flags : Nat} {data : Bytes}
    (ht : KWF t) (ha : isStructural flags = true → ArgsOK src tgt fstype flags data)
    (h : kmount t src tgt fstype flags data = .ok t') :
    ∃ M e, Kernel.probe t' = .ok M ∧ getMount M tgt = some e ∧ e.mountpoint = tgt ∧
      (∀ M0 mp, Kernel.probe t = .ok M0 → getMount M0 mp ≠ none → getMount M mp ≠ none) ∧
      (isStructural flags = true → hasFlag flags MS_BIND = false → fstype = b!"overlay" →
        e.fstype = b!"overlay" ∧ e.source = (parseOverlayOpts data).lower ∧
        e.source2 = (parseOverlayOpts data).upper ∧ e.workdir = (parseOverlayOpts data).work) := by
  have ht' := kmount_wf ht ha h
  obtain ⟨M, hM, hnone, hsome⟩ := KernelProbe.probe_sees_table ht'
  have hhas := kmount_has h
  rw [hasMount_iff_topmost] at hhas
  cases hk : topmostAt t'.mnts tgt with
  | none => exact absurd hk hhas
  | some km =>
    obtain ⟨e, he, hr⟩ := hsome tgt km hk
    obtain ⟨_, _, _, hmp, _⟩ := KernelUmount.topmostAt_some hk
    refine ⟨M, e, hM, he, hr.mountpoint.trans hmp, ?_, ?_⟩
    · intro M0 mp hM0 hg
      rw [probe_getMount_iff ht' hM]
      exact (kmount_ext h).hasMount ((probe_getMount_iff ht hM0 mp).mp hg)
    · intro hs hb hf
      obtain ⟨km', hk', h1, _, h3, h4, h5⟩ := kmount_overlay_top hs hb hf h
      rw [hk] at hk'
      cases hk'
      obtain ⟨e1, e2, e3⟩ := hr.overlay h1
      exact ⟨hr.fstype.trans h1, e1.trans h3, e2.trans h4, e3.trans h5⟩

namespace Example
/-- host table: / on ext4, /dev on devtmpfs -/
def kt0 : KTable := { mnts := [⟨1, 0, b!"8:1", [47], [47], b!"ext4", b!"/dev/sda", [], [], []⟩,
                               ⟨2, 1, b!"0:5", [47], b!"/dev", b!"devtmpfs", b!"devtmpfs", [], [], []⟩] }

end Example

theorem Example.kt0_wf : KWF Example.kt0 := by
  intro m hm
  simp only [Example.kt0, List.mem_cons, List.not_mem_nil, or_false] at hm
  rcases hm with rfl | rfl <;> constructor <;> simp only [TokenOK, IsB] <;> decide

namespace Example
/-- the overlay mount of layer x below a base path with a blank: hypotheses of
    `kmount_then_probe` hold and the call succeeds -/
def ovArgs : Bytes := b!"lowerdir=/my b/L/b0/build,upperdir=/my b/L/x/upper,workdir=/my b/L/x/work"
end Example

theorem Example.ovArgs_ok : ArgsOK b!"overlay" b!"/my b/L/x/build" b!"overlay" 0 Example.ovArgs := by
  unfold Example.ovArgs
  exact ⟨by unfold IsB; decide +kernel, by unfold IsB; decide +kernel, fun _ => by unfold TokenOK; decide +kernel,
    by unfold IsB; decide +kernel, by decide +kernel⟩

namespace Example

example : ∃ t', kmount kt0 b!"overlay" b!"/my b/L/x/build" b!"overlay" 0 ovArgs = .ok t' ∧
    ∃ M e, Kernel.probe t' = .ok M ∧ getMount M b!"/my b/L/x/build" = some e ∧
      e.source = b!"/my b/L/b0/build" ∧ e.workdir = b!"/my b/L/x/work" ∧ getMount M b!"/dev" ≠ none := by
  refine ⟨_, rfl, ?_⟩
  obtain ⟨M, e, hM, he, _, hmono, hov⟩ := kmount_then_probe kt0_wf (fun _ => ovArgs_ok) rfl
  obtain ⟨_, h2, _, h4⟩ := hov (by decide) (by decide) rfl
  obtain ⟨M0, hM0, hn, _⟩ := probe_sees_table kt0_wf
  refine ⟨M, e, hM, he, h2.trans (by decide), h4.trans (by decide), hmono M0 _ hM0 ?_⟩
  rw [Ne, hn]
  decide
end Example

/-- **mountOne_mounts_all**: after a successful `mountOne` that is not pretending, started with
    a cache that shows no mountpoint the kernel table does not have, the kernel table of the
    resulting world carries a mount on the build path (derived layer) and on every expanded
    import mountpoint of the layer; it lost no entry. -/
theorem mountOne_mounts_all (cfg : Config) (d : Defs) (name : Bytes) (w w' : World) (d' : Defs)
    (hp : w.pretend = false) (hrun : (mountOne cfg d name).run.run w = (.ok d', w'))
    (hcache : ∀ p, getMount d.mounts p ≠ none → HasMount w.kt p) :
    Ext w.kt w'.kt ∧ ∃ l ex, findLayer d name = some l ∧ expandConfigMounts cfg d l = .ok ex ∧
      (l.base.length > 0 → HasMount w'.kt (buildPath cfg l)) ∧ ∀ e ∈ ex, HasMount w'.kt e.mount := by
  obtain ⟨_, hext, _, l, ex, hl, hex, hov, hit, _⟩ := mountOne_run_ok cfg d name w w' d' hp hrun
  refine ⟨hext, l, ex, hl, hex, ?_, ?_⟩
  · intro hb
    rcases hov hb with hc | hm
    · exact hext.hasMount (hcache _ hc)
    · exact hm
  · intro e he
    rcases hit e he with hc | hm
    · exact hext.hasMount (hcache _ hc)
    · exact hm

/-- **mountOne_establishes_cache**: if moreover the kernel table is well-formed and the layer
    records are byte strings (`DefsOK`), the table stays well-formed, the cache `mountOne`
    returns is the probe of the final table, it shows a mount exactly where the table has one,
    and therefore it shows a mount on the build path (derived layer) and on every expanded
    import mountpoint — the hypotheses of `mount_idempotent_partial` for the next `mountOne`
    of this layer. -/
theorem mountOne_establishes_cache (cfg : Config) (d : Defs) (name : Bytes) (w w' : World) (d' : Defs)
    (hp : w.pretend = false) (hrun : (mountOne cfg d name).run.run w = (.ok d', w'))
    (hcache : ∀ p, getMount d.mounts p ≠ none → HasMount w.kt p)
    (hwf : KWF w.kt) (hd : DefsOK cfg d) :
    KWF w'.kt ∧ Kernel.probe w'.kt = .ok d'.mounts ∧
    (∀ p, getMount d'.mounts p ≠ none ↔ HasMount w'.kt p) ∧
    ∃ l ex, findLayer d name = some l ∧ expandConfigMounts cfg d l = .ok ex ∧
      (l.base.length > 0 → getMount d'.mounts (buildPath cfg l) ≠ none) ∧
      ∀ e ∈ ex, getMount d'.mounts e.mount ≠ none := by
  obtain ⟨_, _, hprobe, _⟩ := mountOne_run_ok cfg d name w w' d' hp hrun
  obtain ⟨_, l, ex, hl, hex, hov, hit⟩ := mountOne_mounts_all cfg d name w w' d' hp hrun hcache
  have hwf' : KWF w'.kt := by
    have := Hoare.extract KW _ (mountOne_kw hd name) w hwf
    rw [hrun] at this
    exact this
  have hiff := fun p => probe_getMount_iff hwf' hprobe p
  exact ⟨hwf', hprobe, hiff, l, ex, hl, hex, fun hb => (hiff _).mpr (hov hb),
    fun e he => (hiff _).mpr (hit e he)⟩

/-- **mount_complete** (the first run, whole command): a successful `mountCmd` that is not
    pretending, on a well-formed kernel table, with well-formed layer records and a cache that
    shows no mountpoint the table does not have, leaves a mount on the build path of every
    derived layer and on every configured import mountpoint of every layer of the base chain
    (root base layer … named layer); kernel table and tree only gained entries. -/
theorem mount_complete (cfg : Config) (d d' : Defs) (name : Bytes) (w w' : World)
    (hp : w.pretend = false) (hwf : KWF w.kt) (hd : DefsOK cfg d)
    (hcache : ∀ p, getMount d.mounts p ≠ none → HasMount w.kt p)
    (h : (mountCmd cfg d name).run.run w = (.ok d', w')) :
    KWF w'.kt ∧ Ext w.kt w'.kt ∧ FsExt w.fs w'.fs ∧ ∃ chain, BaseChain d chain name ∧
      ∀ a ∈ chain, ∀ l, findLayer d a.name = some l →
        (l.base.length > 0 → HasMount w'.kt (buildPath cfg l)) ∧
        ∀ m ∈ l.cmounts, HasMount w'.kt (pathJoin [buildPath cfg l, m.mount]) := by
  obtain ⟨_, hwf', hk, chain, hc, hpts⟩ := MountTwice.mountCmd_first hp hwf hd hcache h
  exact ⟨hwf', hk.2.1, hk.2.2, chain, hc, hpts⟩

/-- **mount_idempotent**: for every configuration, in-use map, layer name and world `w`: if
    `layercake mount name` succeeds from `w`, then running the same command again from the
    resulting world `w1` issues no mount operation — whatever the second run returns, what it
    appends to the trace contains no `Op.mount` (only directory creation and export links can
    occur) — and leaves the kernel mount table as it is.
    Hypotheses, all about the inputs of the FIRST run: the kernel table is well-formed as the
    kernel prints it (`KWF`: device numbers and types are tokens, paths any byte strings, no
    overlay workdir ending in CR), and `InputsOK`: configuration paths, tree paths and file
    contents are byte strings (representation invariant of `Bytes = List Nat`), and no layer's
    overlay workdir read back from the mount data ends in a carriage return (C12's recorded
    finding `mountinfo-cr-at-line-end`; `workCR_of_plain` gives a plain sufficient condition).
    No condition on the layerconfig contents: duplicate, nested or escaping import mountpoints
    (finding `mount-config-not-sane`) do not affect idempotence.  Pretend mode, fault and crash
    switches are covered: under `-p` neither run attempts anything; a first run that hit the
    injected fault did not succeed. -/
theorem mount_idempotent (cfg : Config) (inuse : List (Bytes × List User)) (name : Bytes)
    (w w1 : World) (d1 : Defs) (hrun : run cfg inuse (.mount name) w = (.ok d1, w1))
    (hwf : KWF w.kt) (hin : InputsOK cfg w) :
    (run cfg inuse (.mount name) w1).2.kt = w1.kt ∧
    ∃ s, Emitted (runCmd cfg inuse (.mount name)) w1 s ∧ ∀ op ∈ s, isMountOp op = false :=
  MountTwice.mount_twice hrun hwf (fun _ h => getLayers_defsOK hin h)

namespace Example
def dirs (p : List Bytes) : Fs.Tree := p.map fun x => (x, Fs.Node.dir)
/-- base layer b0 (rbind of /dev) and derived layer x (rbind of /dev, bind of `$$base/pk`),
    build roots populated, nothing mounted yet -/
def fsF : Fs.Tree :=
  dirs [b!"/", b!"/b", b!"/b/L", b!"/dev", b!"/b/L/b0", b!"/b/L/b0/build",
        b!"/b/L/b0/build/bin", b!"/b/L/b0/build/etc", b!"/b/L/b0/build/lib", b!"/b/L/b0/build/opt",
        b!"/b/L/b0/build/root", b!"/b/L/b0/build/sbin", b!"/b/L/b0/build/usr", b!"/b/L/b0/build/dev",
        b!"/b/L/x", b!"/b/L/x/build", b!"/b/L/x/work", b!"/b/L/x/upper",
        b!"/b/L/x/build/bin", b!"/b/L/x/build/etc", b!"/b/L/x/build/lib", b!"/b/L/x/build/opt",
        b!"/b/L/x/build/root", b!"/b/L/x/build/sbin", b!"/b/L/x/build/usr", b!"/b/L/x/build/dev",
        b!"/b/L/x/build/pk"] ++
  [(b!"/b/L/b0/layerconfig", .file b!"import rbind /dev /dev\n"),
   (b!"/b/L/x/layerconfig", .file b!"base b0\n\nimport rbind /dev /dev\nimport bind $$base/pk /pk\n")]
def wF : World := { fs := fsF, kt := kt0 }

end Example

theorem Example.wF_inputsOK : InputsOK Example.cfg0 Example.wF :=
  ⟨by unfold IsB; decide +kernel, by unfold IsB; decide +kernel, by unfold IsB; decide +kernel,
    by unfold IsB; decide +kernel, treeB_of_check (by decide +kernel), by decide +kernel⟩

namespace Example
/-- what `getLayers` returns on that world -/
def dF : Defs := match (getLayers cfg0 []).run.run wF with
  | (.ok d, _) => d
  | _ => {}
end Example

/-- one evaluation of the model serves every fact read off it below: the whole command, the
    probe of the layers it begins with, and `mountOne` of the base layer from the probed `Defs` -/
theorem Example.wF_run : (run Example.cfg0 [] (.mount b!"x") Example.wF).1.toOption.isSome = true ∧
    ((run Example.cfg0 [] (.mount b!"x") Example.wF).2.trace.filter isMountOp).length = 6 ∧
    ((getLayers Example.cfg0 []).run.run Example.wF).1.toOption.isSome = true ∧
    ((mountOne Example.cfg0 Example.dF b!"b0").run.run Example.wF).1.toOption.isSome = true ∧
    (findLayer Example.dF b!"b0").map (·.cmounts) = some [⟨b!"/dev", b!"/dev", b!"rbind"⟩] ∧
    (findLayer Example.dF b!"b0").map (·.layerPath) = some b!"/b/L/b0" := by decide +kernel

/-- the hypothesis `hrun` of `mount_idempotent` is satisfiable: `mount x` on this world succeeds.
    That first run issues six mount calls (rbind + slave for b0; overlay, rbind + slave, bind
    for x), and the theorem applies to it: the `example`s below -/
theorem Example.wF_first_run :
    (run Example.cfg0 [] (.mount b!"x") Example.wF).1.toOption.isSome = true := Example.wF_run.1

namespace Example

example : (((run cfg0 [] (.mount b!"x") wF).2.trace.filter isMountOp).length = 6) := wF_run.2.1

end Example

theorem Example.dF_run : (getLayers Example.cfg0 []).run.run Example.wF = (.ok Example.dF, Example.wF) := by
  have h := Example.wF_run.2.2.1
  unfold Example.dF
  generalize hr : (getLayers Example.cfg0 []).run.run Example.wF = r at h ⊢
  obtain ⟨res, w'⟩ := r
  cases res with
  | error e => cases h
  | ok d => rw [(MountTwice.getLayers_run hr).1]

namespace Example
/-- `mountOne_mounts_all` / `mountOne_establishes_cache` on a real run: the base layer b0 from
    the freshly probed `Defs`; afterwards the returned cache shows the /dev import mounted -/
example : ∃ d' w', (mountOne cfg0 dF b!"b0").run.run wF = (.ok d', w') ∧
    HasMount w'.kt b!"/b/L/b0/build/dev" ∧ getMount d'.mounts b!"/b/L/b0/build/dev" ≠ none := by
  obtain ⟨h, hl', hlp⟩ := wF_run.2.2.2
  generalize hr : (mountOne cfg0 dF b!"b0").run.run wF = r at h
  obtain ⟨res, w'⟩ := r
  cases res with
  | error e => simp [Except.toOption] at h
  | ok d' =>
    obtain ⟨_, hprobe, _⟩ := MountTwice.getLayers_run dF_run
    have hcache : ∀ p, getMount dF.mounts p ≠ none → HasMount wF.kt p :=
      fun p hp => (probe_getMount_iff kt0_wf hprobe p).mp hp
    obtain ⟨_, _, hiff, l, ex, hl, hex, _, hit⟩ := mountOne_establishes_cache cfg0 dF b!"b0" wF w' d' rfl hr
      hcache kt0_wf (getLayers_defsOK wF_inputsOK dF_run)
    have hex' : ∀ e ∈ ex, e.mount = b!"/b/L/b0/build/dev" := by
      intro e he
      obtain ⟨m, hm, hme⟩ := expand_mem hex e he
      rw [hl] at hl'
      simp only [Option.map_some, Option.some.injEq] at hl'
      rw [hl'] at hm
      simp only [List.mem_singleton] at hm
      rw [hme.1, hm]
      rw [hl] at hlp
      simp only [Option.map_some, Option.some.injEq] at hlp
      unfold buildPath
      rw [hlp]
      decide
    have hne : ex ≠ [] := by
      intro e
      have := expand_length hex
      rw [hl] at hl'
      simp only [Option.map_some, Option.some.injEq] at hl'
      rw [e, hl'] at this
      simp at this
    obtain ⟨e, he⟩ := List.exists_mem_of_ne_nil ex hne
    have hg := hit e he
    rw [hex' e he] at hg
    exact ⟨d', w', rfl, (hiff _).mp hg, hg⟩

example : ∃ d1 w1, run cfg0 [] (.mount b!"x") wF = (.ok d1, w1) ∧
    (run cfg0 [] (.mount b!"x") w1).2.kt = w1.kt ∧
    ∃ s, Emitted (runCmd cfg0 [] (.mount b!"x")) w1 s ∧ ∀ op ∈ s, isMountOp op = false := by
  have h := wF_first_run
  generalize hr : run cfg0 [] (.mount b!"x") wF = r at h
  obtain ⟨res, w1⟩ := r
  cases res with
  | error e => simp [Except.toOption] at h
  | ok d1 => exact ⟨d1, w1, rfl, mount_idempotent cfg0 [] b!"x" wF w1 d1 hr kt0_wf wF_inputsOK⟩
end Example

end Lc.Props.C01
