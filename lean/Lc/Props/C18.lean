/-
  C18 — configuration resolves by documented precedence for every file chain.

  Property theorems over the model `Lc.Config.load` (config.go as it is after the two
  `fix:` commits) against the specification `Lc.Spec.Precedence`.  Helper lemmas live in
  Lc/Lemmas/Config.lean and Lc/Lemmas/Path.lean.  All statements quantify over every
  file system (a function from names to nodes), every environment, every switch
  combination; chains are of any length and shape.
-/
import Lc.Model.Config
import Lc.Spec.Precedence
import Lc.Lemmas.Config
import Lc.Lemmas.Path

namespace Lc.Props.C18
open Lc Lc.Config Lc.Spec.Precedence Lc.Lemmas.Config Lc.Lemmas.Path

deriving instance DecidableEq for Except

/-! ### a small world used by the non-vacuity examples -/

/-- /a.conf → /b.conf, two relative directory settings, a comment, odd spacing and case -/
def exFiles : List (Bytes × Node) :=
  [(b!"/a.conf", .file b!"# first\n layers = l\nCONFIGFILE=/b.conf\nBuildRoot = one\n"),
   (b!"/b.conf", .file b!"BASEPATH=/srv//x/\nbuildroot=two\nEXPORTS=../e\n"),
   (b!"/loop.conf", .file b!"CONFIGFILE = /loop2.conf\n"),
   (b!"/loop2.conf", .file b!"configfile=/loop.conf\n"),
   (b!"/bad.conf", .file b!"LAYERS=x\nBOGUS =\n")]

def exFs : Fs := fsOf exFiles
def exSw (f : Bytes) : Switches := { configfile := f }
def exEnv : Env := { argv0 := b!"/usr/bin/layercake" }

/-! ### 1. Load is the specified precedence -/

/-- The model of `config.Load` equals the specification on EVERY input: every file system
    (any number of files, any chain shape including cycles, missing files, directories),
    every environment, every switch combination, every amount of fuel — value and error
    class alike. -/
theorem load_eq_spec (fs : Fs) (env : Env) (sw : Switches) (fuel : Nat) :
    Config.load fs env sw fuel = Spec.Precedence.load fs env sw fuel := by
  unfold Config.load Spec.Precedence.load
  rw [loadSetup_eq]
  cases follow fs fuel (selectFile fs env sw) [] with
  | error f => rfl
  | ok cs =>
    simp only []
    cases resolve { switchBase := sw.basepath, envBase := env.layerroot, files := cs } <;> rfl

example : Config.load exFs exEnv (exSw b!"/a.conf") 6 =
    .ok { basepath := b!"/srv/x", layerdirs := b!"/srv/x/l", layerBuildRoot := b!"one",
          layerBinPkgdir := b!"packages", layerGeneratedir := b!"generated",
          layerOvfsWorkdir := b!"overlayfs/workdir", layerOvfsUpperdir := b!"overlayfs/upperdir",
          exportdirs := b!"/srv/e", exportBinPkgdir := b!"packages",
          exportGeneratedir := b!"generated", chrootExec := b!"/usr/bin/chroot" } := by
  decide +kernel

/-- For every chain of configuration files without a cycle — of any length — `Load`
    succeeds or fails exactly as the precedence rule says when applied to the chain's files
    in order: per key the switch, else the environment (base path only), else the first
    file of the chain that sets it, else the default; then the path treatment.  The chain
    is given relationally (`IsChain`, no fuel); `names.length` units of fuel suffice. -/
theorem load_chain_eq_spec (fs : Fs) (env : Env) (sw : Switches) (names contents : List Bytes)
    (fuel : Nat) (hchain : IsChain fs (selectFile fs env sw) names contents)
    (hacyclic : names.Nodup) (hfuel : names.length ≤ fuel) :
    Config.load fs env sw fuel =
      (resolve { switchBase := sw.basepath, envBase := env.layerroot, files := contents }).map
        toConfig := by
  rw [load_eq_spec]
  unfold Spec.Precedence.load
  obtain ⟨k, rfl⟩ : ∃ k, fuel = names.length + k := ⟨fuel - names.length, by omega⟩
  rw [follow_walk hchain [] k hacyclic (by simp), follow_nil]
  simp only [List.append_nil]
  cases resolve { switchBase := sw.basepath, envBase := env.layerroot, files := contents } <;> rfl

example : IsChain exFs (selectFile exFs exEnv (exSw b!"/a.conf")) [b!"/a.conf", b!"/b.conf"]
    [b!"# first\n layers = l\nCONFIGFILE=/b.conf\nBuildRoot = one\n",
     b!"BASEPATH=/srv//x/\nbuildroot=two\nEXPORTS=../e\n"] ∧
    [b!"/a.conf", b!"/b.conf"].Nodup := by
  refine ⟨?_, by decide +kernel⟩
  refine walk_step (by decide +kernel) (by decide +kernel) (by decide +kernel)
    (succ := b!"/b.conf") (by decide +kernel) ?_
  exact walk_step (by decide +kernel) (by decide +kernel) (by decide +kernel)
    (succ := []) (by decide +kernel) Walk.nil

/-! ### 2. loops -/

/-- A chain that revisits a file is reported as a loop — for any amount of fuel that lets
    the walk come back (one more than the number of files walked). -/
theorem loop_reported (fs : Fs) (env : Env) (sw : Switches) (names contents : List Bytes)
    (next : Bytes) (fuel : Nat)
    (hwalk : Walk fs (selectFile fs env sw) names contents next) (hnd : names.Nodup)
    (hback : next ∈ names) (hfuel : names.length < fuel) :
    Config.load fs env sw fuel = Res.err "loop" := by
  rw [load_eq_spec]
  unfold Spec.Precedence.load
  obtain ⟨k, rfl⟩ : ∃ k, fuel = names.length + (k + 1) := ⟨fuel - names.length - 1, by omega⟩
  rw [follow_walk hwalk [] (k + 1) hnd (by simp),
    follow_seen fs k (walk_names_ne_nil hwalk next hback) (by simpa using hback)]
  rfl

/-- `Load` reports a loop exactly when the chain revisits a file.  `support` lists every
    name at which the file system has something; with `|support| + 1` units of fuel the
    equivalence holds for every chain shape. -/
theorem loop_detected (fs : Fs) (env : Env) (sw : Switches) (support : List Bytes) (fuel : Nat)
    (hsup : ∀ n, fs n ≠ none → n ∈ support) (hfuel : support.length + 1 ≤ fuel) :
    Config.load fs env sw fuel = Res.err "loop" ↔ Revisits fs (selectFile fs env sw) := by
  constructor
  · intro h
    rw [load_eq_spec] at h
    rcases specLoad_error h with hf | hf
    · obtain ⟨names, cs, next, hw, hnd, _, hx | hx⟩ := follow_loop_walk fs fuel _ [] hf
      · exact ⟨names, cs, next, hw, hnd, hx⟩
      · cases hx
    · exact absurd hf (by decide)
  · rintro ⟨names, cs, next, hw, hnd, hback⟩
    have hlen : names.length ≤ support.length :=
      hnd.length_le_of_subset fun n hn => hsup n (walk_names_present hw n hn)
    exact loop_reported fs env sw names cs next fuel hw hnd hback (by omega)

example : Config.load exFs exEnv (exSw b!"/loop.conf") 6 = Res.err "loop" := by decide +kernel

example : Revisits exFs (selectFile exFs exEnv (exSw b!"/loop.conf")) :=
  (loop_detected exFs exEnv _ (exFiles.map Prod.fst) 6 (fsOf_support exFiles) (by decide)).mp
    (by decide +kernel)

/-- `Load` terminates: with fuel = (number of names present in the file system) + 1 the
    chain walk never runs out of fuel, whatever the shape of the chain. -/
theorem load_terminates (fs : Fs) (env : Env) (sw : Switches) (support : List Bytes) (fuel : Nat)
    (hsup : ∀ n, fs n ≠ none → n ∈ support) (hfuel : support.length + 1 ≤ fuel) :
    Config.load fs env sw fuel ≠ Res.err "out-of-fuel" := by
  intro e
  rw [load_eq_spec] at e
  rcases specLoad_error e with hf | hf
  · exact follow_fuel_suffices fs support hsup fuel _ [] List.nodup_nil (by simp)
      (by simpa using hfuel) _ hf rfl
  · exact absurd hf (by decide)

example : Config.load exFs exEnv (exSw b!"/loop.conf") (exFiles.length + 1) ≠ Res.err "out-of-fuel" :=
  load_terminates exFs exEnv _ (exFiles.map Prod.fst) _ (fsOf_support exFiles) (by simp)

/-! ### 3. directory settings are absolute -/

/-- On success the base path, the layers directory, the exports directory and the chroot
    executable are absolute and clean (fixed points of `path.Clean`). -/
theorem dirs_clean_absolute (fs : Fs) (env : Env) (sw : Switches) (fuel : Nat) (c : ConfigType)
    (h : Config.load fs env sw fuel = .ok c) :
    (isAbs c.basepath = true ∧ pathClean c.basepath = c.basepath) ∧
    (isAbs c.layerdirs = true ∧ pathClean c.layerdirs = c.layerdirs) ∧
    (isAbs c.exportdirs = true ∧ pathClean c.exportdirs = c.exportdirs) ∧
    (isAbs c.chrootExec = true ∧ pathClean c.chrootExec = c.chrootExec) := by
  rw [load_eq_spec] at h
  unfold Spec.Precedence.load at h
  split at h
  case h_1 => cases h
  split at h
  case h_1 => cases h
  rename_i hr
  cases h
  -- the chroot path is never empty: its default is not
  exact resolve_dirs hr (raw_ne_nil _ _ (by decide))

example : (Config.load exFs exEnv (exSw b!"/a.conf") 6).map (·.layerdirs) = .ok b!"/srv/x/l" := by
  decide +kernel

/-! ### 4. unknown keys -/

/-- Unknown keys are errors: when the chain reaches — after any number of well-formed
    files — a file one of whose non-comment lines has a key that is not a setting name,
    `Load` fails with the unknown-key error, whatever the line's value is (empty, or no
    `=` at all, included). -/
theorem unknown_key_error (fs : Fs) (env : Env) (sw : Switches) (names contents : List Bytes)
    (bad c line : Bytes) (fuel : Nat)
    (hwalk : Walk fs (selectFile fs env sw) names contents bad) (hnd : names.Nodup)
    (hnew : bad ∉ names) (hne : bad ≠ []) (hfile : fs bad = some (.file c))
    (hline : line ∈ Mountinfo.scanLines c) (hnc : isSkipped line = false)
    (hunk : keyOfName (lineKey line) = none) (hfuel : names.length < fuel) :
    Config.load fs env sw fuel = Res.err "unknown-key" := by
  rw [load_eq_spec]
  unfold Spec.Precedence.load
  obtain ⟨k, rfl⟩ : ∃ k, fuel = names.length + (k + 1) := ⟨fuel - names.length - 1, by omega⟩
  rw [follow_walk hwalk [] (k + 1) hnd (by simp),
    follow_illFormed fs k hne (by simpa using hnew) hfile
      ((wellFormed_false_iff _).mpr ⟨line, hline, hnc, hunk⟩)]
  rfl

example : Config.load exFs exEnv (exSw b!"/bad.conf") 6 = Res.err "unknown-key" := by decide +kernel

example : b!"BOGUS =" ∈ Mountinfo.scanLines b!"LAYERS=x\nBOGUS =\n" ∧ isSkipped b!"BOGUS =" = false ∧
    keyOfName (lineKey b!"BOGUS =") = none := by decide +kernel

end Lc.Props.C18
