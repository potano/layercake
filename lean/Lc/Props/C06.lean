/-
  C06 — the stage tarball contains exactly the right paths, in an extractable order.

  Theorems over the model of the member-set pipeline (Lc/Model/StageList.lean).  What is
  proved here, for all maps / step lists / byte strings:
    * the pipeline keeps member names pairwise different and never stores a hard link or an
      inode identity on a non-regular entry (`pipeline_invariant`),
    * `Finalize` yields a strictly byte-sorted list with the same names (`sorted_strict`,
      `members_unique`, `finalize_same_names`),
    * a strictly sorted list puts every path before all paths it is a proper prefix of
      (`Lc.prefix_lt`, `Lc.parent_before_child` in Lc/Lemmas/Prefix.lean), hence every member
      is preceded by all its parent directories once the set is parent-closed
      (`parents_precede_partial`, `root_precedes`),
    * `AddMissingStageDirs` makes the set parent-closed (`addMissing_parent_closed_partial`;
      hypothesis: on the names present `path.Dir` agrees with cutting at the last slash, i.e.
      names are clean), with `dir.length + 1` loop iterations sufficing (`addChain_fuel`),
    * FULL, over the whole pipeline: member names that are clean absolute paths (`CleanAbs`:
      what `parseLine` yields since fix 4c7567e, "add-files names are cleaned",
      `Lc.Props.C17.parseLine_name_clean`) stay so through every step (`pipeline_names_clean`);
      on clean names `path.Dir` is the cut at the last slash (`pathDir_of_clean`), so
      `AddMissingStageDirs` closes the set under parents without further hypothesis and adds
      nothing but ancestors of members (`addMissing_parent_closed`,
      `addMissing_adds_only_ancestors`); since `getStageFileList` ends with
      `AddMissingStageDirs(); Finalize()`, in the list of every successful run every member is
      preceded by each of its ancestor directories (`parents_precede`), and so it is in the
      archive, under `./` (`archive_parents_precede`),
    * the `fixHardlinks` scan turns an entry into a hard link only to an earlier regular-file
      entry of the same inode (`hardlink_earlier_same_inode`),
    * omit lines (plain and wildcard) and `ExcludeFiles` remove exactly the named members
      (`omit_removes`, `omit_wildcard_removes`, `exclude_removes`),
    * archive member names are `.` + name, in list order (`members_dot_relative`).
  Not proved here (differential only): that the harness's expansion of list lines and globs
  into steps is what the Go code does, and the set-level membership specification
  (`Spec.Stage.expectedNames`), which the driver evaluates on the real archive.
-/
import Lc.Lemmas.StageClosure
import Lc.Lemmas.StageClosed

namespace Lc.Props.C06
open Lc Lc.Stage
open Lc.TreeWF (CleanAbs)

/-- the names of `fl.Files` after `Finalize` -/
def fileNames (m : EMap) : List Bytes := EMap.names (finalize m)

/-- Every map the pipeline can produce has pairwise different names, holds no hard-link
    entry, and only regular-file entries carry an inode identity. -/
theorem pipeline_invariant (env : Env) (steps : List Step) (s : St)
    (h : runSteps env {} steps = .ok s) : MapOK s.map :=
  (MapOK.stepInv env).runSteps steps h (fun _ _ _ _ => trivial) MapOK.nil

theorem finalize_same_names (m : EMap) (n : Bytes) : n ∈ fileNames m ↔ n ∈ m.names := by
  unfold fileNames finalize
  rw [names_fixHardlinks, names_sortByName_mem]

/-- `Finalize` sorts strictly by byte order. -/
theorem sorted_strict (m : EMap) (hm : MapOK m) : StrictSorted (fileNames m) := by
  unfold fileNames finalize
  rw [names_fixHardlinks]
  exact sortByName_sorted m hm.1

/-- No member name occurs twice. -/
theorem members_unique (m : EMap) (hm : MapOK m) : (fileNames m).Nodup :=
  (sorted_strict m hm).nodup

/-- The same two facts for the result of a whole pipeline run. -/
theorem stageFileList_sorted_unique (env : Env) (steps : List Step) (files : List Entry)
    (h : stageFileList env steps = .ok files) :
    StrictSorted (EMap.names files) ∧ (EMap.names files).Nodup := by
  obtain ⟨s, hs, rfl⟩ := except_map_ok h
  have hm := pipeline_invariant env steps s hs
  exact ⟨sorted_strict s.map hm, members_unique s.map hm⟩

/-- **Parents precede.**  In the final list every member is preceded by each of its ancestor
    directories, provided the member set is parent-closed.  (`Anc d n`: `d` is obtained from
    `n` by cutting at a last slash one or more times; the root `/` is `root_precedes`.)
    Partial: parent-closedness is a hypothesis here; `addMissing_parent_closed_partial`
    establishes it right after `AddMissingStageDirs`, and omit lines can destroy it again
    (omitting a directory that still has members). -/
theorem parents_precede_partial (m : EMap) (hm : MapOK m)
    (hclosed : ∀ n ∈ m.names, ∀ p, parentOf n = some p → p ∈ m.names) :
    ∀ n ∈ fileNames m, ∀ d, Anc d n → Before (fileNames m) d n := by
  intro n hn d hd
  have hall : ∀ {x d : Bytes}, Anc d x → x ∈ m.names → d ∈ m.names := by
    intro x d h
    induction h with
    | step hp => intro hx; exact hclosed _ hx _ hp
    | trans hp _ ih => intro hx; exact ih (hclosed _ hx _ hp)
  have hdm : d ∈ fileNames m := (finalize_same_names m d).mpr (hall hd ((finalize_same_names m n).mp hn))
  obtain ⟨s, hs, hnd⟩ := hd.prefix
  rw [hnd] at hn ⊢
  exact parent_before_child (sorted_strict m hm) hdm hn hs

/-- The root directory member, when present, precedes every other absolute member. -/
theorem root_precedes (m : EMap) (hm : MapOK m) (hroot : [SLASH] ∈ m.names)
    (r : Bytes) (hn : SLASH :: r ∈ fileNames m) (hr : r ≠ []) :
    Before (fileNames m) [SLASH] (SLASH :: r) :=
  parent_before_child (d := [SLASH]) (s := r) (sorted_strict m hm)
    ((finalize_same_names m _).mpr hroot) hn hr

/-- **`AddMissingStageDirs` closes the set under parent directories.**  Partial: needs that
    for the names already present `path.Dir(name)` is the name cut at its last slash (true for
    clean absolute names with at least two elements). -/
theorem addMissing_parent_closed_partial (env : Env) (m m' : EMap)
    (h : addMissingStageDirs env m = .ok m')
    (hclean : ∀ e ∈ m, ∀ p, parentOf e.name = some p → pathDir e.name = p) :
    (∀ n, n ∈ m.names → n ∈ m'.names) ∧
    (∀ n ∈ m'.names, ∀ p, parentOf n = some p → p ∈ m'.names) := by
  refine ⟨fun n hn => (addMissing_names h n).mpr (Or.inl hn), ?_⟩
  intro n hn p hp
  refine (addMissing_names h p).mpr (Or.inr ?_)
  rcases (addMissing_names h n).mp hn with hm | ⟨e, he, hne, hnd⟩
  · -- an original member: its path.Dir is its parent
    obtain ⟨e, he, rfl⟩ := List.mem_map.mp hm
    have hdir : pathDir e.name = p := hclean e he p hp
    obtain ⟨_, _, _, hpne⟩ := parentOf_split hp
    exact ⟨e, he, hdir ▸ hpne, Or.inl hdir.symm⟩
  · refine ⟨e, he, hne, Or.inr ?_⟩
    rcases hnd with rfl | ha
    · exact Anc.step hp
    · exact ha.snoc hp

/-! ### the full statements: clean names through the whole pipeline -/

/-- **`path.Dir` on clean names.**  For a clean absolute member name (`CleanAbs n`:
    `path.Clean n = n`, leading slash) the loop step of `AddMissingStageDirs` — cut at the last
    slash — yields exactly `path.Dir n`, and that is a clean absolute name again.  This
    discharges the hypothesis `hclean` of `addMissing_parent_closed_partial`.  (For `n = "/"`
    and for names directly below the root there is no loop step: `parentOf n = none`.) -/
theorem pathDir_of_clean (n p : Bytes) (hn : CleanAbs n) (hp : parentOf n = some p) :
    pathDir n = p ∧ CleanAbs p :=
  Lc.Stage.pathDir_of_clean hn hp

/-- **Names stay clean.**  Every step keeps "all member names are clean absolute paths" as
    long as the names the step itself brings in are (`StepClean`: the entry name of an add, the
    new name of a cloned device node, the candidates of the symlink recovery; deletions,
    exclusion and `AddMissingStageDirs` need nothing) — hence every map a run can produce. -/
theorem pipeline_names_clean (env : Env) (steps : List Step) (s : St)
    (hsteps : ∀ x ∈ steps, StepClean x) (h : runSteps env {} steps = .ok s) : NamesClean s.map :=
  (NamesClean.stepInv env).runSteps steps h (fun x hx => (stepClean_iff x).mp (hsteps x hx))
    NamesClean.nil

/-- **`AddMissingStageDirs` closes the set under parent directories** (full): from a map whose
    names are clean absolute paths it yields a map that keeps every member, whose names are
    clean absolute paths again, and in which the parent of every member is a member. -/
theorem addMissing_parent_closed (env : Env) (m m' : EMap) (hc : NamesClean m)
    (h : addMissingStageDirs env m = .ok m') :
    NamesClean m' ∧ (∀ n, n ∈ m.names → n ∈ m'.names) ∧
    (∀ n ∈ m'.names, ∀ p, parentOf n = some p → p ∈ m'.names) := by
  have hp := addMissing_parent_closed_partial env m m' h (fun e he p hpar =>
    (Lc.Stage.pathDir_of_clean (hc e.name (List.mem_map.mpr ⟨e, he, rfl⟩)) hpar).1)
  exact ⟨addMissing_clean h hc, hp.1, hp.2⟩

/-- … and it adds nothing else: a member of the result was a member before, or is an ancestor
    directory of one, or is the root `/` (added when a member lies directly below it). -/
theorem addMissing_adds_only_ancestors (env : Env) (m m' : EMap) (hc : NamesClean m)
    (h : addMissingStageDirs env m = .ok m') :
    ∀ n ∈ m'.names, n ∈ m.names ∨ n = [SLASH] ∨ ∃ x ∈ m.names, Anc n x := by
  intro n hn
  rcases (addMissing_names h n).mp hn with h0 | ⟨e, he, _, hnd⟩
  · exact Or.inl h0
  · have hem : e.name ∈ m.names := List.mem_map.mpr ⟨e, he, rfl⟩
    by_cases hroot : pathDir e.name = [SLASH]
    · -- `path.Dir` is the root: only the root itself is added
      rw [hroot] at hnd
      exact Or.inr (Or.inl (hnd.resolve_right (not_anc_root n)))
    · have hpar := (parentOf_clean (hc e.name hem)).trans (if_neg hroot)
      refine Or.inr (Or.inr ⟨e.name, hem, ?_⟩)
      rcases hnd with e1 | ha
      · rw [e1]; exact Anc.step hpar
      · exact Anc.trans hpar ha

/-- **Parents precede** (the sentence of the property, full).  `getStageFileList` ends with
    `AddMissingStageDirs(); Finalize()` (step lists end with `.closure`).  For every
    environment and every step list whose own names are clean absolute paths: if the run
    succeeds, then in `fl.Files` every member `n` is preceded by every ancestor directory `d`
    of `n` (`Anc d n`: cut `n` at a last slash one or more times, the root excluded — see
    `root_precedes`); in particular every ancestor IS a member.  No hypothesis on the map, on
    the deletions or on the file system. -/
theorem parents_precede (env : Env) (steps : List Step) (files : List Entry)
    (hsteps : ∀ x ∈ steps, StepClean x)
    (h : stageFileList env (steps ++ [.closure]) = .ok files) :
    ∀ n ∈ EMap.names files, ∀ d, Anc d n → Before (EMap.names files) d n := by
  obtain ⟨s, hs, rfl⟩ := except_map_ok h
  have hok := pipeline_invariant env _ s hs
  obtain ⟨s1, h1, h2⟩ := runSteps_append steps [.closure] hs
  have hc1 : NamesClean s1.map := pipeline_names_clean env steps s1 hsteps h1
  -- the last step
  simp only [runSteps] at h2
  split at h2
  · cases h2
  · rename_i s2 h3
    cases h2
    obtain ⟨m', h4, rfl⟩ := except_map_ok h3
    exact parents_precede_partial _ hok (addMissing_parent_closed env s1.map m' hc1 h4).2.2

/-- the same for the member names of the run: all are clean absolute paths -/
theorem stageFileList_names_clean (env : Env) (steps : List Step) (files : List Entry)
    (hsteps : ∀ x ∈ steps, StepClean x)
    (h : stageFileList env (steps ++ [.closure]) = .ok files) :
    ∀ n ∈ EMap.names files, CleanAbs n := by
  obtain ⟨s, hs, rfl⟩ := except_map_ok h
  have hall : ∀ x ∈ steps ++ [.closure], StepClean x :=
    List.forall_mem_append.mpr ⟨hsteps, fun x hx => List.mem_singleton.mp hx ▸ trivial⟩
  have hc := pipeline_names_clean env _ s hall hs
  exact fun n hn => hc n ((finalize_same_names s.map n).mp hn)

/-- The root member: it is added as soon as some member lies directly below `/`. -/
theorem addMissing_root (env : Env) (m m' : EMap) (h : addMissingStageDirs env m = .ok m')
    (e : Entry) (he : e ∈ m) (hd : pathDir e.name = [SLASH]) : [SLASH] ∈ m'.names :=
  (addMissing_names h _).mpr (Or.inr ⟨e, he, by rw [hd]; simp, Or.inl hd.symm⟩)

/-- Fuel: the loop of `AddMissingStageDirs` needs at most `dir.length + 1` iterations — any two
    amounts of fuel above `dir.length` give the same result. -/
theorem addChain_fuel (env : Env) : ∀ (f1 f2 : Nat) (m : EMap) (dir : Bytes),
    dir.length < f1 → dir.length < f2 → addChain env f1 m dir = addChain env f2 m dir := by
  intro f1
  induction f1 with
  | zero => intro f2 m dir h1; omega
  | succ f1 ih =>
    intro f2 m dir h1 h2
    cases f2 with
    | zero => omega
    | succ f2 =>
      rw [addChain_succ, addChain_succ]
      split
      · rfl
      · split
        · rfl
        · rename_i p hp
          have := parentOf_length hp
          exact ih f2 _ _ (by omega) (by omega)

/-- **Hard links.**  In the final list every entry that `fixHardlinks` turned into a hard link
    names, as its target, an entry that stands earlier in the list, has the same inode
    identity, and is a regular-file entry. -/
theorem hardlink_earlier_same_inode (m : EMap) (hm : MapOK m) : LinksOK [] (finalize m) := by
  unfold finalize
  apply fixHardlinks_links
  · intro e he
    exact hm.2 e ((sortByName_perm m).mem_iff.mp he)
  · intro id nm h; cases h

/-- the same, spelled out for an arbitrary position of the list -/
theorem hardlink_earlier_same_inode_at (m : EMap) (hm : MapOK m) (pre post : List Entry) (x : Entry)
    (hsplit : finalize m = pre ++ x :: post) (hx : x.ltype = ltHardlink) :
    ∃ y ∈ pre, y.name = x.target ∧ y.devino = x.devino ∧ y.ltype = ltFile := by
  have key : ∀ (pre earlier : List Entry), LinksOK earlier (pre ++ x :: post) →
      ∃ y ∈ earlier ++ pre, y.name = x.target ∧ y.devino = x.devino ∧ y.ltype = ltFile := by
    intro pre
    induction pre with
    | nil =>
      intro earlier h
      obtain ⟨y, hy, h1⟩ := h.1 hx
      exact ⟨y, by simpa using hy, h1⟩
    | cons p ps ih =>
      intro earlier h
      obtain ⟨y, hy, h1⟩ := ih (earlier ++ [p]) h.2
      exact ⟨y, by simpa using hy, h1⟩
  have := hardlink_earlier_same_inode m hm
  rw [hsplit] at this
  simpa using key pre [] this

/-- **omit** (no wildcard): the named member is gone, every other member stays. -/
theorem omit_removes (m m' : EMap) (n : Bytes) (h : removeFile m n = .ok m') :
    n ∉ fileNames m' ∧ ∀ x, x ≠ n → (x ∈ fileNames m' ↔ x ∈ fileNames m) := by
  unfold removeFile at h
  split at h
  · cases h
    refine ⟨fun hn => not_mem_names_erase m n ((finalize_same_names _ _).mp hn), ?_⟩
    intro x hx
    rw [finalize_same_names, finalize_same_names, mem_names_erase]
    exact ⟨fun h => h.1, fun h => ⟨h, hx⟩⟩
  · cases h

/-- **omit with a wildcard**: every matched name is gone, unmatched members stay. -/
theorem omit_wildcard_removes (matched : List Bytes) : ∀ (m : EMap),
    (∀ n ∈ matched, n ∉ fileNames (removeGlob m matched)) ∧
    (∀ x, x ∉ matched → (x ∈ fileNames (removeGlob m matched) ↔ x ∈ fileNames m)) := by
  intro m
  constructor
  · intro n hn h
    exact ((mem_names_removeGlob matched m n).mp ((finalize_same_names _ _).mp h)).2 hn
  · intro x hx
    rw [finalize_same_names, finalize_same_names, mem_names_removeGlob]
    exact ⟨fun h => h.1, fun h => ⟨h, hx⟩⟩

/-- **ExcludeFiles ∘ UnstagedFileMap**: a name recorded for installed packages that was not
    staged when the exclusion map was taken is not a member afterwards, whatever was added in
    between; a name that was staged at that time is never excluded. -/
theorem exclude_removes (m0 m : EMap) (installed : List Bytes) (n : Bytes) :
    (n ∈ installed → n ∉ m0.names → n ∉ (excludeFiles m (unstagedFileMap m0 installed)).names) ∧
    (n ∈ m0.names → (n ∈ (excludeFiles m (unstagedFileMap m0 installed)).names ↔ n ∈ m.names)) := by
  have hmem : n ∈ (excludeFiles m (unstagedFileMap m0 installed)).names ↔
      n ∈ m.names ∧ (n ∉ installed ∨ n ∈ m0.names) := by
    refine (mem_names_filter m (fun n => !(unstagedFileMap m0 installed).contains n) n).trans ?_
    simp [unstagedFileMap, has_false_iff]
  constructor
  · intro hi hn0 h
    exact (hmem.mp h).2.elim (fun hni => hni hi) hn0
  · intro h0
    rw [hmem]
    exact ⟨fun h => h.1, fun h => ⟨h, Or.inr h0⟩⟩

/-- **Member names are `.` + name, in list order** (so absolute names come out under `./`). -/
theorem members_dot_relative : ∀ (files : List Entry) (hs : List Header),
    tarHeaders files = .ok hs → hs.map (·.name) = files.map (fun e => 46 :: e.name) := by
  intro files
  induction files with
  | nil => intro hs h; cases h; rfl
  | cons e es ih =>
    intro hs h
    simp only [tarHeaders] at h
    split at h
    · cases h
    · rename_i hd hh
      obtain ⟨tl, htl, rfl⟩ := except_map_ok h
      rw [List.map_cons, List.map_cons, ih tl htl, (headerOf_returns _ _ hh).1]

/-- **Parents precede, in the archive.**  The member sequence `MakeTar` writes for the list of
    a successful run: every member name is `./…` (relative under `./`), and the member of
    every ancestor directory of a member stands earlier in the archive. -/
theorem archive_parents_precede (env : Env) (steps : List Step) (files : List Entry)
    (hdrs : List Header) (hsteps : ∀ x ∈ steps, StepClean x)
    (h : stageFileList env (steps ++ [.closure]) = .ok files)
    (ht : tarHeaders files = .ok hdrs) :
    (∀ hd ∈ hdrs, ∃ r, hd.name = 46 :: SLASH :: r) ∧
    (∀ n ∈ EMap.names files, ∀ d, Anc d n →
      Before (hdrs.map (·.name)) (46 :: d) (46 :: n)) := by
  have hnames := members_dot_relative files hdrs ht
  constructor
  · intro hd hhd
    have : hd.name ∈ files.map (fun e => 46 :: e.name) := by
      rw [← hnames]; exact List.mem_map.mpr ⟨hd, hhd, rfl⟩
    obtain ⟨e, he, hen⟩ := List.mem_map.mp this
    obtain ⟨r, hr⟩ := cleanAbs_head
      (stageFileList_names_clean env steps files hsteps h e.name (List.mem_map.mpr ⟨e, he, rfl⟩))
    exact ⟨r, by rw [← hen, hr]⟩
  · intro n hn d hd
    have hb := Before.map (fun x => 46 :: x) (parents_precede env steps files hsteps h n hn d hd)
    have e : hdrs.map (·.name) = (EMap.names files).map (fun x => 46 :: x) := by
      rw [hnames]; unfold EMap.names; rw [List.map_map]; rfl
    rw [e]; exact hb

/-! ### non-vacuity: the hypotheses are met by concrete, non-trivial instances -/

def exA : Entry := { ltype := ltFile, name := b!"/usr/lib/a/x", devino := some (1, 7) }
def exB : Entry := { ltype := ltFile, name := b!"/usr/lib/a-b", devino := some (1, 7) }
def exC : Entry := { ltype := ltDir, name := b!"/usr/lib/a" }
def exD : Entry := { ltype := ltDir, name := b!"/usr/lib" }
def exE : Entry := { ltype := ltDir, name := b!"/usr" }
def exMap : EMap := [exA, exB, exC, exD, exE]

example : fileNames exMap = [b!"/usr", b!"/usr/lib", b!"/usr/lib/a", b!"/usr/lib/a-b", b!"/usr/lib/a/x"] := by
  decide +kernel
/-- the sibling `a-b` sorts between `a` and `a/x`, and becomes the regular member of the inode
    group; `a/x` is the hard link -/
example : (finalize exMap).map (fun e => (e.ltype, e.target)) =
    [(ltDir, []), (ltDir, []), (ltDir, []), (ltFile, []), (ltHardlink, b!"/usr/lib/a-b")] := by
  decide +kernel
example : parentOf b!"/usr/lib/a/x" = some b!"/usr/lib/a" := by decide +kernel
theorem exAnc : Anc b!"/usr" b!"/usr/lib/a/x" :=
  Anc.trans (p := b!"/usr/lib/a") (by decide) (Anc.trans (p := b!"/usr/lib") (by decide) (Anc.step (by decide)))
example : Anc b!"/usr" b!"/usr/lib/a/x" := exAnc
example : pathDir b!"/usr/lib/a/x" = b!"/usr/lib/a" := by decide +kernel
example : removeFile exMap b!"/usr/lib/a-b" = .ok [exA, exC, exD, exE] := by decide +kernel

/-! #### the full theorems on a concrete run: a file below three absent directories, a
    directory that is deleted again while it still has a member, a symlink in another tree -/

def exStat : Lstat :=
  { mode := 0o100644, uid := 0, gid := 0, mtime := 5, size := 3, nlink := 1, dev := 1, ino := 9,
    rdev := 0, link := [], xattrs := [], sha := "" }
/-- build root `/r` in which only `/r/usr/lib/a/x` exists (a regular file) -/
def exEnv : Env :=
  { fs := fun p => if p = b!"/r/usr/lib/a/x" then some exStat else none, rootDir := b!"/r" }
def exSteps : List Step :=
  [ .add { ltype := ltFile, name := b!"/usr/lib/a/x" },
    .add { ltype := ltDir, name := b!"/usr/lib/a" },
    .add { ltype := ltSymlink, name := b!"/etc/rc", target := b!"init.d/rc" },
    .add { ltype := ltDir, name := b!"/top" },
    .del b!"/usr/lib/a" ]

example : ∀ x ∈ exSteps, StepClean x := by decide +kernel
/-- before the closing step the set is NOT parent-closed (`/usr/lib/a` was deleted, `/etc`,
    `/usr`, `/usr/lib` were never there) -/
example : (runSteps exEnv {} exSteps).map (fun s => s.map.names) =
    .ok [b!"/usr/lib/a/x", b!"/etc/rc", b!"/top"] := by decide +kernel
theorem exRun_names : (stageFileList exEnv (exSteps ++ [.closure])).map EMap.names =
    .ok [b!"/", b!"/etc", b!"/etc/rc", b!"/top", b!"/usr", b!"/usr/lib", b!"/usr/lib/a",
         b!"/usr/lib/a/x"] := by decide +kernel
/-- the run succeeds; the closing step brings back `/usr/lib/a` and adds the other parents,
    and the root (because `/top` lies directly below it) -/
example : (stageFileList exEnv (exSteps ++ [.closure])).map EMap.names =
    .ok [b!"/", b!"/etc", b!"/etc/rc", b!"/top", b!"/usr", b!"/usr/lib", b!"/usr/lib/a",
         b!"/usr/lib/a/x"] := exRun_names
example : ∃ files, stageFileList exEnv (exSteps ++ [.closure]) = .ok files ∧
    Before (EMap.names files) b!"/usr" b!"/usr/lib/a/x" := by
  obtain ⟨files, h, hn⟩ := except_map_ok exRun_names
  exact ⟨files, h, parents_precede exEnv exSteps files (by decide) h _ (by rw [hn]; decide) _ exAnc⟩
example : CleanAbs b!"/usr/lib/a/x" ∧ ¬ CleanAbs b!"/usr/lib/a/" ∧ ¬ CleanAbs b!"/usr//lib" ∧
    ¬ CleanAbs b!"/usr/./lib" ∧ ¬ CleanAbs b!"/usr/a/../lib" ∧ ¬ CleanAbs b!"usr/lib" ∧
    CleanAbs b!"/" := by decide +kernel
/-- on a name that is not clean the two notions of parent differ (why `CleanAbs` is needed) -/
example : parentOf b!"/opt/a/../x" = some b!"/opt/a/.." ∧ pathDir b!"/opt/a/../x" = b!"/opt" := by
  decide +kernel

end Lc.Props.C06
