/-
  C09 — remove without -files never destroys user data.

  Over the hand-written command model (Lc/Model/Layers.lean, `removeLayer`) and the
  file-system model (Lc/Model/Fs.lean), for the code after the repair "fix: remove without
  -files deletes a layer outright only if it holds nothing beyond its own files":

  * `rename_preserves`, `rename_preserves_others`: what `os.Rename` of a tree does to the
    lookup function, for every tree and every pair of names (full generality, no bounds).
  * `RemoveLayer.remove_outcome`: a normal return of `remove` without `-files` has renamed the
    layer directory to `<dir>~removed`, every lookup below it carried over, or deleted it
    outright, and then it was pristine; the next three are read off from it.
  * `remove_keeps_user_data_partial`: `remove` without `-files` of a layer in ANY probed
    state, in any world: every entry at or below the layer directory is found with the same
    node at the same relative path below `<dir>~removed` — or the directory was deleted
    outright, and then the entry is a directory or one of the two files `add` itself creates
    (layerconfig, the base layer's root/.bashrc).  Partial only in the side condition on the
    two automatic export-link paths (see the theorem).
  * `remove_renames_unless_pristine_partial`: the renaming branch in detail.
  * `deleted_only_if_pristine`: an outright deletion happens only in the probed state
    "not yet populated" and only when the directory held nothing else.
  * `removed_never_overwritten`: whatever the probed state and however the command ends,
    nothing at or below an existing `<dir>~removed` changes; `removed_not_overwritten`:
    unless the layer is pristine the command fails and changes nothing.
  * `remove_files_deletes`: with `-files` the directory is deleted.
  * `fixed_witness`: the world on which the unrepaired code lost a user file (base layer
    lacking FHS directories, probed "not yet populated", holding `build/etc/data`) now keeps
    it below `~removed`.

  The automatic export links (`autoExportPaths`) are removed before the directory is
  touched; whatever lies at or below those two paths is outside the statements (explicit
  hypothesis per path, no global layout assumption).

  Section 6 removes that per-path hypothesis: `remove_keeps_user_data`,
  `remove_renames_unless_pristine`, `removed_never_overwritten_apart`,
  `removed_subtree_never_overwritten_apart`, `removed_not_overwritten_apart` take instead the decidable
  condition `ExportsApart cfg` on the configuration (Lemmas/ExportsApart: the export link
  directories are not the layer directory, not above it through a legal layer name, not inside
  it below a legal layer name) and `Placed cfg l` (the layer lies in `<layerdirs>/<legal
  name>`, which `readLayerFiles` establishes); the default configuration satisfies
  `ExportsApart` (`default_exportsApart`), and for each clause of `ExportsApart` an example
  shows the per-path condition failing when the clause does.
-/
import Lc.Lemmas.FsRename
import Lc.Lemmas.RemoveLayer
import Lc.Lemmas.ExportsApart

namespace Lc.Props.C09
open Lc Lc.Layers Lc.Hoare Lc.FsRename Lc.RemoveLayer

/-! ### 1. `os.Rename` on the tree model -/

/-- **Rename moves the subtree, nodes unchanged.**  If `Fs.rename fs old new` succeeds,
    `old ≠ "/"`, and no entry of `fs` lies at/below both names, then for every relative
    remainder `rest` (empty, or starting with '/') the lookup of `new ++ rest` afterwards
    equals the lookup of `old ++ rest` before — in particular an entry `(old ++ rest, node)`
    is found as `(new ++ rest, node)`, and nothing else appears below `new`.  `Fs.get` is
    first-match; no uniqueness of keys is assumed. -/
theorem rename_preserves (fs fs' : Fs.Tree) (old new : Bytes)
    (h : Fs.rename fs old new = .ok fs') (hold : old ≠ [47])
    (hdisj : ∀ e ∈ fs, Fs.under new e.1 = true → Fs.under old e.1 = false)
    (rest : Bytes) (hr : rest = [] ∨ ∃ r, rest = 47 :: r) :
    Fs.get fs' (new ++ rest) = Fs.get fs (old ++ rest) :=
  rename_moves fs fs' old new h hold hdisj rest hr

/-- the same under the plainer hypothesis "nothing exists at or below `new`" -/
theorem rename_preserves_fresh (fs fs' : Fs.Tree) (old new : Bytes)
    (h : Fs.rename fs old new = .ok fs') (hold : old ≠ [47])
    (hfresh : ∀ e ∈ fs, Fs.under new e.1 = false)
    (rest : Bytes) (hr : rest = [] ∨ ∃ r, rest = 47 :: r) (node : Fs.Node)
    (hget : Fs.get fs (old ++ rest) = some node) : Fs.get fs' (new ++ rest) = some node := by
  rw [rename_preserves fs fs' old new h hold (fun e he hu => by rw [hfresh e he] at hu; cases hu)
    rest hr]
  exact hget

/-- **Rename touches nothing else**: a path neither at/below `old` nor at/below `new` has the
    same lookup before and after (no hypothesis on the tree at all). -/
theorem rename_preserves_others (fs fs' : Fs.Tree) (old new : Bytes)
    (h : Fs.rename fs old new = .ok fs') (hold : old ≠ [47]) (p : Bytes)
    (hpo : Fs.under old p = false) (hpn : Fs.under new p = false) : Fs.get fs' p = Fs.get fs p :=
  rename_keeps fs fs' old new h hold p hpo hpn

/-- a small tree: "/", "/a", "/a/f" (file), "/ab" (file: a sibling whose name extends "a") -/
def exTree : Fs.Tree :=
  [(b!"/", .dir), (b!"/a", .dir), (b!"/a/f", .file [1]), (b!"/ab", .file [2])]

/-- non-vacuity: the rename succeeds on `exTree`, the hypotheses hold, and the conclusions say
    something (file moved with content, sibling "/ab" untouched, old name gone) -/
example : ∃ fs', Fs.rename exTree b!"/a" b!"/b" = .ok fs' ∧
    (∀ e ∈ exTree, Fs.under b!"/b" e.1 = false) ∧
    Fs.get fs' b!"/b/f" = some (.file [1]) ∧ Fs.get fs' b!"/ab" = some (.file [2]) ∧
    Fs.get fs' b!"/a/f" = none :=
  ⟨_, rfl, by decide +kernel⟩

example : Fs.get exTree (b!"/a" ++ b!"/f") = some (.file [1]) ∧
    Fs.under b!"/a" b!"/ab" = false ∧ Fs.under b!"/b" b!"/ab" = false := by decide +kernel

/-! ### 2. `remove` without `-files` -/

/-- **remove (no -files) keeps every entry the user or a build placed in the layer
    directory — for every probed state.**
    `removeLayer cfg d name false` started in ANY world `w0` (any tree, mount table, fault
    or crash setting) without the pretend switch: if it returns normally, every path `p` at
    or below the layer directory that is not at/below one of the two automatic export links
    and that held `node` before
      * holds the same `node` (same kind, content, link target) at the same relative path
        below `<layerPath>~removed`, or
      * was deleted outright, and then the probed state was "not yet populated" and `node`
        is a directory or `p` is one of the layer's own files (`ownFiles`: layerconfig, the
        base layer's `root/.bashrc`).

    `_partial`: the per-path hypothesis `hexp` (true for every path of the layer directory
    whenever the export directory is not inside it; inside it, the automatic link itself is
    removed on purpose).  The model has no symlinked intermediate directories and
    `rename(2)` is atomic in it. -/
theorem remove_keeps_user_data_partial (cfg : Config) (d d' : Defs) (name : Bytes) (l : Layer)
    (w0 w' : World) (hl : findLayer d name = some l) (hp : w0.pretend = false)
    (hrun : (removeLayer cfg d name false).run.run w0 = (.ok d', w'))
    (p : Bytes) (node : Fs.Node) (hget : Fs.get w0.fs p = some node)
    (hu : Fs.under l.layerPath p = true)
    (hexp : ∀ m ∈ autoExportPaths cfg l, Fs.under m.1 p = false) :
    Fs.get w'.fs (l.layerPath ++ removedSuffix ++ p.drop l.layerPath.length) = some node ∨
    (l.state = S_complete ∧ (node = .dir ∨ p ∈ ownFiles cfg l) ∧ Op.remove l.layerPath ∈ w'.trace) := by
  rcases remove_outcome cfg d d' name l w0 w' hl hp hrun with ⟨hm, _⟩ | ⟨hdel, hst, hown⟩
  · exact Or.inl ((hm p hu hexp).trans hget)
  · exact Or.inr ⟨hst, hown p node (List.forall_mem_map.2 hexp) hu hget, hdel.2⟩

/-- **Unless the layer is pristine it is renamed**: if the probed state is not "not yet
    populated", or the layer directory holds anything beyond directories and its own files,
    a normal return means the whole tree was moved to `<layerPath>~removed` (lookup function
    of every relative path preserved, absent stays absent) by one `rename`.
    `_partial`: `hexp` as above. -/
theorem remove_renames_unless_pristine_partial (cfg : Config) (d d' : Defs) (name : Bytes)
    (l : Layer) (w0 w' : World) (hl : findLayer d name = some l)
    (hst : l.state = S_complete → ¬ OwnOnly cfg l w0) (hp : w0.pretend = false)
    (hrun : (removeLayer cfg d name false).run.run w0 = (.ok d', w'))
    (p : Bytes) (hu : Fs.under l.layerPath p = true)
    (hexp : ∀ m ∈ autoExportPaths cfg l, Fs.under m.1 p = false) :
    Fs.get w'.fs (l.layerPath ++ removedSuffix ++ p.drop l.layerPath.length) = Fs.get w0.fs p ∧
    Op.rename l.layerPath (l.layerPath ++ removedSuffix) ∈ w'.trace := by
  rcases remove_outcome cfg d d' name l w0 w' hl hp hrun with ⟨hm, ht⟩ | ⟨_, hs, hown⟩
  · exact ⟨hm p hu hexp, ht⟩
  · exact absurd hown (hst hs)

/-- **An outright deletion happens only to a pristine layer**: if a non-pretending
    `remove` without `-files` returns normally and the layer directory is gone without a
    rename having been issued for it, then the probed state was "not yet populated" and
    every entry of the directory (outside the export-link paths) was a directory or one of
    the layer's own files. -/
theorem deleted_only_if_pristine (cfg : Config) (d d' : Defs) (name : Bytes) (l : Layer)
    (w0 w' : World) (hl : findLayer d name = some l) (hp : w0.pretend = false)
    (hrun : (removeLayer cfg d name false).run.run w0 = (.ok d', w'))
    (hnr : Op.rename l.layerPath (l.layerPath ++ removedSuffix) ∉ w'.trace) :
    l.state = S_complete ∧ OwnOnly cfg l w0 ∧
    (∀ p, Fs.under l.layerPath p = true → Fs.get w'.fs p = none) := by
  rcases remove_outcome cfg d d' name l w0 w' hl hp hrun with ⟨_, ht⟩ | ⟨hdel, hs, hown⟩
  · exact absurd ht hnr
  · exact ⟨hs, hown, hdel.1⟩

/-! ### 3. an existing `<dir>~removed` -/

/-- **An existing `<dir>~removed` is never overwritten** — for every probed state, every
    setting of the pretend, fault and crash switches, and every way the command ends: if
    `<layerPath>~removed` exists (lstat) in the initial world and is not at/below an
    automatic export link, then every path that is neither at/below the layer directory
    itself nor at/below an export link has the same lookup in the final world as in the
    initial one; in particular everything at/below `<layerPath>~removed`. -/
theorem removed_never_overwritten (cfg : Config) (d : Defs) (name : Bytes) (l : Layer) (w0 : World)
    (hl : findLayer d name = some l)
    (hre : Fs.lexists w0.fs (l.layerPath ++ removedSuffix) = true)
    (hexp : ∀ m ∈ autoExportPaths cfg l, Fs.under m.1 (l.layerPath ++ removedSuffix) = false)
    (p : Bytes) (hpl : Fs.under l.layerPath p = false)
    (hpe : ∀ m ∈ autoExportPaths cfg l, Fs.under m.1 p = false) :
    Fs.get ((removeLayer cfg d name false).run.run w0).2.fs p = Fs.get w0.fs p := by
  have h := extractBoth _ _ _ _
    (removeLayer_rm_kept cfg d name l w0 hl hre (List.forall_mem_map.2 hexp)) w0 (same_refl _ w0)
  have hp' : ∀ m ∈ l.layerPath :: exPaths cfg l, Fs.under m p = false :=
    List.forall_mem_cons.2 ⟨hpl, List.forall_mem_map.2 hpe⟩
  split at h
  · exact h.2 p hp'
  · exact h.2 p hp'

/-- the instance the property names: every path at or below an existing `<dir>~removed`
    keeps its lookup, whatever the probed state and however the command ends -/
theorem removed_subtree_never_overwritten (cfg : Config) (d : Defs) (name : Bytes) (l : Layer)
    (w0 : World) (hl : findLayer d name = some l) (hlp : l.layerPath ≠ [47])
    (hre : Fs.lexists w0.fs (l.layerPath ++ removedSuffix) = true)
    (hexp : ∀ m ∈ autoExportPaths cfg l, Fs.under m.1 (l.layerPath ++ removedSuffix) = false)
    (p : Bytes) (hpr : Fs.under (l.layerPath ++ removedSuffix) p = true)
    (hpe : ∀ m ∈ autoExportPaths cfg l, Fs.under m.1 p = false) :
    Fs.get ((removeLayer cfg d name false).run.run w0).2.fs p = Fs.get w0.fs p :=
  removed_never_overwritten cfg d name l w0 hl hre hexp p
    (under_sibling_disjoint l.layerPath b!"removed" p 126 (by decide) hlp hpr) hpe

/-- **Unless the layer is pristine, `remove` fails when `<dir>~removed` exists** and leaves
    every path that is not at/below an export link as it was (the layer directory
    included). -/
theorem removed_not_overwritten (cfg : Config) (d : Defs) (name : Bytes) (l : Layer) (w0 : World)
    (hl : findLayer d name = some l) (hst : l.state = S_complete → ¬ OwnOnly cfg l w0)
    (hre : Fs.lexists w0.fs (l.layerPath ++ removedSuffix) = true)
    (hexp : ∀ m ∈ autoExportPaths cfg l, Fs.under m.1 (l.layerPath ++ removedSuffix) = false) :
    (∀ d', ((removeLayer cfg d name false).run.run w0).1 ≠ .ok d') ∧
    ∀ p, (∀ m ∈ autoExportPaths cfg l, Fs.under m.1 p = false) →
      Fs.get ((removeLayer cfg d name false).run.run w0).2.fs p = Fs.get w0.fs p := by
  have h := extractBoth _ _ _ _
    (removeLayer_blocked cfg d name l w0 hl hst hre (List.forall_mem_map.2 hexp)) w0 (same_refl _ w0)
  split at h
  · exact h.elim
  · next e heq =>
    refine ⟨fun d' hd => ?_, fun p hpp => h.2 p (List.forall_mem_map.2 hpp)⟩
    rw [heq] at hd
    cases hd

/-! ### 4. with `-files` -/

/-- with `-files` a non-pretending run that returns normally has deleted the directory -/
theorem remove_files_deletes (cfg : Config) (d d' : Defs) (name : Bytes) (l : Layer)
    (w0 w' : World) (hl : findLayer d name = some l) (hp : w0.pretend = false)
    (hrun : (removeLayer cfg d name true).run.run w0 = (.ok d', w')) :
    (∀ p, Fs.under l.layerPath p = true → Fs.get w'.fs p = none) ∧
    Op.remove l.layerPath ∈ w'.trace := by
  have h := extractBoth _ _ _ _ (removeLayer_deleted cfg d name l w0 hl hp) w0 (same_refl _ w0)
  rw [hrun] at h
  exact h

/-! ### 5. concrete worlds: non-vacuity, and the witness of the repaired defect -/

def exCfg : Config :=
  { basepath := b!"/l", layerdirs := b!"/d", buildRoot := b!"build", binPkg := b!"packages",
    generated := b!"generated", workdir := b!"w", upperdir := b!"u", exportdirs := b!"/e",
    exportBinPkg := b!"p", exportGenerated := b!"g" }

/-- base layer "a" as probed: build directory present, the seven FHS directories not ⇒
    state "not yet populated" (`S_complete`) -/
def exLayer (st : Nat) : Layer := { name := b!"a", layerPath := b!"/d/a", state := st }

def exDefs (st : Nat) : Defs := { layers := [exLayer st], order := [b!"a"] }

def exData : Bytes := b!"/d/a/build/etc/data"

/-- the layer directory holds a user file `build/etc/data`; a stale export link exists -/
def exWorld : World :=
  { fs := [(b!"/", .dir), (b!"/d", .dir), (b!"/e", .dir), (b!"/e/p", .dir),
           (b!"/e/p/a", .symlink b!"/d/a/packages"),
           (b!"/d/a", .dir), (b!"/d/a/layerconfig", .file []), (b!"/d/a/build", .dir),
           (b!"/d/a/build/etc", .dir), (exData, .file [1, 2, 3])] }

/-- what `add a` leaves behind, plus an empty directory made later -/
def exPristine : World :=
  { fs := [(b!"/", .dir), (b!"/d", .dir), (b!"/e", .dir),
           (b!"/d/a", .dir), (b!"/d/a/layerconfig", .file [1]), (b!"/d/a/build", .dir),
           (b!"/d/a/build/root", .dir), (b!"/d/a/build/root/.bashrc", .file [2]),
           (b!"/d/a/packages", .dir)] }

/-- run `remove a` (no -files) on the example with probed state `st`; summarise the result:
    (returned normally, lookup of the user file, lookup of the moved user file,
     `~removed` exists) -/
def exRun (st : Nat) (w : World) : Bool × Option Fs.Node × Option Fs.Node × Bool :=
  let r := (removeLayer exCfg (exDefs st) b!"a" false).run.run w
  ((match r.1 with | .ok _ => true | .error _ => false),
   Fs.get r.2.fs exData, Fs.get r.2.fs b!"/d/a~removed/build/etc/data",
   Fs.lexists r.2.fs b!"/d/a~removed")

/-- the repaired defect: probed "not yet populated" but holding a user file ⇒ renamed -/
theorem exRun_complete : exRun S_complete exWorld = (true, none, some (.file [1, 2, 3]), true) := by
  decide +kernel

theorem exRun_incomplete :
    exRun S_incomplete exWorld = (true, none, some (.file [1, 2, 3]), true) := by decide +kernel

/-- a pristine layer in state "not yet populated" is deleted outright -/
theorem exRun_pristine : exRun S_complete exPristine = (true, none, none, false) := by decide +kernel

/-- **The world on which the unrepaired code destroyed user data now keeps it**: one base
    layer "a" probed "not yet populated" (`S_complete`) whose directory holds the user file
    `/d/a/build/etc/data`; `remove a` without `-files` returns normally and the file is
    found with its content below `/d/a~removed`. -/
theorem fixed_witness :
    ∃ (d' : Defs) (w' : World),
      (removeLayer exCfg (exDefs S_complete) b!"a" false).run.run exWorld = (.ok d', w') ∧
      Fs.get exWorld.fs exData = some (.file [1, 2, 3]) ∧
      Fs.get w'.fs ((exLayer S_complete).layerPath ++ removedSuffix ++
        exData.drop (exLayer S_complete).layerPath.length) = some (.file [1, 2, 3]) := by
  have h := exRun_complete
  unfold exRun at h
  generalize (removeLayer exCfg (exDefs S_complete) b!"a" false).run.run exWorld = r at h ⊢
  obtain ⟨x, w'⟩ := r
  cases x with
  | error e => simp at h
  | ok d' =>
    simp only [Prod.mk.injEq, true_and] at h
    exact ⟨d', w', rfl, by decide +kernel, h.2.1⟩

/-! The same through the whole command pipeline of the model (`run` = `getLayers` (the
    probe) followed by the command), so that the state `S_complete` is not chosen by hand:
    with an empty mount table and no processes the model's probe classifies layer "a" of
    `exWorld` as "not yet populated". -/

def exProbedState : Option Nat :=
  match ((getLayers exCfg []).run.run exWorld).1 with
  | .ok d => (findLayer d b!"a").map (·.state)
  | .error _ => none

theorem exWorld_probed_complete : exProbedState = some S_complete := by decide +kernel

/-- non-vacuity of `remove_keeps_user_data_partial`, first alternative: hypotheses hold on
    the witness world for the user file (state "not yet populated"!), the run returns
    normally and the file is below `~removed` -/
example : ∃ d' w', (removeLayer exCfg (exDefs S_complete) b!"a" false).run.run exWorld = (.ok d', w')
    ∧ findLayer (exDefs S_complete) b!"a" = some (exLayer S_complete) ∧ exWorld.pretend = false
    ∧ Fs.under (exLayer S_complete).layerPath exData = true
    ∧ (∀ m ∈ autoExportPaths exCfg (exLayer S_complete), Fs.under m.1 exData = false)
    ∧ Fs.get exWorld.fs exData = some (.file [1, 2, 3])
    ∧ Fs.get w'.fs b!"/d/a~removed/build/etc/data" = some (.file [1, 2, 3]) := by
  obtain ⟨d', w', hr, h1, h2⟩ := fixed_witness
  exact ⟨d', w', hr, by decide +kernel, rfl, by decide +kernel, by decide +kernel, h1, h2⟩

/-- non-vacuity, second alternative (and of `deleted_only_if_pristine`): the pristine world
    is deleted outright; its entries are directories or own files -/
example : exRun S_complete exPristine = (true, none, none, false)
    ∧ onlyOwnFiles exCfg (exLayer S_complete) exPristine.fs = true
    ∧ b!"/d/a/build/root/.bashrc" ∈ ownFiles exCfg (exLayer S_complete) := by decide +kernel

/-- a world in which `/d/a~removed` (with an older user file) already exists -/
def exWorld2 : World :=
  { exWorld with fs := exWorld.fs ++ [(b!"/d/a~removed", .dir), (b!"/d/a~removed/old", .file [9])] }

/-- non-vacuity of `removed_not_overwritten` / `removed_never_overwritten`: hypotheses hold
    on `exWorld2`; the run fails and both user files are where they were -/
example : findLayer (exDefs S_incomplete) b!"a" = some (exLayer S_incomplete)
    ∧ Fs.lexists exWorld2.fs ((exLayer S_incomplete).layerPath ++ removedSuffix) = true
    ∧ (∀ m ∈ autoExportPaths exCfg (exLayer S_incomplete),
        Fs.under m.1 ((exLayer S_incomplete).layerPath ++ removedSuffix) = false)
    ∧ Fs.under (exLayer S_incomplete).layerPath b!"/d/a~removed/old" = false
    ∧ exRun S_incomplete exWorld2 = (false, some (.file [1, 2, 3]), none, true)
    ∧ exRun S_complete exWorld2 = (false, some (.file [1, 2, 3]), none, true) := by
  decide +kernel

/-! ### 6. the export-link side condition, from the configuration -/

open Lc.LayerPaths Lc.ExportsApart

/-- `<layerPath>~removed` of a placed layer is not at/below an automatic export link: the
    hypothesis `hexp` of section 3 -/
theorem removed_clear (cfg : Config) (hA : ExportsApart cfg) (l : Layer) (hpl : Placed cfg l) :
    ∀ m ∈ autoExportPaths cfg l, Fs.under m.1 (l.layerPath ++ removedSuffix) = false :=
  exportsApart_hexp cfg hA l hpl _ (inLayerDirs_of_removed cfg l hpl _ (under_self _))

/-- **remove (no -files) keeps every entry of the layer directory** — `remove_keeps_user_data_partial`
    without the per-path side condition.  Hypotheses beyond the run itself: `ExportsApart cfg`
    (decidable, about exportdirs / exportBinPkg / exportGenerated / layerdirs only) and
    `Placed cfg l` (what `readLayerFiles` gives every layer).  Every path `p` at or below the
    layer directory that held `node` holds the same `node` at the same relative path below
    `<layerPath>~removed`, or the directory was deleted outright and then the probed state was
    "not yet populated" and `node` is a directory or one of the layer's own files. -/
theorem remove_keeps_user_data (cfg : Config) (d d' : Defs) (name : Bytes) (l : Layer)
    (w0 w' : World) (hl : findLayer d name = some l) (hp : w0.pretend = false)
    (hrun : (removeLayer cfg d name false).run.run w0 = (.ok d', w'))
    (hA : ExportsApart cfg) (hpl : Placed cfg l)
    (p : Bytes) (node : Fs.Node) (hget : Fs.get w0.fs p = some node)
    (hu : Fs.under l.layerPath p = true) :
    Fs.get w'.fs (l.layerPath ++ removedSuffix ++ p.drop l.layerPath.length) = some node ∨
    (l.state = S_complete ∧ (node = .dir ∨ p ∈ ownFiles cfg l) ∧ Op.remove l.layerPath ∈ w'.trace) :=
  remove_keeps_user_data_partial cfg d d' name l w0 w' hl hp hrun p node hget hu
    (exportsApart_hexp cfg hA l hpl p (inLayerDirs_of_under cfg l hpl p hu))

/-- **Unless the layer is pristine it is renamed** — without the per-path side condition -/
theorem remove_renames_unless_pristine (cfg : Config) (d d' : Defs) (name : Bytes)
    (l : Layer) (w0 w' : World) (hl : findLayer d name = some l)
    (hst : l.state = S_complete → ¬ OwnOnly cfg l w0) (hp : w0.pretend = false)
    (hrun : (removeLayer cfg d name false).run.run w0 = (.ok d', w'))
    (hA : ExportsApart cfg) (hpl : Placed cfg l)
    (p : Bytes) (hu : Fs.under l.layerPath p = true) :
    Fs.get w'.fs (l.layerPath ++ removedSuffix ++ p.drop l.layerPath.length) = Fs.get w0.fs p ∧
    Op.rename l.layerPath (l.layerPath ++ removedSuffix) ∈ w'.trace :=
  remove_renames_unless_pristine_partial cfg d d' name l w0 w' hl hst hp hrun p hu
    (exportsApart_hexp cfg hA l hpl p (inLayerDirs_of_under cfg l hpl p hu))

/-- **An existing `<dir>~removed` is never overwritten** — without `hexp` / `hpe`: every path
    in the layer directories (at or below some `<layerdirs>/<legal name>` or its `~removed`)
    that is not at/below the layer directory itself keeps its lookup, for every probed state,
    every pretend / fault / crash setting and every exit. -/
theorem removed_never_overwritten_apart (cfg : Config) (d : Defs) (name : Bytes) (l : Layer) (w0 : World)
    (hl : findLayer d name = some l)
    (hre : Fs.lexists w0.fs (l.layerPath ++ removedSuffix) = true)
    (hA : ExportsApart cfg) (hpl : Placed cfg l)
    (p : Bytes) (hpo : Fs.under l.layerPath p = false) (hin : InLayerDirs cfg p) :
    Fs.get ((removeLayer cfg d name false).run.run w0).2.fs p = Fs.get w0.fs p :=
  removed_never_overwritten cfg d name l w0 hl hre
    (removed_clear cfg hA l hpl) p hpo
    (exportsApart_hexp cfg hA l hpl p hin)

/-- the instance the property names: every path at or below an existing `<dir>~removed` -/
theorem removed_subtree_never_overwritten_apart (cfg : Config) (d : Defs) (name : Bytes) (l : Layer)
    (w0 : World) (hl : findLayer d name = some l)
    (hre : Fs.lexists w0.fs (l.layerPath ++ removedSuffix) = true)
    (hA : ExportsApart cfg) (hpl : Placed cfg l)
    (p : Bytes) (hpr : Fs.under (l.layerPath ++ removedSuffix) p = true) :
    Fs.get ((removeLayer cfg d name false).run.run w0).2.fs p = Fs.get w0.fs p :=
  removed_subtree_never_overwritten cfg d name l w0 hl (placed_ne_root cfg l hpl) hre
    (removed_clear cfg hA l hpl) p hpr
    (exportsApart_hexp cfg hA l hpl p (inLayerDirs_of_removed cfg l hpl p hpr))

/-- **Unless the layer is pristine, `remove` fails when `<dir>~removed` exists** and leaves
    every path in the layer directories as it was — without `hexp` -/
theorem removed_not_overwritten_apart (cfg : Config) (d : Defs) (name : Bytes) (l : Layer) (w0 : World)
    (hl : findLayer d name = some l) (hst : l.state = S_complete → ¬ OwnOnly cfg l w0)
    (hre : Fs.lexists w0.fs (l.layerPath ++ removedSuffix) = true)
    (hA : ExportsApart cfg) (hpl : Placed cfg l) :
    (∀ d', ((removeLayer cfg d name false).run.run w0).1 ≠ .ok d') ∧
    ∀ p, InLayerDirs cfg p →
      Fs.get ((removeLayer cfg d name false).run.run w0).2.fs p = Fs.get w0.fs p := by
  have h := removed_not_overwritten cfg d name l w0 hl hst hre
    (removed_clear cfg hA l hpl)
  exact ⟨h.1, fun p hin => h.2 p (exportsApart_hexp cfg hA l hpl p hin)⟩

/-- the default configuration (defaults/defaults.go; `defaultCfg` of the scenario harness with
    its base directory) -/
def defaultCfg : Config :=
  { basepath := b!"/var/lib/layercake", layerdirs := b!"/var/lib/layercake/layers", buildRoot := b!"build",
    binPkg := b!"packages", generated := b!"generated", workdir := b!"overlayfs/workdir",
    upperdir := b!"overlayfs/upperdir", exportdirs := b!"/var/lib/layercake/export",
    exportBinPkg := b!"packages", exportGenerated := b!"generated" }

theorem default_exportsApart : ExportsApart defaultCfg := by decide +kernel

/-- non-vacuity of the section: the example configuration satisfies `ExportsApart`, the example
    layer is `Placed`, the remaining hypotheses are those of the `_partial` examples above -/
example : ExportsApart exCfg ∧ (∀ st, Placed exCfg (exLayer st)) ∧
    Fs.under (exLayer S_complete).layerPath exData = true ∧
    Fs.under ((exLayer S_incomplete).layerPath ++ removedSuffix) b!"/d/a~removed/old" = true ∧
    InLayerDirs exCfg b!"/d/a~removed/old" := by
  refine ⟨by decide +kernel, fun st => ⟨rfl, (by decide : b!"a" ≠ []), (by decide : isLegalLayerName b!"a" = true)⟩,
    by decide +kernel, by decide +kernel, ?_⟩
  exact ⟨b!"a", by decide +kernel⟩

/-! `ExportsApart` is not padding: for each of its three clauses a configuration violating it
    for which the per-path side condition of the `_partial` theorems is FALSE for a path of the
    layer directory (so those theorems say nothing there, and on a real system the removal of
    the "link" would take user data with it). -/

def cfgWith (ld ed bp : Bytes) : Config :=
  { exCfg with layerdirs := ld, exportdirs := ed, exportBinPkg := bp }

/-- clause 1 (link directory = layer directory; here exportdirs = layerdirs and an empty
    exportBinPkg, equally `exportBinPkg = ".."` one level down): the packages link of layer "a"
    IS its directory -/
example : ¬ ExportsApart (cfgWith b!"/d" b!"/d" []) ∧ ¬ ExportsApart (cfgWith b!"/d" b!"/d/x" b!"..") ∧
    Placed (cfgWith b!"/d" b!"/d" []) (exLayer S_complete) ∧
    ¬ (∀ m ∈ autoExportPaths (cfgWith b!"/d" b!"/d" []) (exLayer S_complete), Fs.under m.1 exData = false) ∧
    ¬ (∀ m ∈ autoExportPaths (cfgWith b!"/d" b!"/d/x" b!"..") (exLayer S_complete), Fs.under m.1 exData = false) := by
  unfold Placed
  decide +kernel

/-- clause 2 (link directory above the layer directory through a legal name; here
    exportdirs = "/", layerdirs = "/d"): the packages link of a layer named "d" is `/d`, an
    ancestor of every layer -/
example : ¬ ExportsApart (cfgWith b!"/d" b!"/" []) ∧
    Placed (cfgWith b!"/d" b!"/" []) { name := b!"d", layerPath := b!"/d/d" } ∧
    ¬ (∀ m ∈ autoExportPaths (cfgWith b!"/d" b!"/" []) { name := b!"d", layerPath := b!"/d/d" },
        Fs.under m.1 b!"/d/d/build/etc/data" = false) := by
  unfold Placed
  decide +kernel

/-- clause 3 (link directory inside a layer; here exportdirs = "/d/a/build/x"): the link of
    layer "a" lies in its own build tree, paths below it are at/below the link -/
example : ¬ ExportsApart (cfgWith b!"/d" b!"/d/a/build/x" b!"p") ∧
    Fs.under (exLayer S_complete).layerPath b!"/d/a/build/x/p/a/f" = true ∧
    ¬ (∀ m ∈ autoExportPaths (cfgWith b!"/d" b!"/d/a/build/x" b!"p") (exLayer S_complete),
        Fs.under m.1 b!"/d/a/build/x/p/a/f" = false) := by
  decide +kernel

/-- … while a link directory inside `<layerdirs>` below a name no layer can have is fine -/
example : ExportsApart (cfgWith b!"/d" b!"/d/.exports" b!"p") := by decide +kernel

end Lc.Props.C09
