/-
  C05 — the stage package set is the dependency closure of the requested set.
  Theorems over the model `Lc.Resolve` (portage/vdb/solution.go, portage/depend/resolver.go,
  portage/atom/atom.go) for EVERY installed-package database, match relation, request,
  enumeration order and flag setting.  No bounds: induction over fuel and dependency trees.
-/
import Lc.Model.Resolve
import Lc.Spec.Closure
import Lc.Lemmas.Resolve
import Lc.Lemmas.AtomSet

namespace Lc.Props.C05
open Lc Lc.Resolve Lc.Spec.Closure

/-! ## basic facts about the installed set -/

theorem get_subset_allPkgs (s : AtomSet) (n : Bytes) : ∀ x ∈ AtomSet.get s n, x ∈ allPkgs s := by
  induction s with
  | nil => intro x hx; simp [AtomSet.get] at hx
  | cons hd tl ih =>
    obtain ⟨m, sl⟩ := hd
    intro x hx
    unfold AtomSet.get at hx
    unfold allPkgs
    simp only [List.flatMap_cons, List.mem_append]
    split at hx
    · exact Or.inl hx
    · exact Or.inr (ih x hx)

theorem candidates_subset (db : Db) (a : DAtom) : ∀ x ∈ candidates db a, x ∈ allPkgs db.installed := by
  intro x hx
  unfold candidates at hx
  exact get_subset_allPkgs _ _ x (List.mem_filter.mp hx).1

/-! ## invariants that `findDependencies` keeps, whatever the fuel -/

/-- `recur` keeps `I` when called on a package satisfying `G` (nothing is said of errors) -/
def Keeps (recur : Pkg → St → R St) (I : St → Prop) (G : Pkg → Prop) : Prop :=
  ∀ p st, G p → I st → PostS I (fun _ => True) (recur p st)

/-- An invariant that every `recur` keeping it also carries through `resolveTop` is kept by
    `findDeps` at every fuel: the one induction on fuel behind the facts on the `Added` and
    `Blocked` marks, soundness and disjointness below. -/
theorem findDeps_keeps (db : Db) {I : St → Prop} {G : Pkg → Prop}
    (hy : ∀ recur, Keeps recur I G → Hyps recur I G (fun _ => True))
    (hc : ∀ p, G p → ∀ a ∈ activeAtomsL p.use (depsOf db p), a.blocker = false →
      ∀ x ∈ candidates db a, G x) : ∀ n, Keeps (findDeps db n) I G := by
  intro n
  induction n with
  | zero => exact fun _ _ _ _ => trivial
  | succ n ih =>
    intro p st hG hI
    unfold findDeps
    split
    · exact hI
    · exact resolveTop_inv (hy _ ih) p.use (depsOf db p) st hI (hc p hG)

/-! ## monotonicity of the `Added` marks -/

/-- `recur` never removes an `Added` mark -/
def Mono (recur : Pkg → St → R St) : Prop :=
  ∀ p st st', recur p st = .ok st' → ∀ i ∈ st.added, i ∈ st'.added

theorem hyps_mono {recur : Pkg → St → R St} (A : List Nat)
    (hk : Keeps recur (fun st => ∀ i ∈ A, i ∈ st.added) (fun _ => True)) :
    Hyps recur (fun st => ∀ i ∈ A, i ∈ st.added) (fun _ => True) (fun _ => True) where
  eUnsat := trivial
  eBlocked := trivial
  block := fun _ _ h _ => h
  recur := fun st ia hI _ _ _ =>
    hk ia (mark st ia) trivial fun i hi => List.mem_cons_of_mem _ (hI i hi)

theorem findDeps_mono (db : Db) (n : Nat) : Mono (findDeps db n) := by
  intro p st st' h
  have := findDeps_keeps db (fun _ => hyps_mono st.added) (fun _ _ _ _ _ _ _ => trivial)
    n p st trivial fun i hi => hi
  rw [h] at this
  exact this

/-! ## termination: fuel = number of installed packages suffices, cycles or not -/

/-- number of installed packages that are not yet `Added` -/
def unadded (db : Db) (st : St) : Nat :=
  (allPkgs db.installed).countP fun p => !st.added.contains p.id

theorem countP_lt_of_witness {α} (p q : α → Bool) (l : List α) (himp : ∀ x, p x = true → q x = true)
    (w : α) (hw : w ∈ l) (hq : q w = true) (hp : p w = false) : l.countP p < l.countP q := by
  induction l with
  | nil => cases hw
  | cons x xs ih =>
    have hle : xs.countP p ≤ xs.countP q := List.countP_mono_left (fun y _ hy => himp y hy)
    rcases List.mem_cons.mp hw with rfl | hw'
    · simp only [List.countP_cons, hq, hp, if_true]
      simp; omega
    · have := ih hw'
      simp only [List.countP_cons]
      by_cases hpx : p x = true
      · simp [hpx, himp x hpx]; omega
      · by_cases hqx : q x = true
        · simp [hpx, hqx]; omega
        · simp [hpx, hqx]; omega

theorem unadded_mark_lt (db : Db) (st : St) (ia : Pkg) (hin : ia ∈ allPkgs db.installed)
    (hna : st.added.contains ia.id = false) : unadded db (mark st ia) < unadded db st := by
  unfold unadded
  apply countP_lt_of_witness _ _ _ _ ia hin
  · have : ¬ ia.id ∈ st.added := by simpa using hna
    simp [this]
  · simp [mark]
  · intro x hx
    simp only [mark, List.contains_cons, Bool.not_eq_true', Bool.or_eq_false_iff] at hx
    have : ¬ x.id ∈ st.added := by simpa using hx.2
    simp [this]

theorem unadded_mono (db : Db) (st st' : St) (h : ∀ i ∈ st.added, i ∈ st'.added) :
    unadded db st' ≤ unadded db st := by
  unfold unadded
  apply List.countP_mono_left
  intro x _ hx
  simp only [Bool.not_eq_true', List.contains_eq_mem, decide_eq_false_iff_not] at hx ⊢
  exact fun hmem => hx (h _ hmem)

theorem hyps_fuel (db : Db) (n : Nat) (recur : Pkg → St → R St) (hm : Mono recur)
    (hnf : ∀ p st, unadded db st < n → recur p st ≠ .error .fuel) :
    Hyps recur (fun st => unadded db st ≤ n) (fun x => x ∈ allPkgs db.installed)
      (fun e => e ≠ .fuel) where
  eUnsat := by decide +kernel
  eBlocked := by decide +kernel
  block := fun _ _ h _ => h
  recur := by
    intro st ia hI hG hna _
    have hlt := unadded_mark_lt db st ia hG hna
    cases hr : recur ia (mark st ia) with
    | error e =>
      intro he
      exact hnf ia (mark st ia) (by omega) (by rw [hr, he])
    | ok st' =>
      have := unadded_mono db (mark st ia) st' (hm ia _ st' hr)
      show unadded db st' ≤ n
      omega

theorem findDeps_no_fuel (db : Db) : ∀ n p st, unadded db st < n → findDeps db n p st ≠ .error .fuel := by
  intro n
  induction n with
  | zero => intro p st h; omega
  | succ n ih =>
    intro p st h
    unfold findDeps
    split
    · intro hc; cases hc
    · have := resolveTop_inv (db := db) (hyps_fuel db n (findDeps db n) (findDeps_mono db n) ih)
        p.use (depsOf db p) st (by show unadded db st ≤ n; omega)
        (fun a _ _ x hx => candidates_subset db a x hx)
      intro hc
      rw [hc] at this
      exact this rfl

/-- **resolve_terminates (1)**: with fuel ≥ the number of installed packages the model never
    runs out of fuel — for any database, including arbitrary dependency cycles. -/
theorem resolve_terminates (db : Db) (req : List DAtom) (fuel : Nat)
    (hf : (allPkgs db.installed).length ≤ fuel) :
    resolveUserDeps db fuel req ≠ .error .fuel := by
  unfold resolveUserDeps
  have hI : unadded db St.init ≤ fuel := by
    unfold unadded
    exact Nat.le_trans (List.countP_le_length) hf
  have := resolveTop_inv (db := db)
    (hyps_fuel db fuel (findDeps db fuel) (findDeps_mono db fuel)
      (fun p st h => findDeps_no_fuel db fuel p st h))
    [] (atomsToDeps (List.filter (·.blocker) req ++ List.filter (!·.blocker) req)) St.init hI
    (fun a _ _ x hx => candidates_subset db a x hx)
  intro hc
  rw [hc] at this
  exact this rfl

theorem findDeps_extends_succ (db : Db) : ∀ n, Extends (findDeps db n) (findDeps db (n + 1)) := by
  intro n
  induction n with
  | zero => intro p st h; exact absurd rfl h
  | succ n ih =>
    intro p st h
    have e1 : ∀ m p st, findDeps db (m + 1) p st =
        if (depsOf db p).isNil then .ok st
        else resolveTop db (findDeps db m) p.use (depsOf db p) st := fun _ _ _ => rfl
    rw [e1 (n + 1), e1 n]
    rw [e1 n] at h
    by_cases hnil : (depsOf db p).isNil = true
    · simp only [hnil, if_true]
    · simp only [hnil, Bool.false_eq_true, if_false] at h ⊢
      exact resolveTop_ext ih _ _ _ h

theorem findDeps_extends (db : Db) (n k : Nat) : Extends (findDeps db n) (findDeps db (n + k)) := by
  induction k with
  | zero => intro p st _; rfl
  | succ k ih =>
    intro p st h
    have h1 := ih p st h
    have h2 := findDeps_extends_succ db (n + k) p st (by rw [h1]; exact h)
    rw [← h1]
    exact h2

/-- **resolve_terminates (2)**: beyond the number of installed packages the amount of fuel is
    irrelevant — the model's result is the result of the (fuel-free) Go recursion. -/
theorem resolve_fuel_irrelevant (db : Db) (req : List DAtom) (fuel fuel' : Nat)
    (hf : (allPkgs db.installed).length ≤ fuel) (hf' : (allPkgs db.installed).length ≤ fuel') :
    resolveUserDeps db fuel req = resolveUserDeps db fuel' req := by
  have key : ∀ k, resolveUserDeps db ((allPkgs db.installed).length + k) req =
      resolveUserDeps db (allPkgs db.installed).length req := by
    intro k
    have hn := resolve_terminates db req (allPkgs db.installed).length (Nat.le_refl _)
    unfold resolveUserDeps at hn ⊢
    exact resolveTop_ext (findDeps_extends db _ k) _ _ _ hn
  obtain ⟨k, rfl⟩ := Nat.exists_eq_add_of_le hf
  obtain ⟨k', rfl⟩ := Nat.exists_eq_add_of_le hf'
  rw [key k, key k']

/-- non-vacuity: a two-package dependency cycle a → b → a terminates with both selected -/
def exA : Pkg := { id := 0, name := b!"c/a", slot := b!"0", use := [], bdepend := .nil, depend := .nil,
                   rdepend := .cons (.atom ⟨1, b!"c/b", false⟩) .nil, pdepend := .nil }
def exB : Pkg := { id := 1, name := b!"c/b", slot := b!"0", use := [], bdepend := .nil, depend := .nil,
                   rdepend := .cons (.atom ⟨2, b!"c/a", false⟩) .nil, pdepend := .nil }
def exDb : Db := { installed := installedOf [exA, exB], rel := [[0], [1], [0]], includeBdepend := true }

example : (resolveUserDeps exDb 2 [⟨0, b!"c/a", false⟩]).toOption.map (·.added) = some [1, 0] := by
  decide +kernel
example : (allPkgs exDb.installed).length ≤ 2 := by decide +kernel

/-! ## soundness: every selected package is reachable from the request -/

/-- reachability through active dependency atoms (the edges of the closure) -/
inductive Reach (db : Db) (req : List DAtom) : Nat → Prop where
  | root (a : DAtom) (x : Pkg) : a ∈ req → a.blocker = false → x ∈ candidates db a → Reach db req x.id
  | step (q : Pkg) (a : DAtom) (x : Pkg) : Reach db req q.id → q ∈ allPkgs db.installed →
      a ∈ activeAtomsL q.use (depsOf db q) → a.blocker = false → x ∈ candidates db a →
      Reach db req x.id

theorem allPkgs_addWith (f : List Pkg → Pkg → List Pkg) (hf : ∀ l e x, x ∈ f l e → x = e ∨ x ∈ l)
    (s : AtomSet) (e : Pkg) : ∀ x ∈ allPkgs (AtomSet.addWith f s e), x = e ∨ x ∈ allPkgs s := by
  induction s with
  | nil =>
    intro x hx
    simp only [AtomSet.addWith, allPkgs, List.flatMap_cons, List.flatMap_nil, List.append_nil] at hx
    rcases hf [] e x hx with h | h
    · exact Or.inl h
    · cases h
  | cons hd tl ih =>
    obtain ⟨n, sl⟩ := hd
    intro x hx
    unfold AtomSet.addWith at hx
    split at hx
    · simp only [allPkgs, List.flatMap_cons, List.mem_append] at hx ⊢
      rcases hx with hx | hx
      · rcases hf sl e x hx with h | h
        · exact Or.inl h
        · exact Or.inr (Or.inl h)
      · exact Or.inr (Or.inr hx)
    · simp only [allPkgs, List.flatMap_cons, List.mem_append] at hx ⊢
      rcases hx with hx | hx
      · exact Or.inr (Or.inl hx)
      · rcases ih x hx with h | h
        · exact Or.inl h
        · exact Or.inr (Or.inr h)

theorem allPkgs_add (s : AtomSet) (e : Pkg) : ∀ x ∈ allPkgs (s.add e), x = e ∨ x ∈ allPkgs s :=
  allPkgs_addWith addSlice mem_addSlice s e

/-- invariant: every `Added` package is reachable and `Resolution` holds only `Added` ones -/
def SoundSt (db : Db) (req : List DAtom) (st : St) : Prop :=
  (∀ i ∈ st.added, Reach db req i) ∧ (∀ p ∈ allPkgs st.res, p.id ∈ st.added)

theorem hyps_sound (db : Db) (req : List DAtom) (recur : Pkg → St → R St)
    (hr : Keeps recur (SoundSt db req) fun x => x ∈ allPkgs db.installed ∧ Reach db req x.id) :
    Hyps recur (SoundSt db req) (fun x => x ∈ allPkgs db.installed ∧ Reach db req x.id)
      (fun _ => True) where
  eUnsat := trivial
  eBlocked := trivial
  block := fun _ _ h _ => h
  recur := by
    intro st ia hI hG _ _
    refine hr ia (mark st ia) hG ⟨fun i hi => ?_, fun p hp => ?_⟩
    · rcases List.mem_cons.mp hi with rfl | hi
      · exact hG.2
      · exact hI.1 i hi
    · rcases allPkgs_add st.res ia p hp with rfl | h
      · exact List.mem_cons_self ..
      · exact List.mem_cons_of_mem _ (hI.2 p h)

theorem findDeps_sound (db : Db) (req : List DAtom) : ∀ n, Keeps (findDeps db n) (SoundSt db req)
    fun x => x ∈ allPkgs db.installed ∧ Reach db req x.id :=
  findDeps_keeps db (hyps_sound db req) fun q hq a ha hb x hx =>
    ⟨candidates_subset db a x hx, Reach.step q a x hq.2 hq.1 ha hb hx⟩

theorem mem_atomsToDeps (l : List DAtom) : ∀ a ∈ activeAtomsL [] (atomsToDeps l), a ∈ l := by
  induction l with
  | nil => intro a ha; simp [atomsToDeps, activeAtomsL] at ha
  | cons b bs ih =>
    intro a ha
    simp only [atomsToDeps, activeAtomsL, activeAtomsD, List.singleton_append, List.mem_cons] at ha
    rcases ha with rfl | ha
    · exact List.mem_cons_self ..
    · exact List.mem_cons_of_mem _ (ih a ha)

theorem mem_sortedAtoms (s : AtomSet) : ∀ p ∈ s.sortedAtoms, p ∈ allPkgs s := by
  intro p hp
  simp only [AtomSet.sortedAtoms, List.mem_flatMap, List.mem_reverse] at hp
  obtain ⟨n, _, hn⟩ := hp
  exact get_subset_allPkgs s n p hn

/-- **resolve_sound**: for every database, request, fuel and enumeration order, every package
    the resolver selects (the `Added` marks, the `Resolution` set and the listing printed by
    `SortedAtoms`) is reachable from a requested non-blocker atom through matches of atoms
    that are active under the USE flags of the package that owns them ("nothing else is
    selected"). -/
theorem resolve_sound (db : Db) (req : List DAtom) (fuel : Nat) (st : St)
    (h : resolveUserDeps db fuel req = .ok st) :
    (∀ i ∈ st.added, Reach db req i) ∧ (∀ p ∈ st.res.sortedAtoms, Reach db req p.id) := by
  unfold resolveUserDeps at h
  have hinv := resolveTop_inv (db := db) (hyps_sound db req (findDeps db fuel) (findDeps_sound db req fuel))
    [] (atomsToDeps (List.filter (·.blocker) req ++ List.filter (!·.blocker) req)) St.init
    ⟨(by intro i hi; simp [St.init] at hi), (by intro p hp; simp [St.init, allPkgs] at hp)⟩
    (fun a ha hb x hx => by
      refine ⟨candidates_subset db a x hx, Reach.root a x ?_ hb hx⟩
      have := mem_atomsToDeps _ a ha
      rcases List.mem_append.mp this with h1 | h1
      · exact (List.mem_filter.mp h1).1
      · exact (List.mem_filter.mp h1).1)
  rw [h] at hinv
  exact ⟨hinv.1, fun p hp => hinv.1 _ (hinv.2 p (mem_sortedAtoms _ p hp))⟩

/-- `stageSet` form of soundness -/
theorem stageSet_sound (db : Db) (req : List DAtom) (l : List Pkg) (h : stageSet db req = .ok l) :
    ∀ p ∈ l, Reach db req p.id := by
  unfold stageSet at h
  split at h
  · cases h
  · rename_i st hst
    cases h
    exact (resolve_sound db req _ st hst).2

/-- non-vacuity: in the cycle example both packages are selected and reachable -/
example : Reach exDb [⟨0, b!"c/a", false⟩] 1 := by
  have h2 : (resolveUserDeps exDb 2 [⟨0, b!"c/a", false⟩]).toOption.map (·.added) = some [1, 0] := by
    decide +kernel
  match hr : resolveUserDeps exDb 2 [⟨0, b!"c/a", false⟩] with
  | .error e => rw [hr] at h2; simp [Except.toOption] at h2
  | .ok st =>
    rw [hr] at h2
    have : st.added = [1, 0] := by simpa [Except.toOption] using h2
    exact (resolve_sound exDb _ 2 st hr).1 1 (by rw [this]; simp)

/-! ## AtomSet.Add keeps every slice sorted; the installed set does not depend on the
       enumeration order -/

/-- **atomset_add_sorted**: `AtomSet.Add` (after the fix) keeps a slice strictly descending
    by grouping key, for every slice and every new entry. -/
theorem atomset_add_sorted (l : List Pkg) (e : Pkg) (h : Desc l) : Desc (addSlice l e) := by
  by_cases hd : ∃ x ∈ l, (x.slot == e.slot) = true
  · rw [addSlice_dup l e hd]; exact h
  · have hnd : ∀ x ∈ l, (x.slot == e.slot) = false :=
      fun x hx => Bool.eq_false_iff.mpr fun hc => hd ⟨x, hx, hc⟩
    rw [addSlice_eq_insDesc l e hnd]
    exact insDesc_desc e l h hnd

def slotPkg (i : Nat) (slot : Bytes) : Pkg :=
  { id := i, name := b!"c/p", slot := slot, use := [], bdepend := .nil, depend := .nil,
    rdepend := .nil, pdepend := .nil }

/-- before the fix the clause was false: adding slots 1, 2, 3 in ascending order gave 2 3 1
    (witness kept in corpus/C05/atomset-add-misplaced.jsonl and resolve-order-dependent.jsonl) -/
theorem atomset_add_unsorted_before_fix :
    (([slotPkg 0 b!"1", slotPkg 1 b!"2", slotPkg 2 b!"3"].foldl addSliceOld []).map (·.slot)
      = [b!"2", b!"3", b!"1"]) ∧
    (([slotPkg 0 b!"1", slotPkg 1 b!"2", slotPkg 2 b!"3"].foldl addSlice []).map (·.slot)
      = [b!"3", b!"2", b!"1"]) := by decide +kernel

theorem foldl_addSlice_desc (l acc : List Pkg) (h : Desc acc) : Desc (l.foldl addSlice acc) := by
  induction l generalizing acc with
  | nil => exact h
  | cons e es ih => exact ih _ (atomset_add_sorted acc e h)

theorem foldl_addSlice_perm (l acc : List Pkg)
    (hd : (acc ++ l).Pairwise fun a b => (a.slot == b.slot) = false) :
    (l.foldl addSlice acc).Perm (acc ++ l) := by
  induction l generalizing acc with
  | nil => simp
  | cons e es ih =>
    have hnd : ∀ x ∈ acc, (x.slot == e.slot) = false := by
      intro x hx
      have := List.pairwise_append.mp hd
      exact this.2.2 x hx e (List.mem_cons_self ..)
    have hperm : (addSlice acc e).Perm (acc ++ [e]) := by
      rw [addSlice_eq_insDesc acc e hnd]
      exact (insDesc_perm e acc).trans (List.perm_append_singleton e acc).symm
    have hd' : ((addSlice acc e) ++ es).Pairwise fun a b => (a.slot == b.slot) = false := by
      have h1 : ((acc ++ [e]) ++ es).Pairwise fun a b => (a.slot == b.slot) = false := by
        simpa using hd
      refine (List.Perm.pairwise_iff ?_ (List.Perm.append_right es hperm)).mpr h1
      intro a b hab
      rwa [BEq.comm]
    have := ih (addSlice acc e) hd'
    refine this.trans ?_
    refine (List.Perm.append_right es hperm).trans ?_
    simp

/-- **atomset_order_invariant**: the slice built for one package name does not depend on the
    order in which its entries are added (one installed version per slot) — hence candidate
    order, the exactly-one-of choice and the listing do not depend on directory enumeration. -/
theorem atomset_order_invariant (l₁ l₂ : List Pkg) (hp : l₁.Perm l₂)
    (hd : l₁.Pairwise fun a b => (a.slot == b.slot) = false) :
    l₁.foldl addSlice [] = l₂.foldl addSlice [] := by
  have hd2 : l₂.Pairwise fun a b => (a.slot == b.slot) = false :=
    (List.Perm.pairwise_iff (fun {a b} hab => by rwa [BEq.comm]) hp).mp hd
  have p1 := foldl_addSlice_perm l₁ [] (by simpa using hd)
  have p2 := foldl_addSlice_perm l₂ [] (by simpa using hd2)
  have hperm : (l₁.foldl addSlice []).Perm (l₂.foldl addSlice []) := by
    simp only [List.nil_append] at p1 p2
    exact p1.trans (hp.trans p2.symm)
  have d1 : (l₁.foldl addSlice []).Pairwise (fun (a b : Pkg) => bytesLt b.slot a.slot = true) :=
    foldl_addSlice_desc l₁ [] List.Pairwise.nil
  have d2 : (l₂.foldl addSlice []).Pairwise (fun (a b : Pkg) => bytesLt b.slot a.slot = true) :=
    foldl_addSlice_desc l₂ [] List.Pairwise.nil
  refine List.Perm.eq_of_pairwise (le := fun (a b : Pkg) => bytesLt b.slot a.slot = true) ?_ d1 d2 hperm
  intro a b _ _ h1 h2
  have := bytesLt_trans h1 h2
  rw [bytesLt_irrefl] at this
  cases this

/-- non-vacuity: three slots, two different insertion orders, same slice -/
example : ([slotPkg 0 b!"1", slotPkg 1 b!"2", slotPkg 2 b!"3"].foldl addSlice []).map (·.id) =
    ([slotPkg 2 b!"3", slotPkg 0 b!"1", slotPkg 1 b!"2"].foldl addSlice []).map (·.id) := by decide +kernel

/-! ## -nobdeps -/

theorem activeAtomsL_append (use : List Flag) : ∀ (a b : DepList),
    activeAtomsL use (a.append b) = activeAtomsL use a ++ activeAtomsL use b
  | .nil, b => by simp [DepList.append, activeAtomsL]
  | .cons d ds, b => by
    simp [DepList.append, activeAtomsL, activeAtomsL_append use ds b, List.append_assoc]

/-- **nobdeps_spec**: under `-nobdeps` the dependency edges the resolver follows from a
    package are exactly the active atoms of its RDEPEND and PDEPEND; otherwise those of all
    four classes.  (With `resolve_sound`: under `-nobdeps` every selected package is
    reachable through RDEPEND/PDEPEND edges alone.) -/
theorem nobdeps_spec (db : Db) (q : Pkg) (a : DAtom) :
    a ∈ activeAtomsL q.use (depsOf db q) ↔
      if db.includeBdepend then
        a ∈ activeAtomsL q.use q.bdepend ∨ a ∈ activeAtomsL q.use q.depend ∨
        a ∈ activeAtomsL q.use q.rdepend ∨ a ∈ activeAtomsL q.use q.pdepend
      else a ∈ activeAtomsL q.use q.rdepend ∨ a ∈ activeAtomsL q.use q.pdepend := by
  unfold depsOf
  cases db.includeBdepend <;> simp [activeAtomsL_append]

/-- non-vacuity: a package whose only dependency is a BDEPEND pulls it in without -nobdeps
    and not with it -/
def exC : Pkg := { id := 0, name := b!"c/a", slot := b!"0", use := [], depend := .nil, rdepend := .nil,
                   bdepend := .cons (.atom ⟨1, b!"c/b", false⟩) .nil, pdepend := .nil }
def exD : Pkg := { id := 1, name := b!"c/b", slot := b!"0", use := [], bdepend := .nil, depend := .nil,
                   rdepend := .nil, pdepend := .nil }
example : (resolveUserDeps ⟨installedOf [exC, exD], [[0], [1]], true⟩ 2 [⟨0, b!"c/a", false⟩]).toOption.map
    (·.added) = some [1, 0] := by decide +kernel
example : (resolveUserDeps ⟨installedOf [exC, exD], [[0], [1]], false⟩ 2 [⟨0, b!"c/a", false⟩]).toOption.map
    (·.added) = some [0] := by decide +kernel

/-! ## failure on an unsatisfied requested atom -/

theorem kids_unsat (db : Db) (recur : Pkg → St → R St) (l : List DAtom) (a : DAtom) (ha : a ∈ l)
    (hb : a.blocker = false) (hc : candidates db a = []) (st : St) (rs : List Pkg) :
    ∀ v, resolveKids db recur [] false (atomsToDeps l) st rs ≠ .ok v := by
  induction l generalizing st rs with
  | nil => cases ha
  | cons b bs ih =>
    intro v
    unfold atomsToDeps resolveKids
    cases hr : resolveDep db recur [] false (.atom b) st rs with
    | error e => simp
    | ok w =>
      obtain ⟨st1, rs1⟩ := w
      simp only
      rcases List.mem_cons.mp ha with rfl | ha'
      · unfold resolveDep resolveAtom at hr
        simp [hb, hc] at hr
      · exact ih ha' st1 rs1 v

/-- **resolve_fails_unsat** (requested atoms): if a requested non-blocker atom matches no
    installed package the run fails — it never succeeds with the atom silently omitted. -/
theorem resolve_fails_unsat (db : Db) (req : List DAtom) (fuel : Nat) (a : DAtom) (ha : a ∈ req)
    (hb : a.blocker = false) (hc : candidates db a = []) :
    ∀ st, resolveUserDeps db fuel req ≠ .ok st := by
  intro st h
  unfold resolveUserDeps resolveTop at h
  simp only at h
  have hmem : a ∈ List.filter (·.blocker) req ++ List.filter (!·.blocker) req :=
    List.mem_append_right _ (List.mem_filter.mpr ⟨ha, by simp [hb]⟩)
  cases hr : resolveKids db (findDeps db fuel) [] false
      (atomsToDeps (List.filter (·.blocker) req ++ List.filter (!·.blocker) req)) St.init [] with
  | error e => rw [hr] at h; cases h
  | ok v => exact kids_unsat db _ _ a hmem hb hc St.init [] v hr

/-- non-vacuity: requesting a package that is not installed fails with `unsat` -/
example : (resolveUserDeps exDb 2 [⟨3, b!"c/zz", false⟩]).toOption.map (·.added) = none := by decide +kernel

/-! ## blockers -/

theorem hyps_monoBl {recur : Pkg → St → R St} (B : List Nat)
    (hk : Keeps recur (fun st => ∀ i ∈ B, i ∈ st.blocked) (fun _ => True)) :
    Hyps recur (fun st => ∀ i ∈ B, i ∈ st.blocked) (fun _ => True) (fun _ => True) where
  eUnsat := trivial
  eBlocked := trivial
  block := fun _ _ h _ i hi => List.mem_cons_of_mem _ (h i hi)
  recur := fun st ia hI _ _ _ => hk ia (mark st ia) trivial hI

theorem findDeps_monoBl (db : Db) (B : List Nat) :
    ∀ n, Keeps (findDeps db n) (fun st => ∀ i ∈ B, i ∈ st.blocked) (fun _ => True) :=
  findDeps_keeps db (fun _ => hyps_monoBl B) fun _ _ _ _ _ _ _ => trivial

/-- invariant: no package is both `Added` and `Blocked` -/
def Disjoint (st : St) : Prop := ∀ i ∈ st.added, ¬ i ∈ st.blocked

theorem hyps_disjoint {recur : Pkg → St → R St} (hr : Keeps recur Disjoint fun _ => True) :
    Hyps recur Disjoint (fun _ => True) (fun _ => True) where
  eUnsat := trivial
  eBlocked := trivial
  block := by
    intro st c h hc i hi hb
    rcases List.mem_cons.mp hb with rfl | hb
    · have : ¬ i ∈ st.added := by simpa using hc
      exact this hi
    · exact h i hi hb
  recur := by
    intro st ia hI _ _ hbl
    refine hr ia (mark st ia) trivial fun i hi hb => ?_
    rcases List.mem_cons.mp hi with rfl | hi
    · have : ¬ ia.id ∈ st.blocked := by simpa using hbl
      exact this hb
    · exact hI i hi hb

theorem findDeps_disjoint (db : Db) : ∀ n, Keeps (findDeps db n) Disjoint fun _ => True :=
  findDeps_keeps db (fun _ => hyps_disjoint) fun _ _ _ _ _ _ _ => trivial

/-- **resolve_marks_disjoint**: on success no selected package carries a `Blocked` mark. -/
theorem resolve_marks_disjoint (db : Db) (req : List DAtom) (fuel : Nat) (st : St)
    (h : resolveUserDeps db fuel req = .ok st) : Disjoint st := by
  unfold resolveUserDeps at h
  have := resolveTop_inv (db := db) (hyps_disjoint (findDeps_disjoint db fuel)) []
    (atomsToDeps (List.filter (·.blocker) req ++ List.filter (!·.blocker) req)) St.init
    (by intro i hi; simp [St.init] at hi) (fun _ _ _ _ _ => trivial)
  rw [h] at this
  exact this

theorem blockLoop_post (cands : List Pkg) (st st' : St) (h : blockLoop cands st = .ok st') :
    (∀ x ∈ cands, x.id ∈ st'.blocked) ∧ (∀ i ∈ st.blocked, i ∈ st'.blocked) := by
  induction cands generalizing st with
  | nil => simp only [blockLoop] at h; cases h; exact ⟨fun _ hx => (by cases hx), fun i hi => hi⟩
  | cons c rest ih =>
    unfold blockLoop at h
    split at h
    · cases h
    · have := ih _ h
      refine ⟨?_, fun i hi => this.2 i (List.mem_cons_of_mem _ hi)⟩
      intro x hx
      rcases List.mem_cons.mp hx with rfl | hx'
      · exact this.2 _ (List.mem_cons_self ..)
      · exact this.1 x hx'

/-- one requested atom: a blocker marks all its candidates, nothing loses its mark -/
theorem atom_req_blocked (db : Db) (recur : Pkg → St → R St) (b : DAtom) (st st' : St)
    (rs rs' : List Pkg) (h : resolveDep db recur [] false (.atom b) st rs = .ok (st', rs')) :
    (b.blocker = true → ∀ x ∈ candidates db b, x.id ∈ st'.blocked) ∧
    (∀ i ∈ st.blocked, i ∈ st'.blocked) := by
  unfold resolveDep resolveAtom at h
  by_cases hb : b.blocker = true
  · simp only [hb, if_true] at h
    cases hbl : blockLoop (candidates db b) st with
    | error e => rw [hbl] at h; cases h
    | ok st2 =>
      rw [hbl] at h
      simp only [Except.ok.injEq, Prod.mk.injEq] at h
      obtain ⟨rfl, rfl⟩ := h
      have hp := blockLoop_post _ _ _ hbl
      exact ⟨fun _ => hp.1, hp.2⟩
  · have hb' : b.blocker = false := by simpa using hb
    simp only [hb', Bool.false_eq_true, if_false] at h
    have hst : st' = st := by
      split at h
      · split at h
        · cases h
        · cases h; rfl
      · cases h; rfl
    subst hst
    exact ⟨fun hab => absurd hab hb, fun i hi => hi⟩

theorem kids_req_blocked (db : Db) (recur : Pkg → St → R St) (l : List DAtom) (st st' : St)
    (rs rs' : List Pkg)
    (h : resolveKids db recur [] false (atomsToDeps l) st rs = .ok (st', rs')) :
    (∀ a ∈ l, a.blocker = true → ∀ x ∈ candidates db a, x.id ∈ st'.blocked) ∧
    (∀ i ∈ st.blocked, i ∈ st'.blocked) := by
  induction l generalizing st rs with
  | nil =>
    simp only [atomsToDeps, resolveKids] at h
    cases h
    exact ⟨fun _ ha => (by cases ha), fun i hi => hi⟩
  | cons b bs ih =>
    unfold atomsToDeps resolveKids at h
    cases hr : resolveDep db recur [] false (.atom b) st rs with
    | error e => rw [hr] at h; cases h
    | ok w =>
      obtain ⟨st1, rs1⟩ := w
      rw [hr] at h
      simp only at h
      have hrest := ih st1 rs1 h
      have hb := atom_req_blocked db recur b st st1 rs rs1 hr
      refine ⟨?_, fun i hi => hrest.2 i (hb.2 i hi)⟩
      intro a ha hab x hx
      rcases List.mem_cons.mp ha with rfl | ha'
      · exact hrest.2 _ (hb.1 hab x hx)
      · exact hrest.1 a ha' hab x hx

/-- **resolve_fails_blocked_partial** (requested blockers; blockers inside the dependencies of
    selected packages are judged by the oracle only): on success no selected package is
    matched by a requested blocker — otherwise the run fails, it never omits silently. -/
theorem resolve_fails_blocked_partial (db : Db) (req : List DAtom) (fuel : Nat) (st : St)
    (h : resolveUserDeps db fuel req = .ok st) :
    ∀ a ∈ req, a.blocker = true → ∀ x ∈ candidates db a, ¬ x.id ∈ st.added := by
  intro a ha hb x hx hadd
  have hdisj := resolve_marks_disjoint db req fuel st h
  unfold resolveUserDeps resolveTop at h
  simp only at h
  cases hr : resolveKids db (findDeps db fuel) [] false
      (atomsToDeps (List.filter (·.blocker) req ++ List.filter (!·.blocker) req)) St.init [] with
  | error e => rw [hr] at h; cases h
  | ok v =>
    obtain ⟨st1, rs1⟩ := v
    rw [hr] at h
    simp only at h
    have hk := kids_req_blocked db _ _ _ _ _ _ hr
    have hmem : a ∈ List.filter (·.blocker) req ++ List.filter (!·.blocker) req :=
      List.mem_append_left _ (List.mem_filter.mpr ⟨ha, hb⟩)
    have hx1 : x.id ∈ st1.blocked := hk.1 a hmem hb x hx
    have hpost := postLoop_inv (hyps_monoBl st1.blocked (findDeps_monoBl db st1.blocked fuel)) false rs1 st1
      (fun i hi => hi) (fun _ _ => trivial)
    rw [h] at hpost
    exact hdisj _ hadd (hpost _ hx1)

/-- non-vacuity: requesting `c/a` together with the blocker `!c/b` fails in the cycle example
    (`c/a` depends on `c/b`), and succeeds without the blocker -/
example : (resolveUserDeps { exDb with rel := [[0], [1], [0], [1]] } 2
    [⟨0, b!"c/a", false⟩, ⟨3, b!"c/b", true⟩]).toOption.map (·.added) = none := by decide +kernel

/-! ## where the unchanged code violates a clause: negation witnesses (kept in
       corpus/C05/choice-group-findings.jsonl) -/

/-- `c/main` (id 1) with RDEPEND `|| ( ( c/bar c/missing ) c/absent )`, only `c/bar` (id 0)
    installed -/
def wBar : Pkg := { id := 0, name := b!"c/bar", slot := b!"0", use := [], bdepend := .nil, depend := .nil,
                    rdepend := .nil, pdepend := .nil }
def wMain : Pkg := { id := 1, name := b!"c/main", slot := b!"0", use := [], bdepend := .nil, depend := .nil,
                     rdepend := .cons (.group .anyOf (.cons (.group .all
                        (.cons (.atom ⟨1, b!"c/bar", false⟩) (.cons (.atom ⟨2, b!"c/missing", false⟩) .nil)))
                        (.cons (.atom ⟨3, b!"c/absent", false⟩) .nil))) .nil,
                     pdepend := .nil }
def wRel : List (List Nat) := [[1], [0], [], []]
def wReq : List DAtom := [⟨0, b!"c/main", false⟩]

/-- finding `anyof-partial-group-accepted`: the resolver succeeds and selects {bar, main}
    although no alternative of the any-of group is satisfied — the specification has no
    valid closure containing `c/main` (the clause "fails instead of silently omitting" is
    violated for atoms inside an all-of group inside an any-of group). -/
theorem anyof_partial_group_accepted_witness :
    (resolveUserDeps ⟨installedOf [wBar, wMain], wRel, true⟩ 2 wReq).toOption.map (·.added) = some [0, 1] ∧
    valid ⟨[wBar, wMain], wRel, true, wReq⟩ [0, 1] = false ∧
    valid ⟨[wBar, wMain], wRel, true, wReq⟩ [1] = false ∧
    unsatJustified ⟨[wBar, wMain], wRel, true, wReq⟩ = true := by decide +kernel

end Lc.Props.C05
