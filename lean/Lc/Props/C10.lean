/-
  C10 — a command reports success only if all of its effects were applied (layercake
  half, over the hand-written command model).

  The environment fails the k-th mutating operation (`faultAt = some k`; the hook
  `verifPoint` in package fs injects exactly that into the real code).  Theorem: for
  EVERY command, argument vector, forest, tree, mount table, process assignment and EVERY
  k, if the run returns normally then fewer than k fault points were passed, i.e. the
  failing operation was never reached; contrapositive: once the k-th operation has
  failed the command reports failure.  Real (non-injected) failures of the environment
  models (`os:` / `sys:` errors) are exceptions of the monad and are never caught by the
  model; that the Go code does not swallow them either is what the fault-injection
  correspondence checks for every k.
-/
import Lc.Lemmas.FaultOk

namespace Lc.Props.C10
open Lc Lc.Layers Lc.FaultOk Lc.Hoare Lc.RunM

theorem notFired_on_success (cfg : Config) (inuse : List (Bytes × List User)) (c : Cmd)
    (w : World) (k : Nat) (hk : w.faultAt = some k) (h0 : w.nops < k) (d : Defs)
    (hok : (run cfg inuse c w).1 = .ok d) : NotFired w (run cfg inuse c w).2 :=
  extractOk (NotFired w) (fun _ w' => NotFired w w') (runCmd cfg inuse c)
    (runCmd_ok w cfg inuse c) w ⟨rfl, by rw [hk]; exact h0⟩ d hok

/-- success ⇒ the armed fault was not reached -/
theorem success_means_fault_not_reached (cfg : Config) (inuse : List (Bytes × List User)) (c : Cmd)
    (w : World) (k : Nat) (hk : w.faultAt = some k) (h0 : w.nops < k) (d : Defs)
    (hok : (run cfg inuse c w).1 = .ok d) : (run cfg inuse c w).2.nops < k := by
  have h := (notFired_on_success cfg inuse c w k hk h0 d hok).2
  rw [hk] at h
  exact h

/-- contrapositive, as the property states it: if the k-th operation was reached (and
    therefore failed) the command does not report success -/
theorem fault_reached_means_failure (cfg : Config) (inuse : List (Bytes × List User)) (c : Cmd)
    (w : World) (k : Nat) (hk : w.faultAt = some k) (h0 : w.nops < k)
    (hreached : k ≤ (run cfg inuse c w).2.nops) : ∀ d, (run cfg inuse c w).1 ≠ .ok d := by
  intro d hok
  have := success_means_fault_not_reached cfg inuse c w k hk h0 d hok
  omega

/-- the fault switch is never modified by a command (so "the k-th operation" means the
    same k throughout the run) -/
theorem faultAt_unchanged_on_success (cfg : Config) (inuse : List (Bytes × List User)) (c : Cmd)
    (w : World) (k : Nat) (hk : w.faultAt = some k) (h0 : w.nops < k) (d : Defs)
    (hok : (run cfg inuse c w).1 = .ok d) : (run cfg inuse c w).2.faultAt = some k :=
  (notFired_on_success cfg inuse c w k hk h0 d hok).1.trans hk

/-- `fs.Mount` of an rbind of /dev, /sys or /run consists of two kernel calls, and the
    second (the propagation change) is a fault point of its own: if the first call succeeds
    and the second is the operation that fails, `fs.Mount` fails — after the first call took
    effect and without having issued the second.  (The general theorems above then give the
    failure of the whole command: the fault was reached.) -/
theorem propagation_failure_reported (w : World) (src tgt fstype opts : Bytes) (kt' : Kernel.KTable)
    (hs : src = b!"/dev" ∨ src = b!"/sys" ∨ src = b!"/run")
    (hp : w.pretend = false) (hc : w.crashAt = none) (hf : w.faultAt = some (w.nops + 2))
    (hk : Kernel.kmount w.kt src tgt fstype (mountFlagsOf fstype) opts = .ok kt') :
    ((fsMount src tgt fstype opts).run.run w).1 = .error (.err "fault") ∧
    ((fsMount src tgt fstype opts).run.run w).2.kt = kt' ∧
    ((fsMount src tgt fstype opts).run.run w).2.trace =
      w.trace ++ [.mount src tgt fstype (mountFlagsOf fstype) opts] := by
  have hsrc : Trace.needsSlave src = true := by
    rcases hs with h | h | h <;> subst h <;> decide
  have h1 := gate_passes w hp (by simp [hc]) (by simp [hf])
  have h2 : (sysMount src tgt fstype (mountFlagsOf fstype) opts).run.run w.tick =
      (.ok (), { w.tick.log (.mount src tgt fstype (mountFlagsOf fstype) opts) with kt := kt' }) := by
    rw [run_sysMount]
    show (match Kernel.kmount w.kt _ _ _ _ _ with | .ok _ => _ | .error _ => _) = _
    rw [hk]
  -- the second gate sees `nops = w.nops + 1`, so it is the armed one
  have h3 := gate_faults { w.tick.log (.mount src tgt fstype (mountFlagsOf fstype) opts) with kt := kt' }
    hp (by show w.crashAt ≠ _; simp [hc]) hf
  rw [Trace.fsMount_eq, ← mountFlagsOf_eq, bind_ok _ _ _ _ _ h1]
  simp only [Bool.not_true, Bool.false_eq_true, ↓reduceIte]
  rw [bind_ok _ _ _ _ _ h2, if_pos hsrc, bind_err _ _ _ _ _ h3]
  exact ⟨rfl, rfl, rfl⟩

/-- non-vacuity: a host with / and /dev mounted and an existing target directory; the rbind of
    /dev succeeds (the table grows) and the propagation point is the one that fails -/
def wEx : World :=
  { fs := [(b!"/dev", .dir), (b!"/t", .dir)], kt := { mnts := [⟨1, 0, b!"0:1", [47], [47], b!"ext4", b!"/dev/sda", [], [], []⟩, ⟨2, 1, b!"0:5", [47], b!"/dev", b!"devtmpfs", b!"devtmpfs", [], [], []⟩] }, faultAt := some 2 }

example :
    ((fsMount b!"/dev" b!"/t" b!"rbind" []).run.run wEx).1 = .error (.err "fault") ∧
    ((fsMount b!"/dev" b!"/t" b!"rbind" []).run.run wEx).2.kt.mnts.length = 3 :=
  ⟨rfl, rfl⟩

/-- the numbering the correspondence relies on: a successful `fs.Mount` passes two fault
    points for an rbind of /dev, /sys or /run and one otherwise -/
theorem fsMount_passes_fault_points (w : World) (src tgt fstype opts : Bytes)
    (hp : w.pretend = false) (hc : w.crashAt = none) (hf : w.faultAt = none)
    (hok : ((fsMount src tgt fstype opts).run.run w).1 = .ok ()) :
    ((fsMount src tgt fstype opts).run.run w).2.nops = w.nops +
      (if src == b!"/dev" || src == b!"/sys" || src == b!"/run" then 2 else 1) := by
  show _ = w.nops + if Trace.needsSlave src then 2 else 1
  rw [Trace.fsMount_eq, ← mountFlagsOf_eq, bind_ok _ _ _ _ _ (gate_passes w hp (by simp [hc]) (by simp [hf]))] at hok ⊢
  simp only [Bool.not_true, Bool.false_eq_true, ↓reduceIte] at hok ⊢
  rw [run_bind] at hok ⊢
  obtain ⟨h1, h2, h3, h4⟩ := sysMount_frame src tgt fstype (mountFlagsOf fstype) opts w.tick
  generalize (sysMount src tgt fstype (mountFlagsOf fstype) opts).run.run w.tick = r at h1 h2 h3 h4 hok
  obtain ⟨x, w2⟩ := r
  cases x with
  | error e => cases hok
  | ok u =>
    dsimp only at h1 h2 h3 h4 ⊢
    split
    · rw [bind_ok _ _ _ _ _ (gate_passes w2 (h2.trans hp) (by rw [h3]; show w.crashAt ≠ _; simp [hc])
        (by rw [h4]; show w.faultAt ≠ _; simp [hf]))]
      rw [(sysMount_frame _ _ _ _ _ _).1]
      show w2.nops + 1 = _
      rw [h1]; rfl
    · exact h1

end Lc.Props.C10
