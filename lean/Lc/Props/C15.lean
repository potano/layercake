/-
  C15 — pretend mode changes nothing.
  (b) over the hand-written command model: for EVERY command, argument vector, layer
  forest, file-system tree, kernel mount table, process assignment and fault/crash
  setting, a run with the pretend switch leaves the file system and the mount table
  exactly as they were and issues no operation at all.
  (a) the call-site facts (every mutator of package fs sits behind the pretender, no
  mutator is called outside package fs, every command installs the pretender) are
  regenerated from the source on every run: Lc/Generated/Guards.lean + Props/C15Facts.
-/
import Lc.Lemmas.PretendKeeps

namespace Lc.Props.C15
open Lc Lc.Layers Lc.Pretend Lc.Hoare

theorem pretend_same_world (cfg : Config) (inuse : List (Bytes × List User)) (c : Cmd) (w : World)
    (hp : w.pretend = true) : (run cfg inuse c w).2 = w :=
  extract (· = w) (runCmd cfg inuse c)
    ((prims_of_pretend (I := (· = w)) fun _ h => h ▸ hp).runCmd cfg inuse c) w rfl

/-- Pretend mode is a no-op on the environment: same tree, same mount table, no
    operation attempted, no fault point passed — whatever the command and its result. -/
theorem pretend_noop (cfg : Config) (inuse : List (Bytes × List User)) (c : Cmd) (w : World)
    (hp : w.pretend = true) :
    (run cfg inuse c w).2.fs = w.fs ∧ (run cfg inuse c w).2.kt = w.kt ∧
    (run cfg inuse c w).2.trace = w.trace ∧ (run cfg inuse c w).2.nops = w.nops := by
  rw [pretend_same_world cfg inuse c w hp]
  exact ⟨rfl, rfl, rfl, rfl⟩

theorem pretend_no_syscall (cfg : Config) (inuse : List (Bytes × List User)) (c : Cmd) (w : World)
    (hp : w.pretend = true) (h0 : w.trace = []) : (run cfg inuse c w).2.trace = [] := by
  rw [pretend_same_world cfg inuse c w hp, h0]

/-- Each primitive on its own: with the pretender installed the fault point is not even
    reached (the hook sits inside the `WriteOK` branch) and the gate answers "skip". -/
theorem gate_pretend (w : World) (hp : w.pretend = true) (r : Bool)
    (hr : (gate.run.run w).1 = .ok r) : r = false := by
  rw [RunM.run_gate, hp] at hr
  cases hr
  rfl

end Lc.Props.C15
