/-
  C08 — a layer's reported state is the documented function of disk and mount table.

  Over the hand-written model of manage/probe.go (`findLayerstate`, the per-layer step of
  `ProbeAllLayerstate`) and manage/layers.go (`Makedirs`), for ALL configurations, trees,
  mount tables and layers:
  * `mounted_implies_nothing_missing`: "mounted (and ready / busy)" is reported only if
    nothing configured is missing (the clause repaired by fix a2e90fd);
  * `incomplete_iff`: "incomplete" is reported exactly when the build root or, for a
    derived layer, either overlay directory is missing (the clause repaired by 2d2b96a);
  * `makedirs_recreates`: mkdirs then recreates what is missing;
  * `partial_vs_mounted`: mountable / partially mounted / mounted = none / some / all of
    the overlay and the configured imports mounted.
  Sections 6-10 (refinement to the documented classification `Spec.World.stateOf` /
  `allStates`, and the whole probe):
  * `state_eq_spec_base`, `state_eq_spec_derived`: `findLayerstate` = `stateOf` for base layers
    with exports and for derived layers (the model follows the fixes f9eff6a, 23c682d,
    eeedaf2; the only exclusion is `ImportBridge.expected` / `SourceAgree`: finding
    nonbind-import-fstype-not-compared);
  * `mounted_only_if_fully_mounted_all`, `never_mounted_when_half_mounted` (+ `_getLayers`,
    `never_mounted_when_unmounted_in_kernel`): over `ProbeAllLayerstate` for every layer of
    any forest;
  * section 8: the bridge hypotheses between the `ProbeMounts` view and the kernel table
    discharged (`probe_gives_view_kwf`, `bridges_of_view`, `in_layers_agree`, …),
    `probe_round_eq_spec`: one whole round of the probe = `stateOf`;
  * section 9: three regions in which report and classification differed: two repaired in the
    Go code (`fixed_*` witnesses), one recorded finding
    (`finding_nonbind_import_fstype_not_compared_witness`);
  * section 10: `getLayers_eq_allStates`: every state every command sees is the documented one.
  `KWF` in this file is `KernelWF.KWF` (the fields of one kernel mount are printable), not the
  tree invariant `KernelUmount.KWF` of C03.
-/
import Lc.Lemmas.StateProbeAll
import Lc.Lemmas.Makedirs
import Lc.Spec.World
import Lc.Lemmas.SpecBridge
import Lc.Lemmas.StateSpec
import Lc.Lemmas.ProbeLoop
import Lc.Lemmas.ProbeRound
import Lc.Lemmas.InLayers
import Lc.Lemmas.KernelWF
import Lc.Lemmas.ProbeAllSpec

namespace Lc.Props.C08
open Lc Lc.Layers Lc.Mountinfo Lc.StateProbe Lc.Hoare Lc.Spec.World

/-! ### a small world for the non-vacuity examples and the finding witnesses

  base layer `a` (import proc), derived layer `c` on `a` (imports proc and rbind /dev). -/

namespace Ex

def cfg : Config :=
  { basepath := b!"/b", layerdirs := b!"/b/l", buildRoot := b!"build", binPkg := b!"pk",
    generated := b!"gen", workdir := b!"work", upperdir := b!"upper", exportdirs := b!"/b/e",
    exportBinPkg := b!"pk", exportGenerated := b!"gen" }

def impProc : Layerfile.NeededMount := { mount := b!"/proc", source := b!"/proc", fstype := b!"proc" }
def impDev : Layerfile.NeededMount := { mount := b!"/dev", source := b!"/dev", fstype := b!"rbind" }

def layA : Layer :=
  { name := b!"a", cmounts := [impProc], layerPath := b!"/b/l/a", state := S_complete }
def layC : Layer :=
  { name := b!"c", base := b!"a", cmounts := [impProc, impDev], layerPath := b!"/b/l/c",
    state := S_complete }

def fhs (root : Bytes) : Fs.Tree :=
  (minimalBuildDirs ++ [b!"proc", b!"dev"]).map fun n => (root ++ b!"/" ++ n, Fs.Node.dir)

/-- everything there except `c`'s upper directory -/
def fs0 : Fs.Tree :=
  [(b!"/", .dir), (b!"/proc", .dir), (b!"/dev", .dir), (b!"/b", .dir), (b!"/b/l", .dir),
   (b!"/b/l/a", .dir), (b!"/b/l/a/build", .dir), (b!"/b/l/c", .dir), (b!"/b/l/c/build", .dir),
   (b!"/b/l/c/work", .dir)] ++ fhs b!"/b/l/a/build" ++ fhs b!"/b/l/c/build"
/-- everything there -/
def fs1 : Fs.Tree := fs0 ++ [(b!"/b/l/c/upper", .dir)]

def mnt (mp fstype stDev : Bytes) : MountType :=
  { source := [], mountpoint := mp, source2 := [], workdir := [], fstype := fstype,
    options := b!"rw", inShadow := false, stDev := stDev, root := b!"/" }
def ovlC : MountType :=
  { source := b!"/b/l/a/build", mountpoint := b!"/b/l/c/build", source2 := b!"/b/l/c/upper",
    workdir := b!"/b/l/c/work", fstype := b!"overlay", options := b!"rw", inShadow := false,
    stDev := b!"0:70", root := b!"/" }
def devs : List Device :=
  [⟨b!"0:5", b!"proc", [b!"/proc", b!"/b/l/a/build/proc", b!"/b/l/c/build/proc"], []⟩,
   ⟨b!"0:6", b!"devtmpfs", [b!"/dev", b!"/b/l/c/build/dev"], []⟩,
   ⟨b!"0:70", b!"overlay", [b!"/b/l/c/build"], []⟩]
def procA : MountType := mnt b!"/b/l/a/build/proc" b!"proc" b!"0:5"
def procC : MountType := mnt b!"/b/l/c/build/proc" b!"proc" b!"0:5"
def devC : MountType := mnt b!"/b/l/c/build/dev" b!"devtmpfs" b!"0:6"

/-- `a` already classified `mounted`, `c` to be classified; `ms` = the mount table -/
def defs (ms : List MountType) : Defs :=
  { layers := [{ layA with state := S_mounted }, layC], order := [b!"a", b!"c"],
    mounts := { list := ms, devices := devs } }

end Ex

/-! ### 1. mounted ⇒ nothing configured is missing -/

/-- If `findLayerstate` reports `mounted and ready` or `mounted, busy` then: the FHS
    directories are there; a derived layer has its overlay mounted on the build directory
    with exactly the configured lower/upper/work directories (and a parent that is at
    least mountable); the configuration expands; EVERY configured import has its
    mountpoint, its source (or a source inside the layers directory, which mount creates),
    something mounted on the mountpoint, and that mount has the expected source; every
    export source lies in the build directory, exists, and an existing link points at it;
    the number of mounted imports equals the number of configured ones. -/
theorem mounted_implies_nothing_missing (cfg : Config) (fs : Fs.Tree) (d : Defs) (l l' : Layer)
    (h : findLayerstate cfg fs d l = .ok l')
    (hm : l'.state = S_mounted ∨ l'.state = S_mounted_busy) :
    minimalBuildDirsPresent fs (buildPath cfg l) = true ∧
    (l.base.length > 0 → OverlayOk cfg d l) ∧
    ∃ imports exports,
      expandConfigMounts cfg d l = .ok imports ∧
      expandConfigExports cfg l = .ok exports ∧
      (∀ e ∈ imports,
        Fs.lexists fs e.mount = true ∧
        (isAbs e.source = true → Fs.lexists fs e.source = true ∨
            inAnyLayerDirectory cfg (e.source.length + 1) e.source = true) ∧
        ∃ mnt, getMount d.mounts e.mount = some mnt ∧
               mountSourceIsExpected d.mounts mnt e.source = .ok true) ∧
      (∀ e ∈ exports,
        (isDescendant (buildPath cfg l) e.source = true ∨ buildPath cfg l = e.source) ∧
        Fs.lexists fs e.source = true ∧
        (Fs.isSymlink fs e.mount = true → readlink fs e.mount = some e.source)) ∧
      imports.length = l.cmounts.length ∧
      imports.countP (impMounted cfg fs d.mounts) = l.cmounts.length := by
  have hm' : l'.state = 7 ∨ l'.state = 8 := hm
  rcases findLayerstate_cases cfg fs d l l' h with ⟨hs, rfl⟩ | ⟨hs, hc⟩
  · exfalso
    have : l.state < 3 := hs
    simp only at hm'
    omega
  rcases hc with rfl | ⟨-, rfl | rfl⟩ | ⟨hfhs, hov, hcl⟩
  · exfalso; simp [S_complete] at hm'
  · exfalso; simp [S_error] at hm'
  · exfalso; simp [S_mountable] at hm'
  refine ⟨hfhs, hov, ?_⟩
  rw [classify_eq, expandConfigMounts_state] at hcl
  split at hcl
  · cases hcl; exfalso; simp [S_inhabited] at hm'
  · cases hcl
  rename_i imports himp
  split at hcl
  · cases hcl
  rename_i hnp
  cases hcl
  obtain ⟨hw, hfs, hmiss, hge⟩ := finishState_mounted _ _ _ _ _ _ _ (by decide) hm
  simp only [Bool.or_eq_false_iff] at hw hmiss
  obtain ⟨hwi, hwe⟩ := hw
  obtain ⟨hmi, hme⟩ := hmiss
  have hlen := Lc.Expand.expand_length himp
  have hcnt := List.countP_le_length (p := impMounted cfg fs d.mounts) (l := imports)
  have hall : imports.countP (impMounted cfg fs d.mounts) = imports.length := by
    have hge' : l.cmounts.length + (if l.base.length > 0 then 1 else 0) ≤
        (if l.base.length > 0 then 1 else 0) + imports.countP (impMounted cfg fs d.mounts) := hge
    generalize (if l.base.length > 0 then 1 else 0) = k at hge'
    omega
  refine ⟨imports, (exportsOf cfg l).1, himp, exportsOf_ok cfg l hfs, ?_, ?_, hlen, by omega⟩
  · intro e he
    exact imp_good cfg fs d.mounts e (List.countP_eq_length.mp hall e he)
      (Bool.eq_false_iff.mpr (List.any_eq_false.mp hwi e he))
      (Bool.eq_false_iff.mpr (List.any_eq_false.mp (Bool.eq_false_iff.mpr hnp) e he))
  · intro e he
    exact exp_good fs (buildPath cfg l) e (Bool.eq_false_iff.mpr (List.any_eq_false.mp hme e he))
      (Bool.eq_false_iff.mpr (List.any_eq_false.mp hwe e he))

/-! ### 2. mountable / partially mounted / mounted = none / some / all -/

/-- number of things mounted for the layer: the overlay (derived layer, already checked)
    plus the imports that have something mounted on their mountpoint -/
def numMounted (cfg : Config) (fs : Fs.Tree) (d : Defs) (l : Layer) (imports : List Expanded) : Nat :=
  (if l.base.length > 0 then 1 else 0) + imports.countP (impMounted cfg fs d.mounts)

/-- With all directories present (FHS directories, every import's mountpoint and source,
    every export source), the overlay of a derived layer mounted as configured, and no
    incorrect mount or export link, the reported state is `mountable` iff nothing is
    mounted, `partially mounted` iff some but not all of overlay + imports are mounted,
    `mounted` (ready or busy) iff all of them are (and there is at least one: a layer
    with nothing to mount is `mountable`, in the code and in the documented function). -/
theorem partial_vs_mounted (cfg : Config) (fs : Fs.Tree) (d : Defs) (l : Layer)
    (imports exports : List Expanded)
    (hs : ¬ l.state < S_complete)
    (hfhs : minimalBuildDirsPresent fs (buildPath cfg l) = true)
    (hov : l.base.length > 0 → OverlayOk cfg d l)
    (himp : expandConfigMounts cfg d l = .ok imports)
    (hexp : expandConfigExports cfg l = .ok exports)
    (hmi : imports.any (impMissing cfg fs) = false)
    (hwi : imports.any (impWrong cfg fs d.mounts) = false)
    (hpi : imports.any (impPanic cfg fs d.mounts) = false)
    (hme : exports.any (expMissing fs (buildPath cfg l)) = false)
    (hwe : exports.any (expWrong fs (buildPath cfg l)) = false) :
    ∃ l', findLayerstate cfg fs d l = .ok l' ∧
      numMounted cfg fs d l imports ≤ numExpected l ∧
      (l'.state = S_mountable ↔ numMounted cfg fs d l imports = 0) ∧
      (l'.state = S_partialmount ↔
        0 < numMounted cfg fs d l imports ∧ numMounted cfg fs d l imports < numExpected l) ∧
      (l'.state = S_mounted ∨ l'.state = S_mounted_busy ↔
        0 < numMounted cfg fs d l imports ∧ numMounted cfg fs d l imports = numExpected l) := by
  have hexs : exportsOf cfg { l with mounts := getMountAndSubmounts d.mounts (buildPath cfg l),
                                     state := S_complete } = (exports, false) := by
    show exportsOf cfg l = _
    unfold exportsOf
    rw [hexp]
  rw [findLayerstate_reached cfg fs d l hs hfhs hov, classify_eq, expandConfigMounts_state, himp]
  simp only [hexs, hpi, hmi, hwi, hme, hwe, Bool.false_eq_true, ↓reduceIte, Bool.or_self]
  have hlen := Lc.Expand.expand_length himp
  have hcnt := List.countP_le_length (p := impMounted cfg fs d.mounts) (l := imports)
  have hle : numMounted cfg fs d l imports ≤ numExpected l := by
    unfold numMounted numExpected; omega
  refine ⟨_, rfl, hle, ?_⟩
  exact finishState_chain S_inhabited (l.mountBusy || l.overlain) _ _ hle

/-! ### 3. incomplete ⇔ build root or (derived) an overlay directory is missing -/

/-- One round of `ProbeAllLayerstate` for a layer that is not in the error state
    (`probeLayer` is that round, `Lc.StateProbe.probeStep_eq` / `probeAll_eq` tie it to the
    model's `probeAll`): the layer comes out `incomplete` exactly when its build root is
    not a directory or, for a derived layer, its work or its upper directory is not
    (`||`, fix 2d2b96a; the original `&&` fails the "one of the two missing" case). -/
theorem incomplete_iff (cfg : Config) (inuse : List (Bytes × List User)) (fs : Fs.Tree) (d : Defs)
    (name : Bytes) (l l' : Layer) (h : probeLayer cfg inuse fs d name l = .ok l') :
    l'.state = S_incomplete ↔
      (Fs.isDir fs (buildPath cfg l) = false ∨
       (l.base.length ≥ 1 ∧
         (Fs.isDir fs (workPath cfg l) = false ∨ Fs.isDir fs (upperPath cfg l) = false))) := by
  rw [probeLayer_unfold] at h
  split at h
  · rename_i hb
    cases h
    simp only [Bool.not_eq_true'] at hb
    simp [hb]
  · rename_i hb
    simp only [Bool.not_eq_true', Bool.not_eq_false] at hb
    split at h
    · rename_i hwu
      cases h
      simp only [Bool.and_eq_true, decide_eq_true_eq, Bool.or_eq_true, Bool.not_eq_true'] at hwu
      simp [hwu]
    · rename_i hwu
      simp only [Bool.and_eq_true, decide_eq_true_eq, Bool.or_eq_true, Bool.not_eq_true'] at hwu
      obtain ⟨s, rfl, -, hr⟩ := findLayerstate_shape cfg fs d _ _ h
      have := (hr (by show ¬ S_complete < S_complete; decide)).1
      constructor
      · intro hs; exact absurd hs this
      · rintro (h1 | h2)
        · rw [hb] at h1; cases h1
        · exact absurd h2 hwu

/-- tie to the monadic loop body: a round on an existing layer that is not in the error
    state does not touch the world, fails only if `findLayerstate` does, and stores the
    `probeLayer` record under the layer's name -/
theorem probeStep_run (cfg : Config) (inuse : List (Bytes × List User)) (fs : Fs.Tree) (d d' : Defs)
    (name : Bytes) (l : Layer) (w w' : World)
    (hl : findLayer d name = some l) (hne : l.state ≠ S_error)
    (hrun : (probeStep cfg inuse fs d name).run.run w = (.ok d', w')) :
    w' = w ∧ ∃ l', probeLayer cfg inuse fs d name l = .ok l' ∧ d' = setLayer d l' ∧
      l'.name = name ∧ findLayer d' name = some l' := by
  rw [probeStep_run_eq, hl] at hrun
  simp only [probeRound, beq_iff_eq, hne, ↓reduceIte] at hrun
  cases hp : probeLayer cfg inuse fs d name l with
  | error e => rw [hp] at hrun; cases hrun
  | ok l' =>
    rw [hp] at hrun
    cases hrun
    obtain ⟨s, hl'⟩ := probeLayer_eq cfg inuse fs d name l l' hp
    have hname : l'.name = name := by rw [hl', probeErr_eq]; exact (ForestInv.findLayer_mem hl).2
    refine ⟨rfl, l', rfl, rfl, hname, ?_⟩
    subst hname
    exact Forest.find?_setLayer_self d l l' l'.name hl rfl

/-! ### 4. mkdirs recreates what is missing -/

/-- After `makedirs` (the `mkdirs` command, also the first phase of `mount`) returns
    normally on a layer below `complete`, outside pretend mode, the build root and, for a
    derived layer, the overlay work and upper directories are directories — whatever the
    tree looked like before (any subset of them present), whatever fault/crash switch is
    armed (then the command does not return normally). -/
theorem makedirs_recreates (cfg : Config) (d d' : Defs) (name : Bytes) (l : Layer) (w : World)
    (hl : findLayer d name = some l) (hs : l.state < S_complete) (hp : w.pretend = false)
    (hok : ((makedirs cfg d name).run.run w).1 = .ok d') :
    Fs.isDir ((makedirs cfg d name).run.run w).2.fs (buildPath cfg l) = true ∧
    (l.base.length > 0 →
      Fs.isDir ((makedirs cfg d name).run.run w).2.fs (workPath cfg l) = true ∧
      Fs.isDir ((makedirs cfg d name).run.run w).2.fs (upperPath cfg l) = true) := by
  have h := extractOk (fun w => w.pretend = false)
    (fun _ w => ∀ q ∈ neededDirs cfg l, Fs.isDir w.fs q = true) (makedirs cfg d name)
    (makedirs_triple cfg d name l hl hs) w hp d' hok
  refine ⟨h _ (by simp [neededDirs]), fun hb => ⟨h _ ?_, h _ ?_⟩⟩ <;> simp [neededDirs, hb]

/-- Finding `mount-source-behind-nonroot-mount` (repaired by fix 23c682d): the base
    path `/b` is a mount whose root is not `/` (a btrfs subvolume `/sub`).  `kt1` is the
    kernel table after layercake's own `mount --rbind /b/src /b/l/h/build/mnt/host` (kernel
    model); `mountsH` is what `ProbeMounts` makes of it (a `MountsView`; the corpus case
    `basepath-subvolume` re-checks it against the real code on every run).  The documented
    classification accepts the mount as the configured import (`importAsConfigured`);
    `findLayerstate` reports `mounted` (`error` without the fix): the source is found
    through the subvolume mount (`Device.subroots`). -/
def layH : Layer :=
  { name := b!"h", cmounts := [{ mount := b!"/mnt/host", source := b!"/b/src", fstype := b!"rbind" }],
    layerPath := b!"/b/l/h", state := S_complete }
def fsH : Fs.Tree :=
  [(b!"/", .dir), (b!"/b", .dir), (b!"/b/src", .dir), (b!"/b/l", .dir), (b!"/b/l/h", .dir),
   (b!"/b/l/h/build", .dir), (b!"/b/l/h/build/mnt", .dir), (b!"/b/l/h/build/mnt/host", .dir)]
   ++ Ex.fhs b!"/b/l/h/build"
def kt0 : Kernel.KTable :=
  { mnts := [{ id := 1, parent := 0, dev := b!"8:1", root := b!"/", mp := b!"/", fstype := b!"ext4",
               source := b!"/dev/sda1" },
             { id := 2, parent := 1, dev := b!"8:2", root := b!"/sub", mp := b!"/b", fstype := b!"btrfs",
               source := b!"/dev/sdb1" }] }
def mntH : Kernel.KMnt :=
  { id := 100, parent := 2, dev := b!"8:2", root := b!"/sub/src", mp := b!"/b/l/h/build/mnt/host",
    fstype := b!"btrfs", source := b!"/dev/sdb1" }
def kt1 : Kernel.KTable := { mnts := kt0.mnts ++ [mntH], nextId := 101 }
def mountsH : Mounts :=
  { list := [{ source := [], mountpoint := b!"/", source2 := [], workdir := [], fstype := b!"ext4",
               options := b!"rw", inShadow := false, stDev := b!"8:1", root := b!"/" },
             { source := [], mountpoint := b!"/b", source2 := [], workdir := [], fstype := b!"btrfs",
               options := b!"rw", inShadow := false, stDev := b!"8:2", root := b!"/sub" },
             { source := [], mountpoint := b!"/b/l/h/build/mnt/host", source2 := [], workdir := [],
               fstype := b!"btrfs", options := b!"rw", inShadow := false, stDev := b!"8:2",
               root := b!"/sub/src" }],
    devices := [⟨b!"8:1", b!"/dev/sda1", [b!"/"], []⟩,
                ⟨b!"8:2", b!"/dev/sdb1", [], [(b!"/sub", b!"/b"), (b!"/sub/src", b!"/b/l/h/build/mnt/host")]⟩] }

theorem fixed_mount_source_behind_nonroot_mount_witness :
    Kernel.kmount kt0 b!"/b/src" b!"/b/l/h/build/mnt/host" b!"rbind" (Kernel.MS_BIND + Kernel.MS_REC) []
      = .ok kt1 ∧
    Kernel.topmostAt kt1.mnts b!"/b/l/h/build/mnt/host" = some mntH ∧
    Spec.World.importAsConfigured ⟨Ex.cfg, fsH, kt1.mnts⟩ mntH b!"rbind" b!"/b/src" = true ∧
    MountsView kt1.mnts mountsH ∧
    getMountSources mountsH mountsH.list[2] = .ok [b!"/b/src"] ∧
    st (findLayerstate Ex.cfg fsH { layers := [layH], order := [b!"h"], mounts := mountsH } layH)
      = some S_mounted := by
  decide +kernel

/-! ### 5. equality with the documented classification, on a region -/

/-- PARTIAL.  On base layers (no parent) without exports whose layerconfig was read without
    messages and whose build root is a directory, the state `findLayerstate` reports is
    the documented classification `Spec.World.stateOf` — for every tree, every set of
    imports, every subset of them mounted, wrong-source mounts included — PROVIDED:
    * `himp`: the documented resolution of the import list (mountpoint below the build
      root, `$$self`/`$$base` resolved, fstype) is the model's expansion `imports` (holds
      when the config expands without error: no other `$$` prefix, no relative source; not
      proved here);
    * `hbr`: per import, `ImportBridge`: the `ProbeMounts` view and the kernel table agree
      on "something is mounted there" and `MountSourceIsExpected` answers what the
      documented comparison `importAsConfigured` answers (false inside the recorded finding
      nonbind-import-fstype-not-compared), the source is absolute, and the two "inside the
      layers directory" tests agree;
    * `hbusy`: the busy flags handed to the probe are the documented ones.
    Derived layers and exports: `state_eq_spec_derived`, `state_eq_spec_base`; the bridge
    hypotheses from `Kernel.probe`: section 8. -/
theorem state_eq_spec_partial (i : Inst) (ls : List DLayer) (users : List (Bytes × List User))
    (dl : DLayer) (d : Defs) (l : Layer) (imports : List Expanded)
    (hn : dl.file.nmsgs = 0) (hb : dl.file.base = []) (he : dl.file.exports = [])
    (hdir : Fs.isDir i.fs (buildDir i dl.name) = true)
    (hlb : l.base = []) (hle : l.cexports = [])
    (hlp : buildPath i.cfg l = buildDir i dl.name) (hls : ¬ l.state < S_complete)
    (hexp : expandConfigMounts i.cfg d l = .ok imports)
    (himp : dl.file.mounts.map (fun imp => (pathJoin [buildDir i dl.name, imp.mount],
        resolveSource i ls dl.name imp.source, imp.fstype))
      = imports.map (fun e => (e.mount, some e.source, e.fstype)))
    (hbr : ∀ e ∈ imports, ImportBridge i d.mounts e)
    (hbusy : (l.mountBusy || l.overlain) = (mountBusy i users dl.name || overlain i dl.name)) :
    ∃ l', findLayerstate i.cfg i.fs d l = .ok l' ∧
      l'.state = (stateOf i ls users dl none).toNat := by
  have hfhs : specFhs i dl = minimalBuildDirsPresent i.fs (buildPath i.cfg l) := by rw [hlp]; rfl
  have hex : exportsOf i.cfg l = ([], false) := by
    unfold exportsOf expandConfigExports
    rw [hle]
    rfl
  rw [stateOf_unfold]
  simp only [hn, hb, hdir, hfhs, List.isEmpty_nil, Bool.not_true, Bool.false_and, Nat.lt_irrefl,
    ↓reduceIte, Bool.false_eq_true]
  cases hf : minimalBuildDirsPresent i.fs (buildPath i.cfg l) with
  | false => exact findLayerstate_base_nofhs i.cfg i.fs d l hls (by simp [hlb]) hf
  | true =>
    rw [findLayerstate_reached i.cfg i.fs d l hls hf (by simp [hlb])]
    have h := classify_eq_specTail i ls users dl d (buildPath i.cfg l)
      { l with mounts := getMountAndSubmounts d.mounts (buildPath i.cfg l), state := S_complete }
      (if l.base.length > 0 then 1 else 0)
      (by rw [expandConfigMounts_state, hexp]; exact himp)
      (fun imports' h e he => hbr e (by rw [expandConfigMounts_state, hexp] at h; cases h; exact he))
      (by rw [he]; show _ = ((exportsOf i.cfg l).1.any _ || (exportsOf i.cfg l).2); rw [hex]; rfl)
      (fun _ => by rw [he]; show _ = (exportsOf i.cfg l).1.any _; rw [hex]; rfl)
      (hlb.trans hb.symm) hbusy (by rw [hlb, hb]; rfl)
    simpa [hb] using h

/-! ### non-vacuity -/

/-- `mounted_implies_nothing_missing` is not vacuous: a base layer with its import mounted
    and a derived layer with overlay and both imports mounted are reported `mounted` -/
example : ∃ l', findLayerstate Ex.cfg Ex.fs1 (Ex.defs [Ex.procA]) Ex.layA = .ok l' ∧
    l'.state = S_mounted := st_ok (by decide +kernel)
example : ∃ l', findLayerstate Ex.cfg Ex.fs1 (Ex.defs [Ex.procA, Ex.ovlC, Ex.procC, Ex.devC]) Ex.layC
    = .ok l' ∧ l'.state = S_mounted := st_ok (by decide +kernel)

/-- the situation repaired by fix a2e90fd: overlay and one of two imports mounted is
    `partially mounted` (`mounted and ready` without the fix) -/
example : ∃ l', findLayerstate Ex.cfg Ex.fs1 (Ex.defs [Ex.procA, Ex.ovlC, Ex.procC]) Ex.layC
    = .ok l' ∧ l'.state = S_partialmount := st_ok (by decide +kernel)

/-- `partial_vs_mounted`: its hypotheses hold in that world (so the three iffs say: 2 of 3
    mounted ⇒ partially mounted) -/
example : ∃ imports exports,
    ¬ Ex.layC.state < S_complete ∧
    minimalBuildDirsPresent Ex.fs1 (buildPath Ex.cfg Ex.layC) = true ∧
    OverlayOk Ex.cfg (Ex.defs [Ex.procA, Ex.ovlC, Ex.procC]) Ex.layC ∧
    expandConfigMounts Ex.cfg (Ex.defs [Ex.procA, Ex.ovlC, Ex.procC]) Ex.layC = .ok imports ∧
    expandConfigExports Ex.cfg Ex.layC = .ok exports ∧
    imports.any (impMissing Ex.cfg Ex.fs1) = false ∧
    imports.any (impWrong Ex.cfg Ex.fs1 (Ex.defs [Ex.procA, Ex.ovlC, Ex.procC]).mounts) = false ∧
    imports.any (impPanic Ex.cfg Ex.fs1 (Ex.defs [Ex.procA, Ex.ovlC, Ex.procC]).mounts) = false ∧
    exports.any (expMissing Ex.fs1 (buildPath Ex.cfg Ex.layC)) = false ∧
    exports.any (expWrong Ex.fs1 (buildPath Ex.cfg Ex.layC)) = false ∧
    numMounted Ex.cfg Ex.fs1 (Ex.defs [Ex.procA, Ex.ovlC, Ex.procC]) Ex.layC imports = 2 ∧
    numExpected Ex.layC = 3 := by
  -- `imports` is what `expandConfigMounts` returns: the proc and the dev import of `c`
  refine ⟨(expandConfigMounts Ex.cfg (Ex.defs [Ex.procA, Ex.ovlC, Ex.procC]) Ex.layC).toOption.getD [], [],
    by decide +kernel, by decide +kernel,
    ⟨{ Ex.layA with state := S_mounted }, Ex.ovlC, by decide +kernel⟩, by decide +kernel⟩

/-- `incomplete_iff` is not vacuous: with `c`'s upper directory missing (work directory
    present: the case the original `&&` missed) the round answers `incomplete`; with all
    three directories present it goes on to `findLayerstate` -/
example : ∃ l', probeLayer Ex.cfg [] Ex.fs0 (Ex.defs [Ex.procA]) b!"c" Ex.layC = .ok l' ∧
    l'.state = S_incomplete := st_ok (by decide +kernel)
example : Fs.isDir Ex.fs0 (workPath Ex.cfg Ex.layC) = true ∧
    Fs.isDir Ex.fs0 (upperPath Ex.cfg Ex.layC) = false := by decide +kernel
example : ∃ l', probeLayer Ex.cfg [] Ex.fs1 (Ex.defs [Ex.procA]) b!"c" Ex.layC = .ok l' ∧
    l'.state = S_mountable := st_ok (by decide +kernel)

/-- `makedirs_recreates` is not vacuous: on the tree without `c`'s upper directory, with
    `c` recorded `incomplete`, `makedirs` returns normally -/
example :
    let d : Defs := { Ex.defs [Ex.procA] with
      layers := [{ Ex.layA with state := S_mounted }, { Ex.layC with state := S_incomplete }] }
    findLayer d b!"c" = some { Ex.layC with state := S_incomplete } ∧
    (((makedirs Ex.cfg d b!"c").run.run { fs := Ex.fs0 }).1.toOption.isSome = true) ∧
    Fs.isDir Ex.fs0 (upperPath Ex.cfg Ex.layC) = false ∧
    Fs.isDir ((makedirs Ex.cfg d b!"c").run.run { fs := Ex.fs0 }).2.fs (upperPath Ex.cfg Ex.layC) = true := by
  decide +kernel

/-- Finding `derived-imports-without-overlay` (repaired by fix f9eff6a), general form:
    a derived layer whose overlay is not mounted (parent at least mountable) is reported
    `error` as soon as ANYTHING is mounted at or below its build root (mounting the overlay
    would hide it), and `mountable` only when nothing is.  Without the fix the report is
    `mountable` in both cases. -/
theorem derived_without_overlay (cfg : Config) (fs : Fs.Tree) (d : Defs)
    (l bl : Layer) (hs : ¬ l.state < S_complete) (hb : l.base.length > 0)
    (hbl : findLayer d l.base = some bl) (hst : ¬ bl.state < S_mountable)
    (hno : getMount d.mounts (buildPath cfg l) = none) :
    ∃ l', findLayerstate cfg fs d l = .ok l' ∧
      l'.state = if (getMountAndSubmounts d.mounts (buildPath cfg l)).length > 0 then S_error
                 else S_mountable := by
  rw [findLayerstate_derived cfg fs d l bl hs hb hbl]
  simp only [hst, ↓reduceIte, hno]
  split <;> exact ⟨_, rfl, rfl⟩

/-- … and the witness world of the finding, in which an import IS mounted below the build
    root while the overlay is not: the report is `error` (`mountable` without the fix); with
    nothing mounted below the build root it is `mountable`. -/
theorem fixed_derived_imports_without_overlay_witness :
    st (findLayerstate Ex.cfg Ex.fs1 (Ex.defs [Ex.procA, Ex.procC]) Ex.layC) = some S_error ∧
    expandConfigMounts Ex.cfg (Ex.defs [Ex.procA, Ex.procC]) Ex.layC
      = .ok [⟨b!"/b/l/c/build/proc", b!"/proc", b!"proc", b!"/proc", b!"/proc"⟩,
             ⟨b!"/b/l/c/build/dev", b!"/dev", b!"rbind", b!"/dev", b!"/dev"⟩] ∧
    getMount (Ex.defs [Ex.procA, Ex.procC]).mounts b!"/b/l/c/build/proc" = some Ex.procC ∧
    st (findLayerstate Ex.cfg Ex.fs1 (Ex.defs [Ex.procA]) Ex.layC) = some S_mountable := by
  decide +kernel

def kProc : Kernel.KMnt :=
  { id := 20, parent := 1, dev := b!"0:5", root := b!"/", mp := b!"/b/l/a/build/proc", fstype := b!"proc", source := b!"proc" }
def instA : Inst :=
  ⟨Ex.cfg, Ex.fs1,
   [{ id := 1, parent := 0, dev := b!"8:1", root := b!"/", mp := b!"/", fstype := b!"ext4", source := b!"/dev/sda1" },
    { id := 2, parent := 1, dev := b!"0:5", root := b!"/", mp := b!"/proc", fstype := b!"proc", source := b!"proc" },
    kProc]⟩
def dlA : DLayer := ⟨b!"a", { base := [], mounts := [Ex.impProc], exports := [], nmsgs := 0 }⟩
def eProc : Expanded := ⟨b!"/b/l/a/build/proc", b!"/proc", b!"proc", b!"/proc", b!"/proc"⟩

/-- the hypotheses of `state_eq_spec_partial` hold for the base layer `a` with its proc import
    mounted (kernel table `instA`, ProbeMounts view `Ex.defs [Ex.procA]`); both sides say `mounted` -/
example : dlA.file.nmsgs = 0 ∧ dlA.file.base = [] ∧ dlA.file.exports = [] ∧
    Fs.isDir instA.fs (buildDir instA dlA.name) = true ∧ Ex.layA.base = [] ∧ Ex.layA.cexports = [] ∧
    buildPath instA.cfg Ex.layA = buildDir instA dlA.name ∧ ¬ Ex.layA.state < S_complete ∧
    expandConfigMounts instA.cfg (Ex.defs [Ex.procA]) Ex.layA = .ok [eProc] ∧
    dlA.file.mounts.map (fun imp => (pathJoin [buildDir instA dlA.name, imp.mount],
        resolveSource instA [dlA] dlA.name imp.source, imp.fstype))
      = [eProc].map (fun e => (e.mount, some e.source, e.fstype)) ∧
    (∀ e ∈ [eProc], ImportBridge instA (Ex.defs [Ex.procA]).mounts e) ∧
    (Ex.layA.mountBusy || Ex.layA.overlain) = (mountBusy instA [] dlA.name || overlain instA dlA.name) ∧
    (stateOf instA [dlA] [] dlA none).toNat = S_mounted := by
  decide +kernel

/-! ### 6. equality with the documented classification: base layers with exports, derived layers -/

/-- PARTIAL (bridge hypotheses only).  For every BASE layer — any imports, any EXPORT
    directives, any tree, any mount table, any subset of the imports mounted, wrong-source
    mounts included — whose layerconfig was read without messages and whose build root is a
    directory, the state `findLayerstate` reports is the documented classification
    `Spec.World.stateOf`.  `l` is the model's record of the disk layer `dl` (`Corr`: what
    `layerOfFile` produces), `dl` is the layer `ls` lists under its name.  The configuration
    need not expand: an import that does not resolve gives `inhabited` on both sides, an
    export that does not resolve gives `error` on both sides.  Hypotheses:
    * `hbr`: per expanded import, `ImportBridge` between the `ProbeMounts` view and the kernel
      table (its `mounted`, `abs` and `inLayers` parts are proved in section 8:
      `bridges_of_view`, `in_layers_agree`; `expected` is false inside finding
      nonbind-import-fstype-not-compared and is the explicit exclusion of that region, reduced
      in section 8 to `SourceAgree`, a statement about the kernel table alone);
    * `hex`: per export, the code's `IsDescendant`-or-equal test and the manual's "the build
      directory or below" agree on the export source (with fix eeedaf2 this holds for every
      export: `export_src_agree_clean`, section 8; `fixed_export_dot_source_witness`);
    * `hbusy`: the busy flags handed to the probe are the documented ones. -/
theorem state_eq_spec_base (i : Inst) (ls : List DLayer) (users : List (Bytes × List User))
    (dl : DLayer) (d : Defs) (l : Layer)
    (hc : Corr i dl l) (hn : dl.file.nmsgs = 0) (hb : dl.file.base = [])
    (hfind : findD ls dl.name = some dl)
    (hdir : Fs.isDir i.fs (buildDir i dl.name) = true)
    (hls : ¬ l.state < S_complete)
    (hbr : ∀ imports, expandConfigMounts i.cfg d l = .ok imports →
      ∀ e ∈ imports, ImportBridge i d.mounts e)
    (hex : ∀ e ∈ dl.file.exports, ExportSrcAgree i dl.name e)
    (hbusy : (l.mountBusy || l.overlain) = (mountBusy i users dl.name || overlain i dl.name)) :
    ∃ l', findLayerstate i.cfg i.fs d l = .ok l' ∧
      l'.state = (stateOf i ls users dl none).toNat := by
  have hlb : l.base = [] := hc.base.trans hb
  have hbp := hc.buildPath
  have hfhs : specFhs i dl = minimalBuildDirsPresent i.fs (buildPath i.cfg l) := by rw [hbp]; rfl
  rw [stateOf_unfold]
  simp only [hn, hb, hdir, List.isEmpty_nil, Bool.not_true, Bool.false_and, Nat.lt_irrefl,
    ↓reduceIte, Bool.false_eq_true, gt_iff_lt, hfhs]
  cases hf : minimalBuildDirsPresent i.fs (buildPath i.cfg l) with
  | false =>
    obtain ⟨l', h1, h2⟩ := findLayerstate_base_nofhs i.cfg i.fs d l hls (by simp [hlb]) hf
    exact ⟨l', h1, h2⟩
  | true =>
    rw [findLayerstate_reached i.cfg i.fs d l hls hf (by simp [hlb])]
    have hz : (if l.base.length > 0 then 1 else 0) = 0 := by simp [hlb]
    rw [hz]
    have hroot : rootOf ls dl.name = dl.name := by
      unfold rootOf ancestorsOf
      simp [hfind, hb]
    have h := classify_eq_specTail_of i ls users dl d l
      (getMountAndSubmounts d.mounts (buildPath i.cfg l)) S_complete 0 hc
      (by
        rw [hroot]
        unfold findLayerBase
        simp [hlb, hc.layerPath])
      hbr hex hbusy (by simp [hb])
    simpa [hb] using h

/-- PARTIAL (bridge hypotheses only).  For every DERIVED
    layer whose layerconfig was read without messages and whose build, work and upper
    directories exist, with `bl` the model's record of its parent (state `ps`, whatever it
    is: a parent below `mountable` gives `complete` on both sides), the state
    `findLayerstate` reports is the documented classification — overlay missing, foreign
    mount or overlay with other lower/upper/work directories on the build root, mounts below
    the build root without the overlay (`error` on both sides with fix f9eff6a, finding
    derived-imports-without-overlay: no exclusion), FHS directories
    visible or not through the overlay, every subset of the imports mounted, exports.
    Hypotheses, besides those of `state_eq_spec_base`:
    * `hroot`: `$$base` names the same directory on both sides (the root of the chain; follows
      from the forest correspondence: `bridges_of_view`, section 8);
    * `hov`: `OverlayBridge` at the build directory (proved from the table conversion,
      section 8);
    * `hbr.expected`: where `MountSourceIsExpected` and the documented comparison differ
      (finding nonbind-import-fstype-not-compared; section 8 reduces it to `SourceAgree`). -/
theorem state_eq_spec_derived (i : Inst) (ls : List DLayer) (users : List (Bytes × List User))
    (dl : DLayer) (d : Defs) (l bl : Layer) (ps : St)
    (hc : Corr i dl l) (hn : dl.file.nmsgs = 0) (hb : dl.file.base ≠ [])
    (hdir : Fs.isDir i.fs (buildDir i dl.name) = true)
    (hwork : Fs.isDir i.fs (workDir i dl.name) = true)
    (hupper : Fs.isDir i.fs (upperDir i dl.name) = true)
    (hls : ¬ l.state < S_complete)
    (hbl : findLayer d l.base = some bl) (hblp : bl.layerPath = layerDir i dl.file.base)
    (hps : bl.state = ps.toNat)
    (hroot : (findLayerBase d (d.layers.length + 1) l).map (·.layerPath)
      = some (layerDir i (rootOf ls dl.name)))
    (hov : OverlayBridge i d.mounts (buildDir i dl.name))
    (hbr : ∀ imports, expandConfigMounts i.cfg d l = .ok imports →
      ∀ e ∈ imports, ImportBridge i d.mounts e)
    (hex : ∀ e ∈ dl.file.exports, ExportSrcAgree i dl.name e)
    (hbusy : (l.mountBusy || l.overlain) = (mountBusy i users dl.name || overlain i dl.name)) :
    ∃ l', findLayerstate i.cfg i.fs d l = .ok l' ∧
      l'.state = (stateOf i ls users dl (some ps)).toNat := by
  have hlb : l.base.length > 0 := hc.base ▸ List.length_pos_iff.mpr hb
  have hemp : dl.file.base.isEmpty = false := List.isEmpty_eq_false_iff.mpr hb
  have hblb : buildPath i.cfg bl = buildDir i dl.file.base :=
    congrArg (fun p => pathJoin [p, i.cfg.buildRoot]) hblp
  have hpm : specParentMountable (some ps) = !decide (bl.state < S_mountable) := by
    show decide (ps.toNat ≥ 5) = !decide (bl.state < 5)
    rw [hps, ← decide_not]
    simp only [Nat.not_lt]
  rw [stateOf_unfold, findLayerstate_derived i.cfg i.fs d l bl hls hlb hbl, hc.buildPath, hblb,
    hc.upperPath, hc.workPath, hpm]
  simp only [hn, hemp, hdir, hwork, hupper, Nat.lt_irrefl, ↓reduceIte, Bool.not_true, Bool.not_false,
    Bool.false_eq_true, Bool.true_and, Bool.or_self, gt_iff_lt, Bool.not_not, decide_eq_true_eq]
  by_cases hst : bl.state < S_mountable
  · rw [if_pos hst, if_pos hst]
    exact ⟨_, rfl, rfl⟩
  rw [if_neg hst, if_neg hst]
  rcases isSome_eq_cases hov.mounted with ⟨hg, ht⟩ | ⟨mnt, km, hg, ht⟩
  · -- nothing on the build directory: `error` iff something is mounted below it
    simp only [hg, specOvlOk, ht, Bool.not_true, Bool.false_eq_true, ↓reduceIte, Option.isNone_none]
    rw [show mountedAtOrBelow i dl.name = _ from hov.below.symm]
    by_cases hlen : (getMountAndSubmounts d.mounts (buildDir i dl.name)).length > 0
    · simp only [hlen, decide_true, ↓reduceIte]; exact ⟨_, rfl, rfl⟩
    · simp only [hlen, decide_false, Bool.false_eq_true, ↓reduceIte]; exact ⟨_, rfl, rfl⟩
  have hcond := hov.not_configured hg ht (buildDir i dl.file.base) (upperDir i dl.name) (workDir i dl.name)
  simp only [hg, hcond, specOvlOk, ht, Option.isNone_some, Bool.false_eq_true, ↓reduceIte]
  cases (km.fstype == b!"overlay" && km.lower == buildDir i dl.file.base
      && km.upper == upperDir i dl.name && km.work == workDir i dl.name) with
  | false => exact ⟨_, rfl, rfl⟩
  | true =>
    have hfhs : specFhs i dl = minimalBuildDirsPresent i.fs (buildDir i dl.name) := rfl
    simp only [Bool.not_true, Bool.false_eq_true, ↓reduceIte, hfhs]
    cases minimalBuildDirsPresent i.fs (buildDir i dl.name) with
    | false => exact ⟨_, rfl, rfl⟩
    | true =>
      have h := classify_eq_specTail_of i ls users dl d l
        (getMountAndSubmounts d.mounts (buildDir i dl.name)) S_complete 1 hc hroot
        hbr hex hbusy (by simp [hemp])
      rw [hc.buildPath] at h
      simpa [hemp] using h

/-! #### non-vacuity of `state_eq_spec_base` and `state_eq_spec_derived` -/

/-- base layer `a` with an export directive (`$$package_export` ← build/usr) whose link exists -/
def expUsr : Layerfile.NeededMount := { mount := b!"$$package_export", source := b!"/usr", fstype := b!"symlink" }
def layAx : Layer := { Ex.layA with cexports := [expUsr] }
def dlAx : DLayer := ⟨b!"a", { base := [], mounts := [Ex.impProc], exports := [expUsr], nmsgs := 0 }⟩
def instAx : Inst :=
  ⟨Ex.cfg, Ex.fs1 ++ [(b!"/b/e", .dir), (b!"/b/e/pk", .dir), (b!"/b/e/pk/a", .symlink b!"/b/l/a/build/usr")],
   instA.mnts⟩
/-- the same with the link pointing elsewhere -/
def instAxBad : Inst :=
  ⟨Ex.cfg, Ex.fs1 ++ [(b!"/b/e", .dir), (b!"/b/e/pk", .dir), (b!"/b/e/pk/a", .symlink b!"/elsewhere")],
   instA.mnts⟩

/-- the hypotheses of `state_eq_spec_base` hold for `a` with its export and its proc import
    mounted; both sides say `mounted`.  With the export link pointing elsewhere both say `error`
    (so the export clause is exercised). -/
example : Corr instAx dlAx layAx ∧ dlAx.file.nmsgs = 0 ∧ dlAx.file.base = [] ∧
    findD [dlAx] dlAx.name = some dlAx ∧
    Fs.isDir instAx.fs (buildDir instAx dlAx.name) = true ∧ ¬ layAx.state < S_complete ∧
    (∃ imports, expandConfigMounts instAx.cfg (Ex.defs [Ex.procA]) layAx = .ok imports ∧
      ∀ e ∈ imports, ImportBridge instAx (Ex.defs [Ex.procA]).mounts e) ∧
    (∀ e ∈ dlAx.file.exports, ExportSrcAgree instAx dlAx.name e) ∧
    (layAx.mountBusy || layAx.overlain) = (mountBusy instAx [] dlAx.name || overlain instAx dlAx.name) ∧
    (stateOf instAx [dlAx] [] dlAx none).toNat = S_mounted ∧
    (stateOf instAxBad [dlAx] [] dlAx none).toNat = S_error ∧
    st (findLayerstate instAxBad.cfg instAxBad.fs (Ex.defs [Ex.procA]) layAx) = some S_error := by
  refine ⟨by decide +kernel, by decide +kernel, by decide +kernel, rfl, by decide +kernel, by decide +kernel,
    ⟨[eProc], by decide +kernel⟩, by decide +kernel⟩

/-- derived layer `c` on `a`: kernel table with the overlay and both imports of `c` mounted -/
def kOvlC : Kernel.KMnt :=
  { id := 30, parent := 1, dev := b!"0:70", root := b!"/", mp := b!"/b/l/c/build", fstype := b!"overlay",
    source := b!"overlay", lower := b!"/b/l/a/build", upper := b!"/b/l/c/upper", work := b!"/b/l/c/work" }
def kHost : List Kernel.KMnt :=
  [{ id := 1, parent := 0, dev := b!"8:1", root := b!"/", mp := b!"/", fstype := b!"ext4", source := b!"/dev/sda1" },
   { id := 2, parent := 1, dev := b!"0:5", root := b!"/", mp := b!"/proc", fstype := b!"proc", source := b!"proc" },
   { id := 3, parent := 1, dev := b!"0:6", root := b!"/", mp := b!"/dev", fstype := b!"devtmpfs", source := b!"devtmpfs" },
   kProc]
def kProcC : Kernel.KMnt :=
  { id := 31, parent := 30, dev := b!"0:5", root := b!"/", mp := b!"/b/l/c/build/proc", fstype := b!"proc", source := b!"proc" }
def kDevC : Kernel.KMnt :=
  { id := 32, parent := 30, dev := b!"0:6", root := b!"/", mp := b!"/b/l/c/build/dev", fstype := b!"devtmpfs", source := b!"devtmpfs" }
def instC (ks : List Kernel.KMnt) : Inst := ⟨Ex.cfg, Ex.fs1, kHost ++ ks⟩
def dlC : DLayer := ⟨b!"c", { base := b!"a", mounts := [Ex.impProc, Ex.impDev], exports := [], nmsgs := 0 }⟩
def eProcC : Expanded := ⟨b!"/b/l/c/build/proc", b!"/proc", b!"proc", b!"/proc", b!"/proc"⟩
def eDevC : Expanded := ⟨b!"/b/l/c/build/dev", b!"/dev", b!"rbind", b!"/dev", b!"/dev"⟩

/-- the hypotheses of `state_eq_spec_derived` hold for `c` (parent `a` mounted) with the
    overlay and one of its two imports mounted; both sides say `partially mounted`.  With both
    imports mounted both say `mounted`; with a foreign lower directory both say `error`. -/
example :
    let i := instC [kOvlC, kProcC]
    let d := Ex.defs [Ex.procA, Ex.ovlC, Ex.procC]
    Corr i dlC Ex.layC ∧ dlC.file.nmsgs = 0 ∧ dlC.file.base ≠ [] ∧
    Fs.isDir i.fs (buildDir i dlC.name) = true ∧ Fs.isDir i.fs (workDir i dlC.name) = true ∧
    Fs.isDir i.fs (upperDir i dlC.name) = true ∧ ¬ Ex.layC.state < S_complete ∧
    findLayer d Ex.layC.base = some { Ex.layA with state := S_mounted } ∧
    Ex.layA.layerPath = layerDir i dlC.file.base ∧ S_mounted = St.mounted.toNat ∧
    (findLayerBase d (d.layers.length + 1) Ex.layC).map (·.layerPath)
      = some (layerDir i (rootOf [dlA, dlC] dlC.name)) ∧
    OverlayBridge i d.mounts (buildDir i dlC.name) ∧
    (∃ imports, expandConfigMounts i.cfg d Ex.layC = .ok imports ∧
      ∀ e ∈ imports, ImportBridge i d.mounts e) ∧
    (∀ e ∈ dlC.file.exports, ExportSrcAgree i dlC.name e) ∧
    (Ex.layC.mountBusy || Ex.layC.overlain) = (mountBusy i [] dlC.name || overlain i dlC.name) ∧
    (stateOf i [dlA, dlC] [] dlC (some .mounted)).toNat = S_partialmount := by
  refine ⟨by decide +kernel, by decide +kernel, by decide +kernel, by decide +kernel, by decide +kernel,
    by decide +kernel, by decide +kernel, by decide +kernel, by decide +kernel, by decide +kernel,
    by decide +kernel, by decide +kernel, ⟨[eProcC, eDevC], by decide +kernel⟩, by decide +kernel⟩

example :
    (stateOf (instC [kOvlC, kProcC, kDevC]) [dlA, dlC] [] dlC (some .mounted)).toNat = S_mounted ∧
    st (findLayerstate Ex.cfg Ex.fs1 (Ex.defs [Ex.procA, Ex.ovlC, Ex.procC, Ex.devC]) Ex.layC) = some S_mounted ∧
    (∀ e ∈ [eProcC, eDevC],
      ImportBridge (instC [kOvlC, kProcC, kDevC]) (Ex.defs [Ex.procA, Ex.ovlC, Ex.procC, Ex.devC]).mounts e) ∧
    (stateOf (instC [{ kOvlC with lower := b!"/b/l/x/build" }]) [dlA, dlC] [] dlC (some .mounted)).toNat = S_error ∧
    st (findLayerstate Ex.cfg Ex.fs1 (Ex.defs [Ex.procA, { Ex.ovlC with source := b!"/b/l/x/build" }]) Ex.layC)
      = some S_error := by
  decide +kernel

/-- The region of the finding derived-imports-without-overlay (a derived layer, parent
    at least mountable, nothing mounted ON the build root but something mounted at or below
    it), with fix f9eff6a: the code reports `error` and the classification says `error` —
    `state_eq_spec_derived` needs no exclusion there; this is the region spelled out. -/
theorem state_in_derived_imports_without_overlay_region (i : Inst) (ls : List DLayer)
    (users : List (Bytes × List User)) (dl : DLayer) (d : Defs) (l bl : Layer) (ps : St)
    (hc : Corr i dl l) (hn : dl.file.nmsgs = 0) (hb : dl.file.base ≠ [])
    (hdir : Fs.isDir i.fs (buildDir i dl.name) = true)
    (hwork : Fs.isDir i.fs (workDir i dl.name) = true)
    (hupper : Fs.isDir i.fs (upperDir i dl.name) = true)
    (hls : ¬ l.state < S_complete)
    (hbl : findLayer d l.base = some bl) (hps : bl.state = ps.toNat) (hpm : ps.toNat ≥ 5)
    (hov : OverlayBridge i d.mounts (buildDir i dl.name))
    (hreg : topAt i.mnts (buildDir i dl.name) = none ∧ mountedAtOrBelow i dl.name = true) :
    (∃ l', findLayerstate i.cfg i.fs d l = .ok l' ∧ l'.state = S_error) ∧
    stateOf i ls users dl (some ps) = .error := by
  have hlb : l.base.length > 0 := hc.base ▸ List.length_pos_iff.mpr hb
  have hemp : dl.file.base.isEmpty = false := List.isEmpty_eq_false_iff.mpr hb
  constructor
  · have hno : getMount d.mounts (buildPath i.cfg l) = none := by
      rw [hc.buildPath]
      rcases isSome_eq_cases hov.mounted with ⟨hg, -⟩ | ⟨_, km, -, ht⟩
      · exact hg
      · rw [hreg.1] at ht; cases ht
    obtain ⟨l', h1, h2⟩ := derived_without_overlay i.cfg i.fs d l bl hls hlb hbl
      (by rw [hps]; show ¬ ps.toNat < 5; omega) hno
    refine ⟨l', h1, ?_⟩
    have hbel : decide ((getMountAndSubmounts d.mounts (buildDir i dl.name)).length > 0)
        = mountedAtOrBelow i dl.name := hov.below
    rw [hreg.2] at hbel
    have : (getMountAndSubmounts d.mounts (buildPath i.cfg l)).length > 0 := by
      rw [hc.buildPath]; simpa using hbel
    rw [h2]
    simp [this]
  · rw [stateOf_unfold]
    have hpm' : specParentMountable (some ps) = true := by
      show decide (ps.toNat ≥ 5) = true
      simpa using hpm
    simp [hn, hemp, hdir, hwork, hupper, hpm', specOvlOk, hreg.1, hreg.2]

/-- the witness world of the finding: `c` without its overlay, its proc import mounted —
    both sides `error` (the hypotheses of the theorem above hold); with nothing below the
    build root both say `mountable` -/
example :
    let i := instC [kProcC]
    let d := Ex.defs [Ex.procA, Ex.procC]
    OverlayBridge i d.mounts (buildDir i dlC.name) ∧
    topAt i.mnts (buildDir i dlC.name) = none ∧ mountedAtOrBelow i dlC.name = true ∧
    st (findLayerstate i.cfg i.fs d Ex.layC) = some S_error ∧
    stateOf i [dlA, dlC] [] dlC (some .mounted) = .error ∧
    stateOf (instC []) [dlA, dlC] [] dlC (some .mounted) = .mountable ∧
    st (findLayerstate Ex.cfg Ex.fs1 (Ex.defs [Ex.procA]) Ex.layC) = some S_mountable := by
  decide +kernel

/-! ### 7. the whole probe: no layer of the forest is reported mounted while half mounted -/

/-- everything configured for `l` is in place, as the table `d` (forest skeleton and mount
    view) shows it: FHS directories; for a derived layer an overlay on the build root whose
    lower directory is the parent's build root and whose upper/work directories are the
    layer's; every configured import has its mountpoint and a mount on it whose source is
    the configured one -/
def FullyMounted (cfg : Config) (fs : Fs.Tree) (d : Defs) (l : Layer) : Prop :=
  minimalBuildDirsPresent fs (buildPath cfg l) = true ∧
  (l.base.length > 0 → ∃ bl mnt, findLayer d l.base = some bl ∧
    getMount d.mounts (buildPath cfg l) = some mnt ∧ mnt.fstype = b!"overlay" ∧
    mnt.source = buildPath cfg bl ∧ mnt.source2 = upperPath cfg l ∧ mnt.workdir = workPath cfg l) ∧
  ∃ imports, expandConfigMounts cfg d l = .ok imports ∧
    ∀ e ∈ imports, Fs.lexists fs e.mount = true ∧
      ∃ mnt, getMount d.mounts e.mount = some mnt ∧
        mountSourceIsExpected d.mounts mnt e.source = .ok true

/-- `FullyMounted` depends on the table only through the skeleton and the mount view -/
theorem fullyMounted_transport (cfg : Config) (fs : Fs.Tree) (d d' : Defs) (l : Layer)
    (hk : SameKeys d d') (hm : d.mounts = d'.mounts) (h : FullyMounted cfg fs d l) :
    FullyMounted cfg fs d' l := by
  obtain ⟨h1, h2, imports, h3, h4⟩ := h
  refine ⟨h1, ?_, imports, ?_, ?_⟩
  · intro hb
    obtain ⟨bl, mnt, a1, a2, a3, a4, a5, a6⟩ := h2 hb
    obtain ⟨bl', b1, b2⟩ := sameKeys_find hk _ _ a1
    have hbp : buildPath cfg bl' = buildPath cfg bl := by
      unfold lkey at b2
      simp only [Prod.mk.injEq] at b2
      unfold buildPath
      rw [b2.2.2]
    exact ⟨bl', mnt, b1, hm ▸ a2, a3, by rw [hbp]; exact a4, a5, a6⟩
  · rw [← expandConfigMounts_sameKeys cfg hk l]; exact h3
  · rw [← hm]; exact h4

/-- one round of the loop: a record that comes out `mounted` has everything in place -/
theorem probeLayer_mounted (cfg : Config) (inuse : List (Bytes × List User)) (fs : Fs.Tree) (d : Defs)
    (name : Bytes) (l l' : Layer) (h : probeLayer cfg inuse fs d name l = .ok l')
    (hm : l'.state = S_mounted ∨ l'.state = S_mounted_busy) : FullyMounted cfg fs d l' := by
  unfold probeLayer at h
  simp only [] at h
  generalize classifyUsers cfg _ _ = lu at h
  split at h
  · cases h; rcases hm with hm | hm <;> simp [S_incomplete, S_mounted, S_mounted_busy] at hm
  · split at h
    · cases h; rcases hm with hm | hm <;> simp [S_incomplete, S_mounted, S_mounted_busy] at hm
    · obtain ⟨g1, g2, imports, exports, g3, -, g4, -, -, -⟩ :=
        mounted_implies_nothing_missing cfg fs d _ l' h hm
      obtain ⟨s, rfl, -, -⟩ := findLayerstate_shape cfg fs d _ _ h
      refine ⟨g1, ?_, imports, ?_, ?_⟩
      · intro hb
        obtain ⟨bl, mnt, a1, -, a3, a4, a5, a6, a7⟩ := g2 hb
        exact ⟨bl, mnt, a1, a3, a4, a5, a6, a7⟩
      · rw [← g3]
        exact expandConfigMounts_congr cfg d _ _ rfl rfl rfl
      · intro e he
        obtain ⟨b1, -, b3⟩ := g4 e he
        exact ⟨b1, b3⟩

/-- **Every layer, whole forest.**  Whatever table `d0` of layers is handed to
    `ProbeAllLayerstate` (any forest, any order list, any initial states), whatever the tree,
    the kernel mount table and the processes: if the probe returns (table `d`), the world is
    untouched, `d.mounts` is what `ProbeMounts` reads from the kernel table, and EVERY layer
    named in the order list has a record in `d` which is reported `mounted and ready` or
    `mounted, busy` only if everything configured for it is in place (`FullyMounted`: FHS
    directories, overlay with the parent's build root below and the layer's own upper and
    work directories, every import mounted with the configured source).  Layers that entered
    in the error state keep it (their mounts and users are recorded since fix e3cb7aa). -/
theorem mounted_only_if_fully_mounted_all (cfg : Config) (inuse : List (Bytes × List User))
    (d0 d : Defs) (w w' : World) (hrun : (probeAll cfg inuse d0).run.run w = (.ok d, w'))
    (name : Bytes) (hord : name ∈ d0.order) :
    w' = w ∧ Kernel.probe w.kt = .ok d.mounts ∧ SameKeys d0 d ∧
    ∃ l, findLayer d name = some l ∧
      (l.state = S_mounted ∨ l.state = S_mounted_busy → FullyMounted cfg w.fs d l) := by
  obtain ⟨m, hm, hloop⟩ := probeAll_run cfg inuse d0 d w w' hrun
  obtain ⟨h1, h2, h3, -, h5⟩ := probeLoop_inv cfg inuse w.fs
    (fun d l => l.state = S_mounted ∨ l.state = S_mounted_busy → FullyMounted cfg w.fs d l)
    (fun d name l l' _ _ hp hm => probeLayer_mounted cfg inuse w.fs d name l l' hp hm)
    (fun d name l _ he hm => by
      have hst : (probeErr cfg inuse d name l).state = l.state := by rw [probeErr_eq]
      rcases hm with hm | hm <;> rw [hst, he] at hm <;> simp [S_error, S_mounted, S_mounted_busy] at hm)
    (fun d d' l hk hm hv hs => fullyMounted_transport cfg w.fs d d' l hk hm (hv hs))
    d0.order _ d w w' hloop
  refine ⟨h1, ?_, (sameKeys_refresh d0 m _).trans h2, h5 name hord⟩
  rw [h3]
  exact hm

/-- **Never `mounted` while half mounted** (contrapositive, in the words of the property):
    after `ProbeAllLayerstate`, for every layer of the forest (so for every layer of every
    chain), if some configured import of the layer has nothing mounted on its mountpoint or
    a mount with another source, or the layer is derived and its build root carries no
    overlay with the configured lower/upper/work directories, then the state reported for
    that layer is neither `mounted and ready` nor `mounted, busy`. -/
theorem never_mounted_when_half_mounted (cfg : Config) (inuse : List (Bytes × List User))
    (d0 d : Defs) (w w' : World) (hrun : (probeAll cfg inuse d0).run.run w = (.ok d, w'))
    (name : Bytes) (hord : name ∈ d0.order) (l : Layer) (hl : findLayer d name = some l)
    (imports : List Expanded) (himp : expandConfigMounts cfg d l = .ok imports)
    (hhalf :
      (∃ e ∈ imports, ∀ mnt, getMount d.mounts e.mount = some mnt →
        mountSourceIsExpected d.mounts mnt e.source ≠ .ok true) ∨
      (l.base.length > 0 ∧ ∀ bl mnt, findLayer d l.base = some bl →
        getMount d.mounts (buildPath cfg l) = some mnt →
        ¬ (mnt.fstype = b!"overlay" ∧ mnt.source = buildPath cfg bl ∧
           mnt.source2 = upperPath cfg l ∧ mnt.workdir = workPath cfg l))) :
    l.state ≠ S_mounted ∧ l.state ≠ S_mounted_busy := by
  obtain ⟨-, -, -, l1, hl1, hv⟩ := mounted_only_if_fully_mounted_all cfg inuse d0 d w w' hrun name hord
  rw [hl] at hl1
  cases hl1
  have hnot : ¬ (l.state = S_mounted ∨ l.state = S_mounted_busy) := by
    intro hm
    obtain ⟨-, g2, imports', g3, g4⟩ := hv hm
    rw [himp] at g3
    cases g3
    rcases hhalf with ⟨e, he, hno⟩ | ⟨hb, hno⟩
    · obtain ⟨-, mnt, a1, a2⟩ := g4 e he
      exact hno mnt a1 a2
    · obtain ⟨bl, mnt, a1, a2, a3, a4, a5, a6⟩ := g2 hb
      exact hno bl mnt a1 a2 ⟨a3, a4, a5, a6⟩
  exact ⟨fun h => hnot (Or.inl h), fun h => hnot (Or.inr h)⟩


/-- **What every command sees.**  `getLayers` is what cmd/layercake runs before every
    command (`FindLayers`, then `ProbeAllLayerstate`).  Whenever it returns, for EVERY layer
    it found — whatever the tree, the kernel mount table, the processes — a layer some of
    whose configured mounts is missing or has another source (same `hhalf` as above) is not
    reported `mounted and ready` / `mounted, busy`.  No hypothesis on order lists or initial
    states is left: `FindLayers` provides them. -/
theorem never_mounted_when_half_mounted_getLayers (cfg : Config) (inuse : List (Bytes × List User))
    (d : Defs) (w w' : World) (hrun : (getLayers cfg inuse).run.run w = (.ok d, w'))
    (name : Bytes) (l : Layer) (hl : findLayer d name = some l)
    (imports : List Expanded) (himp : expandConfigMounts cfg d l = .ok imports)
    (hhalf :
      (∃ e ∈ imports, ∀ mnt, getMount d.mounts e.mount = some mnt →
        mountSourceIsExpected d.mounts mnt e.source ≠ .ok true) ∨
      (l.base.length > 0 ∧ ∀ bl mnt, findLayer d l.base = some bl →
        getMount d.mounts (buildPath cfg l) = some mnt →
        ¬ (mnt.fstype = b!"overlay" ∧ mnt.source = buildPath cfg bl ∧
           mnt.source2 = upperPath cfg l ∧ mnt.workdir = workPath cfg l))) :
    w' = w ∧ l.state ≠ S_mounted ∧ l.state ≠ S_mounted_busy := by
  obtain ⟨d0, -, hp, hord⟩ := getLayers_run cfg inuse w w' d hrun
  have h1 := (mounted_only_if_fully_mounted_all cfg inuse d0 d w w' hp name (hord name l hl)).1
  exact ⟨h1, never_mounted_when_half_mounted cfg inuse d0 d w w' hp name (hord name l hl) l hl imports himp hhalf⟩

/-- The same on the KERNEL table (no parsed view in the statement): for every printable
    kernel table (`KWF`), after `getLayers`, a layer one of whose configured imports has no
    mount at all on its mountpoint in the kernel's table, or (derived layer) whose build root
    carries no mount at all, is not reported `mounted and ready` / `mounted, busy`. -/
theorem never_mounted_when_unmounted_in_kernel (cfg : Config) (inuse : List (Bytes × List User))
    (d : Defs) (w w' : World) (hrun : (getLayers cfg inuse).run.run w = (.ok d, w'))
    (hk : ∀ k ∈ w.kt.mnts, Lc.KernelWF.KWF k)
    (name : Bytes) (l : Layer) (hl : findLayer d name = some l)
    (imports : List Expanded) (himp : expandConfigMounts cfg d l = .ok imports)
    (hhalf : (∃ e ∈ imports, Kernel.topmostAt w.kt.mnts e.mount = none) ∨
      (l.base.length > 0 ∧ Kernel.topmostAt w.kt.mnts (buildPath cfg l) = none)) :
    l.state ≠ S_mounted ∧ l.state ≠ S_mounted_busy := by
  obtain ⟨d0, -, hp, hord⟩ := getLayers_run cfg inuse w w' d hrun
  obtain ⟨-, hpr, -, -⟩ := mounted_only_if_fully_mounted_all cfg inuse d0 d w w' hp name (hord name l hl)
  obtain ⟨m, hm, hv⟩ := probe_view w.kt (fun k hk' => Lc.KernelWF.toSpec_wf k (hk k hk'))
  rw [hpr] at hm
  cases hm
  have hnone : ∀ p, Kernel.topmostAt w.kt.mnts p = none → getMount d.mounts p = none := by
    intro p hp'
    rcases isSome_eq_cases (getMount_view_isSome hv p) with ⟨hg, -⟩ | ⟨_, km, -, ht⟩
    · exact hg
    · rw [show topAt w.kt.mnts p = none from hp'] at ht; cases ht
  refine (never_mounted_when_half_mounted_getLayers cfg inuse d w w' hrun name l hl imports himp ?_).2
  rcases hhalf with ⟨e, he, hno⟩ | ⟨hb, hno⟩
  · exact Or.inl ⟨e, he, fun mnt hg => by rw [hnone _ hno] at hg; cases hg⟩
  · exact Or.inr ⟨hb, fun bl mnt _ hg => by rw [hnone _ hno] at hg; cases hg⟩

/-- the loop on the example forest (mount view given directly): `a` with its import mounted,
    `c` with overlay and one of two imports → `[mounted, partially mounted]`; the `/dev` import
    of `c` has no mount (first disjunct of `hhalf`) -/
example :
    let d := Ex.defs [Ex.procA, Ex.ovlC, Ex.procC]
    (((d.order.foldlM (probeStep Ex.cfg [] Ex.fs1) d).run.run { fs := Ex.fs1 }).1.toOption.map
        fun d' => d'.layers.map (·.state)) = some [S_mounted, S_partialmount] ∧
    expandConfigMounts Ex.cfg d Ex.layC = .ok [eProcC, eDevC] ∧
    getMount d.mounts eDevC.mount = none := by decide +kernel

/-- `probeAll` itself returns on a world with an empty kernel table (the only table `decide`
    can push through `Kernel.probe`): both layers `mountable`, every name of the order list
    has a record — the hypotheses `hrun`, `hord` of the two theorems above are satisfiable -/
example :
    (((probeAll Ex.cfg [] (Ex.defs [])).run.run { fs := Ex.fs1 }).1.toOption.map
        fun d' => d'.layers.map (·.state)) = some [S_mountable, S_mountable] ∧
    b!"c" ∈ (Ex.defs []).order := by decide +kernel

/-- `getLayers` returns on a world with two layerconfig files on disk (empty kernel table):
    `hrun` of `never_mounted_when_half_mounted_getLayers` is satisfiable, both layers found
    and classified -/
def fsG : Fs.Tree := Ex.fs1 ++ [(b!"/b/l/a/layerconfig", .file b!"import proc /proc /proc\n"),
  (b!"/b/l/c/layerconfig", .file b!"base a\n\nimport proc /proc /proc\nimport rbind /dev /dev\n")]
example :
    (((getLayers Ex.cfg []).run.run { fs := fsG }).1.toOption.map
        fun d' => d'.layers.map (fun l => (l.name, l.state)))
      = some [(b!"a", S_mountable), (b!"c", S_mountable)] := by decide +kernel

/-! ### 8. the bridge hypotheses discharged: forest correspondence and the model's own view

  `MountsView mnts m` (Lemmas/MountsView) says that `m` has one entry per mount of the kernel
  table `mnts`, in table order, with the mount's mountpoint, type, device, root and overlay
  directories, and the device table `ProbeMounts` builds; it is decidable and does not
  mention the text rendering.  `ForestCorr i ls d` (Lemmas/SpecForest) says that every record
  of the model's table is the record `FindLayers` makes of the disk layer of the same name. -/

/-- **The model's own conversion yields a view**: for every kernel table that is printable
    as the kernel prints it (C12's precondition `WF` on every line), `Kernel.probe` (render
    as /proc/self/mountinfo, parse with the model of `ProbeMounts`) succeeds with a view of
    the table. -/
theorem probe_gives_view (kt : Kernel.KTable) (wf : ∀ k ∈ kt.mnts, (Kernel.toSpec k).WF) :
    ∃ m, Kernel.probe kt = .ok m ∧ MountsView kt.mnts m := probe_view kt wf

/-- … and `WF` follows from a condition on the table itself (`KWF`: device number and type
    are tokens, paths / source / overlay directories are byte strings, an overlay's work
    directory does not end in a carriage return): the decimal ids the model prints are
    always tokens. -/
theorem probe_gives_view_kwf (kt : Kernel.KTable) (h : ∀ k ∈ kt.mnts, Lc.KernelWF.KWF k) :
    ∃ m, Kernel.probe kt = .ok m ∧ MountsView kt.mnts m :=
  probe_view kt (fun k hk => Lc.KernelWF.toSpec_wf k (h k hk))

/-- **`FindLayers` yields a corresponding forest**: the table read from the tree of an
    installation corresponds to the forest the specification reads from the same tree. -/
theorem findLayers_gives_forest (i : Inst) (order : List Bytes) (m : Mounts) :
    ForestCorr i (diskLayers i)
      { layers := readLayerFiles i.cfg i.fs (Fs.children i.fs i.cfg.layerdirs), order := order, mounts := m } :=
  forestCorr_diskLayers i order m

/-- The three bridge hypotheses of `state_eq_spec_base` / `state_eq_spec_derived` that relate
    the parsed view to the kernel table, proved for every view: `GetMount` sees a mount on a
    path iff the table has one (topmost), with its type and overlay directories
    (`OverlayBridge`, `ImportBridge.mounted`); `MountSourceIsExpected` is `kSources … contains`
    evaluated on the kernel table, so that `ImportBridge.expected` becomes the statement
    `SourceAgree` about the installation alone; expanded sources are absolute
    (`ImportBridge.abs`) when no configured source is empty; `$$base` agrees (`hroot`). -/
theorem bridges_of_view (i : Inst) (ls : List DLayer) (d : Defs)
    (hforest : ForestCorr i ls d) (hview : MountsView i.mnts d.mounts)
    (dl : DLayer) (l : Layer) (hc : Corr i dl l) (hdl : findD ls dl.name = some dl)
    (hrootsome : (findLayerBase d (d.layers.length + 1) l).isSome = true)
    (hld : i.cfg.layerdirs ≠ [])
    (hsrc : ∀ m ∈ dl.file.mounts, m.source ≠ [])
    (hin : ∀ imports, expandConfigMounts i.cfg d l = .ok imports → ∀ e ∈ imports,
      inAnyLayerDirectory i.cfg (e.source.length + 1) e.source = underLayers i e.source)
    (hsa : ∀ imports, expandConfigMounts i.cfg d l = .ok imports → ∀ e ∈ imports, SourceAgree i e) :
    OverlayBridge i d.mounts (buildDir i dl.name) ∧
    (findLayerBase d (d.layers.length + 1) l).map (·.layerPath) = some (layerDir i (rootOf ls dl.name)) ∧
    (∀ bl, findLayer d l.base = some bl → bl.layerPath = layerDir i dl.file.base) ∧
    ∀ imports, expandConfigMounts i.cfg d l = .ok imports → ∀ e ∈ imports, ImportBridge i d.mounts e :=
  ⟨overlayBridge_of_view i d.mounts hview _,
   root_agree i ls d hforest l dl hc hdl hrootsome,
   fun bl hbl => parent_path i ls d hforest l bl dl hc hbl,
   importBridges_of_view i ls d hforest hview dl l hc hdl hrootsome hld hsrc hin hsa⟩

/-- `ImportBridge.inLayers` proved: for every clean absolute path and every clean absolute
    `Layerdirs` other than "/", walking up with path.Dir while the path is at least as long
    as `Layerdirs` (the code) finds `Layerdirs` exactly when the path is `Layerdirs` or has the
    prefix `Layerdirs/` (the manual). -/
theorem in_layers_agree (i : Inst) (p : Bytes)
    (hlc : pathClean i.cfg.layerdirs = i.cfg.layerdirs) (hla : isAbs i.cfg.layerdirs = true)
    (hlr : i.cfg.layerdirs ≠ [47]) (hpc : pathClean p = p) (hpa : isAbs p = true) :
    inAnyLayerDirectory i.cfg (p.length + 1) p = underLayers i p :=
  Lc.InLayers.inLayers_agree i.cfg p hlc hla hlr hpc hpa

/-- the layerconfig reader stores `path.Clean` of the source field: every import source of
    every layer the specification reads from the disk is clean and not empty -/
theorem diskLayers_sources_clean (i : Inst) :
    ∀ dl ∈ diskLayers i, ∀ m ∈ dl.file.mounts, m.source ≠ [] ∧ pathClean m.source = m.source :=
  Lc.InLayers.diskLayers_sources i

/-- `hex` of the classification theorems in plain terms (with fix eeedaf2): an export
    source that is outside the build directory, the build directory itself, or below it with
    a relative path that is not "", ".", ".." or "../…" satisfies `ExportSrcAgree` (and
    conversely). -/
theorem export_src_agree (i : Inst) (n : Bytes) (e : Layerfile.NeededMount) (hd : buildDir i n ≠ [47]) :
    ExportSrcAgree i n e ↔
      relProper (buildDir i n) (pathJoin [layerDir i n, i.cfg.buildRoot, e.source]) = true :=
  export_src_agree_iff i n e hd

/-- **`hex` holds** (with fix eeedaf2; without it a source like `build/.cache` is a
    counterexample): with an absolute `Layerdirs` and a build directory other than "/"
    EVERY export source satisfies `ExportSrcAgree` — export sources are `path.Join`s, hence
    clean, and a clean path below a clean directory is a proper relative path. -/
theorem export_src_agree_clean (i : Inst) (n : Bytes) (e : Layerfile.NeededMount)
    (hla : isAbs i.cfg.layerdirs = true) (hbd : buildDir i n ≠ [47]) : ExportSrcAgree i n e :=
  Lc.InLayers.exportSrcAgree_clean i n e hla hbd

/-- **One round of `ProbeAllLayerstate` = the documented classification.**  PARTIAL only by
    `hsa` (where code and classification differ: finding nonbind-import-fstype-not-compared)
    and configuration sanity; with the fixes f9eff6a, 23c682d, eeedaf2 nothing else is excluded.
    For every installation `i` (configuration, tree, kernel mount table), every forest `ls`
    and corresponding table `d` whose mount view is a `MountsView` of the kernel table, every
    process list, every layer `dl` of the forest whose layerconfig was read without messages
    — base or derived, with or without exports, any subset of its directories present, any
    subset of overlay and imports mounted, foreign and wrong-source mounts included — the
    state the round `probeLayer` stores for it (process classification, `incomplete` tests,
    `findLayerstate`) is `Spec.World.stateOf`, where `ps` is the state already stored for the
    parent.  Hypotheses:
    * `hps`, `hrootsome`: the parent's record exists and carries state `ps`; the chain walk
      for `$$base` ends (both hold after `FindLayers`: checkInheritance);
    * configuration sanity: `Layerdirs` a clean absolute path other than "/", the three
      directory names not ending in '/'; every configured import source clean and not empty
      (what the reader stores: `diskLayers_sources_clean`).  With that the code's walk up with
      path.Dir and the manual's prefix test agree on "inside the layers directory"
      (`in_layers_agree`), so `ImportBridge.inLayers` is not a hypothesis;
    * `hmb0`, `hov0`: the flags as `FindLayers`/`refreshMountInfo` leave them;
    * `hbd`: the build directory is not "/";
    * `hsa`: `SourceAgree` — `GetMountSources`, evaluated on the kernel table, contains the
      source iff the mount on the mountpoint is the configured import.  False inside finding
      nonbind-import-fstype-not-compared (section 9); with fix 23c682d it holds for sources
      behind bind mounts, subvolumes or on an overlay (`fixed_*` witnesses). -/
theorem probe_round_eq_spec (i : Inst) (ls : List DLayer) (users : List (Bytes × List User)) (d : Defs)
    (hforest : ForestCorr i ls d) (hview : MountsView i.mnts d.mounts)
    (dl : DLayer) (l0 : Layer)
    (hdl : findD ls dl.name = some dl) (hl0 : findLayer d dl.name = some l0)
    (hn : dl.file.nmsgs = 0)
    (ps : Option St)
    (hps : match ps with
      | none => dl.file.base = []
      | some s => dl.file.base ≠ [] ∧ ∃ bl, findLayer d dl.file.base = some bl ∧ bl.state = s.toNat)
    (hrootsome : (findLayerBase d (d.layers.length + 1) l0).isSome = true)
    (hlc : pathClean i.cfg.layerdirs = i.cfg.layerdirs) (hla : isAbs i.cfg.layerdirs = true)
    (hlr : i.cfg.layerdirs ≠ [47])
    (hcb : i.cfg.buildRoot.getLast? ≠ some 47) (hcw : i.cfg.workdir.getLast? ≠ some 47)
    (hcu : i.cfg.upperdir.getLast? ≠ some 47)
    (hsrc : ∀ m ∈ dl.file.mounts, m.source ≠ [] ∧ pathClean m.source = m.source)
    (hmb0 : l0.mountBusy = false)
    (hov0 : l0.overlain = (overlayLowerdirs d.mounts).contains (buildPath i.cfg l0))
    (hbd : buildDir i dl.name ≠ [47])
    (hsa : ∀ imports, expandConfigMounts i.cfg d l0 = .ok imports → ∀ e ∈ imports, SourceAgree i e) :
    ∃ l', probeLayer i.cfg users i.fs d dl.name l0 = .ok l' ∧
      l'.state = (stateOf i ls users dl ps).toNat := by
  have hex : ∀ e ∈ dl.file.exports, ExportSrcAgree i dl.name e :=
    fun e _ => export_src_agree_clean i dl.name e hla hbd
  -- the record is the model's record of `dl`
  obtain ⟨dl', hd', hc0⟩ := hforest.find _ _ hl0
  rw [hdl] at hd'
  cases hd'
  have hbp0 := hc0.buildPath
  have hld : i.cfg.layerdirs ≠ [] := by
    intro e; rw [e] at hla; cases hla
  -- "inside the layers directory": the two tests agree on every expanded source
  have hin : ∀ imports, expandConfigMounts i.cfg d l0 = .ok imports → ∀ e ∈ imports,
      inAnyLayerDirectory i.cfg (e.source.length + 1) e.source = underLayers i e.source := by
    intro imports himp e he
    have hr := resolver_ne_nil hforest hc0 hdl hrootsome hld
    exact Lc.InLayers.inLayers_agree i.cfg e.source hlc hla hlr
      (Lc.InLayers.expanded_source_clean himp (hc0.cmounts ▸ fun m hm => (hsrc m hm).2) hr e he)
      (expanded_source_abs himp (hc0.cmounts ▸ fun m hm => (hsrc m hm).1) hr e he)
  rw [probeLayer_unfold, hbp0, hc0.workPath, hc0.upperPath, hc0.base]
  have hmb : (probeErr i.cfg users d dl.name l0).mountBusy = mountBusy i users dl.name :=
    mountBusy_classify i users dl.name
      ({ l0 with mounts := getMountAndSubmounts d.mounts (buildPath i.cfg l0) } : Layer) hmb0 hcb hcw hcu
  -- the record `findLayerstate` is called with
  have hc := hc0.probeErr i.cfg users d dl.name S_complete
  have hov : (probeErr i.cfg users d dl.name l0).overlain = l0.overlain := by rw [probeErr_eq]
  generalize probeErr i.cfg users d dl.name l0 = lu at hc hmb hov
  cases hdir : Fs.isDir i.fs (buildDir i dl.name) with
  | false =>
    rw [stateOf_incomplete i ls users dl ps hn (.inl hdir)]
    exact ⟨_, rfl, rfl⟩
  | true =>
    simp only [Bool.not_true, Bool.false_eq_true, ↓reduceIte]
    have hexpc : ∀ imports, expandConfigMounts i.cfg d ({ lu with state := S_complete } : Layer) = .ok imports →
        expandConfigMounts i.cfg d l0 = .ok imports := fun imports h =>
      (hc0.expand_eq hc d).symm.trans h
    have hrs : (findLayerBase d (d.layers.length + 1) ({ lu with state := S_complete } : Layer)).isSome = true := by
      have h2 := congrArg Option.isSome (findLayerBase_path d d.layers.length _ l0
        (hc.base.trans hc0.base.symm) (hc.layerPath.trans hc0.layerPath.symm))
      simp only [Option.isSome_map] at h2
      rw [h2]; exact hrootsome
    obtain ⟨hovb, hroot, hpar, hbr⟩ := bridges_of_view i ls d hforest hview dl _ hc hdl hrs hld
      (fun m hm => (hsrc m hm).1)
      (fun imports h => hin imports (hexpc imports h)) (fun imports h => hsa imports (hexpc imports h))
    have hbusy : (({ lu with state := S_complete } : Layer).mountBusy || ({ lu with state := S_complete } : Layer).overlain)
        = (mountBusy i users dl.name || overlain i dl.name) :=
      busy_of_view i users dl l0 _ hview hbp0 hmb (hov.trans hov0)
    cases ps with
    | none =>
      have hb : dl.file.base = [] := hps
      have hlen : ¬ (dl.file.base.length ≥ 1) := by rw [hb]; simp
      simp only [hlen, decide_false, Bool.false_and, Bool.false_eq_true, ↓reduceIte]
      exact state_eq_spec_base i ls users dl d _ hc hn hb hdl hdir (by show ¬ S_complete < S_complete; decide) hbr hex hbusy
    | some s =>
      obtain ⟨hb, bl, hbl, hbs⟩ := hps
      have hlen : dl.file.base.length ≥ 1 := List.length_pos_iff.mpr hb
      simp only [hlen, decide_true, Bool.true_and]
      cases hwd : Fs.isDir i.fs (workDir i dl.name) with
      | false =>
        rw [stateOf_incomplete i ls users dl _ hn (.inr ⟨hb, .inl hwd⟩)]
        exact ⟨_, rfl, rfl⟩
      | true =>
        cases hud : Fs.isDir i.fs (upperDir i dl.name) with
        | false =>
          rw [stateOf_incomplete i ls users dl _ hn (.inr ⟨hb, .inr hud⟩)]
          exact ⟨_, rfl, rfl⟩
        | true =>
          simp only [Bool.not_true, Bool.or_self, Bool.false_eq_true, ↓reduceIte]
          have hbl' : findLayer d ({ lu with state := S_complete } : Layer).base = some bl :=
            (congrArg (findLayer d) hc.base).trans hbl
          exact state_eq_spec_derived i ls users dl d _ bl s hc hn hb hdir hwd hud (by show ¬ S_complete < S_complete; decide) hbl'
            (hpar bl hbl') hbs hroot hovb hbr hex hbusy

/-- `KWF` holds for every mount of the example kernel table (so `probe_gives_view_kwf` applies
    to it: `Kernel.probe` of that table succeeds with a view) -/
example : ∀ k ∈ (instC [kOvlC, kProcC]).mnts, Lc.KernelWF.KWF k := by decide +kernel

/-- the table of the example forest with the view of a kernel table -/
def dView (ks : List Kernel.KMnt) : Defs :=
  { layers := [{ Ex.layA with state := S_mounted }, Ex.layC], order := [b!"a", b!"c"],
    mounts := viewOf (kHost ++ ks) }

/-- the hypotheses of `probe_round_eq_spec` hold for `c` (overlay and one of two imports
    mounted, parent `a` mounted); both sides say `partially mounted` -/
example :
    let i := instC [kOvlC, kProcC]
    let d := dView [kOvlC, kProcC]
    ForestCorr i [dlA, dlC] d ∧ MountsView i.mnts d.mounts ∧
    findD [dlA, dlC] dlC.name = some dlC ∧ findLayer d dlC.name = some Ex.layC ∧ dlC.file.nmsgs = 0 ∧
    (dlC.file.base ≠ [] ∧ ∃ bl, findLayer d dlC.file.base = some bl ∧ bl.state = St.mounted.toNat) ∧
    (findLayerBase d (d.layers.length + 1) Ex.layC).isSome = true ∧
    pathClean i.cfg.layerdirs = i.cfg.layerdirs ∧ isAbs i.cfg.layerdirs = true ∧ i.cfg.layerdirs ≠ [47] ∧
    i.cfg.buildRoot.getLast? ≠ some 47 ∧ i.cfg.workdir.getLast? ≠ some 47 ∧
    i.cfg.upperdir.getLast? ≠ some 47 ∧
    (∀ m ∈ dlC.file.mounts, m.source ≠ [] ∧ pathClean m.source = m.source) ∧
    Ex.layC.mountBusy = false ∧
    Ex.layC.overlain = (overlayLowerdirs d.mounts).contains (buildPath i.cfg Ex.layC) ∧
    buildDir i dlC.name ≠ [47] ∧
    (∃ imports, expandConfigMounts i.cfg d Ex.layC = .ok imports ∧ ∀ e ∈ imports, SourceAgree i e) ∧
    st (probeLayer i.cfg [] i.fs d dlC.name Ex.layC) = some S_partialmount ∧
    (stateOf i [dlA, dlC] [] dlC (some .mounted)).toNat = S_partialmount := by
  refine ⟨forestCorr_of_list _ _ _ (by decide +kernel), viewOf_view _, rfl, by decide +kernel, by decide +kernel,
    by decide +kernel, by decide +kernel, by decide +kernel, by decide +kernel, by decide +kernel, by decide +kernel,
    by decide +kernel, by decide +kernel, by decide +kernel, by decide +kernel, by decide +kernel, by decide +kernel,
    ⟨[eProcC, eDevC], by decide +kernel⟩, by decide +kernel⟩


/-! ### 9. three regions in which report and classification differed

  Witnesses by kernel evaluation, each replayed against the real implementation.  Two are
  repaired in the Go code (eeedaf2, 23c682d): the theorems here say that both sides agree.
  In the third, a mount of the configured type made from another source is `error` on both
  sides (`importAsConfigured` compares the source as well as the type); a foreign mount of
  another type made from the configured source is the recorded finding
  `nonbind-import-fstype-not-compared`.  All of them are corpus cases
  (`corpus/C08/suspects.jsonl`). -/

def expDot : Layerfile.NeededMount := { mount := b!"$$file_export", source := b!"/.cache", fstype := b!"symlink" }
def layAd : Layer := { Ex.layA with cexports := [expDot] }
def dlAd : DLayer := ⟨b!"a", { base := [], mounts := [Ex.impProc], exports := [expDot], nmsgs := 0 }⟩
def instAd : Inst := ⟨Ex.cfg, Ex.fs1 ++ [(b!"/b/l/a/build/.cache", .dir)], instA.mnts⟩

/-- Repaired by fix eeedaf2.  An export whose source below the build root begins with '.'
    (`export symlink /.cache $$file_export`, the directory exists): without the fix
    `fs.IsDescendant` is `len(rel) > 0 && rel[0] != '.'`, the source counts as outside the
    build directory and the layer is reported `error`; with it the test is `rel` not ".",
    ".." or "../…": the layer is reported `mounted`, as the classification ("the build directory or below it") says, and
    `ExportSrcAgree` holds for it (`export_src_agree_clean`). -/
theorem fixed_export_dot_source_witness :
    st (findLayerstate instAd.cfg instAd.fs (Ex.defs [Ex.procA]) layAd) = some S_mounted ∧
    stateOf instAd [dlAd] [] dlAd none = .mounted ∧
    Fs.isDir instAd.fs b!"/b/l/a/build/.cache" = true ∧
    ExportSrcAgree instAd dlAd.name expDot := by
  decide +kernel

def kt0o : Kernel.KTable :=
  { mnts := [{ id := 1, parent := 0, dev := b!"8:1", root := b!"/", mp := b!"/", fstype := b!"ext4",
               source := b!"/dev/sda1" },
             { id := 2, parent := 1, dev := b!"0:40", root := b!"/", mp := b!"/b", fstype := b!"overlay",
               source := b!"overlay", lower := b!"/lo", upper := b!"/up", work := b!"/wk" }] }
def mntHo : Kernel.KMnt :=
  { id := 100, parent := 2, dev := b!"0:40", root := b!"/src", mp := b!"/b/l/h/build/mnt/host",
    fstype := b!"overlay", source := b!"overlay", lower := b!"/lo", upper := b!"/up", work := b!"/wk" }
def kt1o : Kernel.KTable := { mnts := kt0o.mnts ++ [mntHo], nextId := 101 }
def dlH : DLayer := ⟨b!"h", { base := [], mounts := layH.cmounts, exports := [], nmsgs := 0 }⟩

/-- Repaired by fix 23c682d.  A bind import whose source lies on an OVERLAY filesystem (here
    the base path `/b` is an overlay mount with root `/`; likewise a host root on overlay, or
    a source inside another layer's mounted build root): the kernel shows the bind mount with
    type `overlay` and the overlay's `lowerdir`, `ProbeMounts` stores the lower directory as
    `Source`; without the fix `GetMountSources` answers `[lowerdir]` only and layercake
    reports its OWN rbind as `error`.  With it the lower directory is one candidate among the others
    (`/b` + `/src` through the root mount of the same device), `SourceAgree` holds and the
    layer is reported `mounted`, as classified. -/
theorem fixed_bind_source_on_overlay_witness :
    Kernel.kmount kt0o b!"/b/src" b!"/b/l/h/build/mnt/host" b!"rbind" (Kernel.MS_BIND + Kernel.MS_REC) []
      = .ok kt1o ∧
    MountsView kt1o.mnts (viewOf kt1o.mnts) ∧
    (Kernel.findContaining kt1o.mnts b!"/b/src").map (·.root) = some b!"/" ∧
    importAsConfigured ⟨Ex.cfg, fsH, kt1o.mnts⟩ mntHo b!"rbind" b!"/b/src" = true ∧
    stateOf ⟨Ex.cfg, fsH, kt1o.mnts⟩ [dlH] [] dlH none = .mounted ∧
    kSources kt1o.mnts mntHo = [b!"/lo", b!"/b/src"] ∧
    SourceAgree ⟨Ex.cfg, fsH, kt1o.mnts⟩
      ⟨b!"/b/l/h/build/mnt/host", b!"/b/src", b!"rbind", b!"/mnt/host", b!"/b/src"⟩ ∧
    st (findLayerstate Ex.cfg fsH { layers := [layH], order := [b!"h"], mounts := viewOf kt1o.mnts } layH)
      = some S_mounted := by
  decide +kernel

def impTmp : Layerfile.NeededMount := { mount := b!"/tmp", source := b!"/mytmp", fstype := b!"tmpfs" }
def layT : Layer := { name := b!"a", cmounts := [impTmp], layerPath := b!"/b/l/a", state := S_complete }
def dlT : DLayer := ⟨b!"a", { base := [], mounts := [impTmp], exports := [], nmsgs := 0 }⟩
def fsT : Fs.Tree := Ex.fs1 ++ [(b!"/mytmp", .dir), (b!"/b/l/a/build/tmp", .dir)]
def kRoot : Kernel.KMnt :=
  { id := 1, parent := 0, dev := b!"8:1", root := b!"/", mp := b!"/", fstype := b!"ext4", source := b!"/dev/sda1" }
def kTmp (fstype source : Bytes) : Kernel.KMnt :=
  { id := 50, parent := 1, dev := b!"0:61", root := b!"/", mp := b!"/b/l/a/build/tmp", fstype := fstype, source := source }
def instT (k : Kernel.KMnt) : Inst := ⟨Ex.cfg, fsT, [kRoot, k]⟩
def dT (k : Kernel.KMnt) : Defs := { layers := [layT], order := [b!"a"], mounts := viewOf [kRoot, k] }

/-- Finding `nonbind-import-fstype-not-compared` (not repaired).  Imports that are not bind
    mounts: the code recognises them by SOURCE only (device name, mounts of the same device),
    the classification asks for the configured file-system TYPE and the configured source (or a
    mount showing the file system found at the source path).  A foreign mount of another type
    made from the configured source string is reported `mounted` and classified `error`:
    `SourceAgree` fails exactly there.  A mount of the configured type made from another
    source string is `error` on both sides (the classification compares the source as well
    as the type), layercake's own mount `mounted` on both. -/
theorem finding_nonbind_import_fstype_not_compared_witness :
    -- a foreign mount of another type with the configured source string: reported `mounted`,
    -- classified `error`
    st (findLayerstate Ex.cfg fsT (dT (kTmp b!"ramfs" b!"/mytmp")) layT) = some S_mounted ∧
    stateOf (instT (kTmp b!"ramfs" b!"/mytmp")) [dlT] [] dlT none = .error ∧
    ¬ SourceAgree (instT (kTmp b!"ramfs" b!"/mytmp"))
      ⟨b!"/b/l/a/build/tmp", b!"/mytmp", b!"tmpfs", b!"/tmp", b!"/mytmp"⟩ ∧
    -- a mount of the configured type with another source string: `error` on both sides
    st (findLayerstate Ex.cfg fsT (dT (kTmp b!"tmpfs" b!"none")) layT) = some S_error ∧
    stateOf (instT (kTmp b!"tmpfs" b!"none")) [dlT] [] dlT none = .error ∧
    -- layercake's own mount (configured type and source): both `mounted`
    st (findLayerstate Ex.cfg fsT (dT (kTmp b!"tmpfs" b!"/mytmp")) layT) = some S_mounted ∧
    stateOf (instT (kTmp b!"tmpfs" b!"/mytmp")) [dlT] [] dlT none = .mounted := by
  decide +kernel


/-! ### 10. every command, every layer: the reported states are the documented classification -/

/-- **The property, end to end** (PARTIAL only by `hsa`, the region of finding
    nonbind-import-fstype-not-compared, and configuration sanity; with fix 23c682d `hsa`
    holds for sources behind bind mounts, subvolumes or on an overlay).  `getLayers` is
    what cmd/layercake runs before every command: `FindLayers` on the tree, then
    `ProbeAllLayerstate` on the kernel's mount table (rendered as /proc/self/mountinfo and
    parsed by the model of `ProbeMounts`) and the process list.  For EVERY world `w`
    (tree, kernel table, switches), every configuration and process list: if it returns,
    the world is untouched and EVERY layer it lists carries exactly the state the documented
    classification `Spec.World.allStates` gives that layer on the installation
    `⟨cfg, w.fs, w.kt.mnts⟩` — the comparison the oracle `c08` makes on every step of every
    scenario, as a theorem.  Hypotheses, all decidable statements about the installation:
    * `hk`: the kernel table is printable (`KernelWF.KWF`);
    * `hwf`, `hnd`: the forest on disk is well-formed (what the oracle requires too) and the
      layer directories have distinct names;
    * configuration sanity: `Layerdirs` a clean absolute path other than "/", the three
      directory names not ending in '/', no build directory is "/";
    * `hsa : SourceAgreeAll` — excludes finding nonbind-import-fstype-not-compared: for every
      resolvable configured import with a mount on its mountpoint, `GetMountSources`
      (evaluated on the kernel table) contains the source iff the mount is the configured
      import. -/
theorem getLayers_eq_allStates (cfg : Config) (users : List (Bytes × List User)) (w w' : World) (d : Defs)
    (hrun : (getLayers cfg users).run.run w = (.ok d, w'))
    (hk : ∀ k ∈ w.kt.mnts, Lc.KernelWF.KWF k)
    (hwf : forestWF (diskLayers ⟨cfg, w.fs, w.kt.mnts⟩) = true)
    (hnd : ((diskLayers ⟨cfg, w.fs, w.kt.mnts⟩).map (·.name)).Nodup)
    (hlc : pathClean cfg.layerdirs = cfg.layerdirs) (hla : isAbs cfg.layerdirs = true)
    (hlr : cfg.layerdirs ≠ [47])
    (hcb : cfg.buildRoot.getLast? ≠ some 47) (hcw : cfg.workdir.getLast? ≠ some 47)
    (hcu : cfg.upperdir.getLast? ≠ some 47)
    (hbd : ∀ dl ∈ diskLayers ⟨cfg, w.fs, w.kt.mnts⟩, buildDir ⟨cfg, w.fs, w.kt.mnts⟩ dl.name ≠ [47])
    (hsa : SourceAgreeAll ⟨cfg, w.fs, w.kt.mnts⟩ (diskLayers ⟨cfg, w.fs, w.kt.mnts⟩)) :
    w' = w ∧ ∀ name l, findLayer d name = some l →
      ∃ st, (allStates ⟨cfg, w.fs, w.kt.mnts⟩ (diskLayers ⟨cfg, w.fs, w.kt.mnts⟩) users).find? (·.1 == name)
          = some (name, st) ∧ l.state = st.toNat := by
  have hmain := getLayers_spec cfg users w w' d hrun hwf hnd ?_
  · exact ⟨hmain.1, fun name l hl => ⟨_, (hmain.2 name l hl).1, (hmain.2 name l hl).2⟩⟩
  -- the per-round equation, from `probe_round_eq_spec`
  intro m d0 hm hlay0 hci d dl l0 ps hforest hmounts hkeys hdl hl0 hn hps hmb0 hov0
  obtain ⟨m', hm', hview⟩ := probe_view w.kt (fun k hk' => Lc.KernelWF.toSpec_wf k (hk k hk'))
  rw [hm] at hm'
  cases hm'
  have hmem : dl ∈ diskLayers ⟨cfg, w.fs, w.kt.mnts⟩ := findD_mem _ _ dl hdl
  have hkr : SameKeys { layers := readLayerFiles cfg w.fs (Fs.children w.fs cfg.layerdirs) } d :=
    ((sameKeys_refresh { layers := readLayerFiles cfg w.fs (Fs.children w.fs cfg.layerdirs) } m _).trans
      (sameKeys_of_layers_eq (by rw [hlay0]))).trans hkeys
  have hrs := rootsome_of_check _ hci d hkr dl.name l0 hl0
  obtain ⟨dl', hd', hc0⟩ := hforest.find _ _ hl0
  rw [hdl] at hd'
  cases hd'
  have hroot := root_agree _ _ d hforest l0 dl hc0 hdl hrs
  refine probe_round_eq_spec ⟨cfg, w.fs, w.kt.mnts⟩ _ users d hforest (hmounts ▸ hview) dl l0 hdl hl0 hn ps hps
    hrs hlc hla hlr hcb hcw hcu (Lc.InLayers.diskLayers_sources _ dl hmem) hmb0 (by rw [hmounts]; exact hov0)
    (hbd dl hmem) ?_
  intro imports himp e he
  obtain ⟨imp, himp', hres, hmp, hft⟩ := import_of_spec _ _ dl d l0 imports hc0 hroot himp e he
  refine sourceAgree_congr _ e
    ⟨pathJoin [buildDir ⟨cfg, w.fs, w.kt.mnts⟩ dl.name, imp.mount], e.source, imp.fstype, imp.mount, imp.source⟩
    hmp rfl hft (hsa dl hmem imp himp' e.source ?_)
  rw [hres]
  simp

/-- the hypotheses of `getLayers_eq_allStates` hold on the world with two layerconfig files
    and an empty kernel table; `getLayers` returns and lists `a` and `c` as `mountable`, which
    is what `allStates` says -/
example :
    let w : World := { fs := fsG }
    (∀ k ∈ w.kt.mnts, Lc.KernelWF.KWF k) ∧
    forestWF (diskLayers ⟨Ex.cfg, w.fs, w.kt.mnts⟩) = true ∧
    ((diskLayers ⟨Ex.cfg, w.fs, w.kt.mnts⟩).map (·.name)).Nodup ∧
    pathClean Ex.cfg.layerdirs = Ex.cfg.layerdirs ∧ isAbs Ex.cfg.layerdirs = true ∧ Ex.cfg.layerdirs ≠ [47] ∧
    Ex.cfg.buildRoot.getLast? ≠ some 47 ∧ Ex.cfg.workdir.getLast? ≠ some 47 ∧
    Ex.cfg.upperdir.getLast? ≠ some 47 ∧
    (∀ dl ∈ diskLayers ⟨Ex.cfg, w.fs, w.kt.mnts⟩, buildDir ⟨Ex.cfg, w.fs, w.kt.mnts⟩ dl.name ≠ [47]) ∧
    SourceAgreeAll ⟨Ex.cfg, w.fs, w.kt.mnts⟩ (diskLayers ⟨Ex.cfg, w.fs, w.kt.mnts⟩) ∧
    (allStates ⟨Ex.cfg, w.fs, w.kt.mnts⟩ (diskLayers ⟨Ex.cfg, w.fs, w.kt.mnts⟩) []).map (fun p => (p.1, p.2.toNat))
      = [(b!"a", S_mountable), (b!"c", S_mountable)] := by
  decide +kernel

/-- … and with mounts in the kernel table the classification side of the equation is not
    trivial: the example installation `instC` (overlay and one import of `c` mounted) has the
    hypothesis `hsa` and classifies `[mounted (busy: overlain), partially mounted]`; without the
    overlay (`c`'s proc import left mounted) `c` is classified `error` -/
example :
    let i := instC [kOvlC, kProcC]
    SourceAgreeAll i [dlA, dlC] ∧
    (allStates i [dlA, dlC] []).map (fun p => (p.1, p.2.toNat))
      = [(b!"a", S_mounted_busy), (b!"c", S_partialmount)] ∧
    SourceAgreeAll (instC [kProcC]) [dlA, dlC] ∧
    (allStates (instC [kProcC]) [dlA, dlC] []).map (fun p => (p.1, p.2.toNat))
      = [(b!"a", S_mounted), (b!"c", S_error)] := by
  decide +kernel

open Lc.Spec.World in
/-- (specification level) a derived layer whose build root carries a mount that is not exactly
    the configured overlay — another type, or a lower, upper or work directory that differs from
    the configured one in any way, be it only by a suffix — is in the error state, whatever else
    is mounted or missing -/
theorem wrong_overlay_is_error (i : Inst) (ls : List DLayer) (users : List (Bytes × List Layers.User))
    (l : DLayer) (s : St) (m : Kernel.KMnt)
    (h1 : l.file.nmsgs = 0) (h2 : Fs.isDir i.fs (buildDir i l.name) = true)
    (h3 : l.file.base.isEmpty = false)
    (h4 : Fs.isDir i.fs (workDir i l.name) = true) (h5 : Fs.isDir i.fs (upperDir i l.name) = true)
    (h6 : s.toNat ≥ 5) (h7 : topAt i.mnts (buildDir i l.name) = some m)
    (h8 : (m.fstype == b!"overlay" && m.lower == buildDir i l.file.base
            && m.upper == upperDir i l.name && m.work == workDir i l.name) = false) :
    stateOf i ls users l (some s) = .error := by
  unfold stateOf
  simp only [h1, h2, h3, h4, h5, h7, h8]
  simp [h6]

open Lc.Spec.World in
/-- … in particular a work directory that merely extends the configured one (`…/workdir_old`,
    which a comparison by `HasPrefix` would accept) -/
theorem overlay_workdir_extended_is_error (i : Inst) (ls : List DLayer) (users : List (Bytes × List Layers.User))
    (l : DLayer) (s : St) (m : Kernel.KMnt) (suffix : Bytes)
    (h1 : l.file.nmsgs = 0) (h2 : Fs.isDir i.fs (buildDir i l.name) = true)
    (h3 : l.file.base.isEmpty = false)
    (h4 : Fs.isDir i.fs (workDir i l.name) = true) (h5 : Fs.isDir i.fs (upperDir i l.name) = true)
    (h6 : s.toNat ≥ 5) (h7 : topAt i.mnts (buildDir i l.name) = some m)
    (hw : m.work = workDir i l.name ++ suffix) (hs : suffix ≠ []) :
    stateOf i ls users l (some s) = .error := by
  apply wrong_overlay_is_error i ls users l s m h1 h2 h3 h4 h5 h6 h7
  have : (m.work == workDir i l.name) = false := by
    rw [hw]; simp [hs]
  simp [this]

open Lc.Spec.World in
/-- (specification level) a base layer one of whose import mountpoints carries a mount that is not
    the configured one is in the error state even when another import lacks its mountpoint
    directory or its host source: the wrong mount outranks the missing piece -/
theorem wrong_import_outranks_missing (i : Inst) (ls : List DLayer) (users : List (Bytes × List Layers.User))
    (l : DLayer) (imp : Layerfile.NeededMount) (src : Bytes) (m : Kernel.KMnt)
    (h1 : l.file.nmsgs = 0) (h2 : Fs.isDir i.fs (buildDir i l.name) = true)
    (h3 : l.file.base.isEmpty = true)
    (hf : (fhsDirs.all fun d => Fs.isDir i.fs (pathJoin [buildDir i l.name, d])) = true)
    (hr : ∀ x ∈ l.file.mounts, (resolveSource i ls l.name x.source).isSome)
    (hi : imp ∈ l.file.mounts) (hsrc : resolveSource i ls l.name imp.source = some src)
    (hmp : Fs.lexists i.fs (pathJoin [buildDir i l.name, imp.mount]) = true)
    (hse : Fs.lexists i.fs src = true)
    (ht : topAt i.mnts (pathJoin [buildDir i l.name, imp.mount]) = some m)
    (hw : importAsConfigured i m imp.fstype src = false) :
    stateOf i ls users l none = .error := by
  have hnone : (specImports i ls l).any (fun x => x.2.1.isNone) = false := by
    unfold specImports
    rw [List.any_map, List.any_eq_false]
    intro x hx
    simpa using Option.isSome_iff_ne_none.mp (hr x hx)
  -- the import `imp` is coded 3: something else is mounted on its mountpoint
  have h3' : ((specImports i ls l).map (specClassify i)).any (· == 3) = true := by
    unfold specImports
    rw [List.map_map, List.any_map, List.any_eq_true]
    exact ⟨imp, hi, by simp [specClassify, hsrc, hmp, hse, ht, hw]⟩
  rw [stateOf_unfold]
  simp only [h1, h2, h3, show specFhs i l = true from hf, hnone, Nat.lt_irrefl, Bool.not_true,
    Bool.false_and, Bool.false_eq_true, ↓reduceIte, specTail, h3', Bool.true_or]
end Lc.Props.C08
