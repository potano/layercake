/-
  C04 — layers that are mounted, in use or overlain are protected from change.

  Level 1 (guards): for EVERY configuration, layer table `d`, name, world: when the target
  layer (or, for rename / rebase, a direct child) is busy in the sense of `isBusy · true`
  (a mount at/below its build root ∨ MountBusy ∨ NonMountBusy ∨ Overlain), or is in the
  error state, remove / rename / rebase return an error and the world — file system,
  mount table, operation trace, fault-point counter — is exactly the initial one.
  umount refuses iff MountBusy ∨ Overlain; NonMountBusy alone does not block it.

  Level 2 (probe → flags): how `ProbeAllLayerstate` derives those flags from the mount
  table and the process list, per layer.

  Level 3 (end to end, `*_end_to_end_partial`): composed through FindLayers and the probe
  loop — if the WORLD has a mount at/below the layer's build root, a process attributed to
  the layer or a mounted overlay on it, `run … (.remove/.rename/.rebase name …) w` fails
  and returns `w` itself.  Hypotheses: FindLayers succeeds, the layer is in its table, the
  mount table parses (otherwise the command fails even earlier).  The child-busy case is
  not composed end to end (it holds at level 1 for every probed table).

  Level 4 (section 6, specification level): the same on the installation `instOf cfg w` a world
  shows, in the words of `Spec.World` (`protectedL`, `mountedAtOrBelow`, `overlain`,
  `mountBusy`, `unmountBlocked`, `childrenOf` — what the oracle c04 evaluates), with no
  hypothesis on FindLayers, the parsed view or the probed table: `protected_refused` (FULL,
  only `KWF`), `child_protected_refused` (`KWF`, distinct names; without fix e3cb7aa a child
  in the error state does not protect its parent: `fixed_child_in_error_state_witness`),
  `umount_blocked_refused`, `umount_free_proceeds_partial`.  `KWF` is `KernelWF.KWF` on every
  mount of the kernel table (its fields are printable), not the tree invariant
  `KernelUmount.KWF` of C03.
-/
import Lc.Lemmas.RunM
import Lc.Lemmas.Busy
import Lc.Lemmas.Probe
import Lc.Lemmas.TreeOrder
import Lc.Lemmas.ProtectSpec

namespace Lc.Props.C04
open Lc Lc.Layers Lc.RunM Lc.Mountinfo Lc.Busy Lc.Hoare Lc.Probe Lc.Forest

/-- the command was refused: an `error` return (never a panic) and nothing happened (the
    predicate of the same name in C02) -/
def Refused {α} (r : Except Fault α × World) (w : World) (classes : List String) : Prop :=
  ∃ c, c ∈ classes ∧ r = (.error (.err c), w)

/-! ### the guards at the head of a command

  Each guard either fails with its class, the world untouched, or returns without touching the
  world; a command is refused if one of its guards fails. -/

theorem testName_guard (d : Defs) (t : List (Bytes × Nat)) (w : World) :
    (testName d t).run.run w = (.error (.err "name"), w) ∨
      (t.all (fun t => testName1 d t.1 t.2) = true ∧ (testName d t).run.run w = (.ok (), w)) := by
  unfold testName
  split
  · rename_i h; exact Or.inr ⟨h, rfl⟩
  · exact Or.inl rfl

theorem errorIfError_guard (l : Layer) (w : World) :
    (errorIfError l).run.run w = (.error (.err "errorstate"), w) ∨
      (l.state ≠ S_error ∧ (errorIfError l).run.run w = (.ok (), w)) := by
  unfold errorIfError
  split
  · exact Or.inl rfl
  · rename_i h; exact Or.inr ⟨by simpa using h, rfl⟩

theorem errorIfBusy_guard (l : Layer) (a : Bool) (w : World) :
    (errorIfBusy l a).run.run w = (.error (.err "busy"), w) ∨
      (isBusy l a = false ∧ (errorIfBusy l a).run.run w = (.ok (), w)) := by
  unfold errorIfBusy
  split
  · exact Or.inl rfl
  · rename_i h; exact Or.inr ⟨by simpa using h, rfl⟩

theorem refused_guard {α β} {x : M α} {f : α → M β} {w : World} {classes : List String}
    {cls : String} {a : α} {P : Prop}
    (hx : x.run.run w = (.error (.err cls), w) ∨ (P ∧ x.run.run w = (.ok a, w)))
    (hc : cls ∈ classes) (hf : P → Refused ((f a).run.run w) w classes) :
    Refused ((x >>= f).run.run w) w classes := by
  rw [run_bind]
  rcases hx with hx | ⟨hp, hx⟩
  · rw [hx]; exact ⟨cls, hc, rfl⟩
  · rw [hx]; exact hf hp

/-- `if c then fail cls` in the middle of a command (`k` is what follows) -/
theorem refused_failIf {β} {c : Bool} {cls : String} {k : Unit → M β} {w : World}
    {classes : List String} (hc : cls ∈ classes)
    (hk : c = false → Refused ((k ()).run.run w) w classes) :
    Refused ((if c then fail cls >>= k else k ()).run.run w) w classes := by
  cases c
  · exact hk rfl
  · exact ⟨cls, hc, rfl⟩

/-! ### 1. the target layer is busy -/

/-- **remove refuses a busy layer** (any mount at/below the build root, any user, or a
    mounted overlay on top) without doing anything. -/
theorem remove_refuses (cfg : Config) (d : Defs) (name : Bytes) (files : Bool) (w : World)
    (l : Layer) (hl : findLayer d name = some l) (hb : isBusy l true = true) :
    Refused ((removeLayer cfg d name files).run.run w) w ["name", "errorstate", "haschild", "busy"] := by
  unfold removeLayer
  refine refused_guard (testName_guard d _ w) (by simp) fun _ => ?_
  rw [bind_ok _ _ _ _ _ (run_getL hl w)]
  refine refused_guard (errorIfError_guard l w) (by simp) fun _ => ?_
  refine refused_failIf (by simp) fun _ => ?_
  refine refused_guard (errorIfBusy_guard l true w) (by simp) fun h => ?_
  cases hb.symm.trans h

/-- remove refuses a layer in the error state -/
theorem remove_refuses_error (cfg : Config) (d : Defs) (name : Bytes) (files : Bool) (w : World)
    (l : Layer) (hl : findLayer d name = some l) (he : l.state = S_error) :
    Refused ((removeLayer cfg d name files).run.run w) w ["name", "errorstate"] := by
  unfold removeLayer
  refine refused_guard (testName_guard d _ w) (by simp) fun _ => ?_
  rw [bind_ok _ _ _ _ _ (run_getL hl w)]
  exact refused_guard (errorIfError_guard l w) (by simp) fun h => absurd he h

/-- **rename refuses a busy layer** -/
theorem rename_refuses (cfg : Config) (d : Defs) (old new : Bytes) (co : List Bytes) (w : World)
    (l : Layer) (hl : findLayer d old = some l) (hb : isBusy l true = true) :
    Refused ((renameLayer cfg d old new co).run.run w) w ["name", "errorstate", "busy"] := by
  unfold renameLayer
  refine refused_guard (testName_guard d _ w) (by simp) fun _ => ?_
  rw [bind_ok _ _ _ _ _ (run_getL hl w)]
  refine refused_guard (errorIfError_guard l w) (by simp) fun _ => ?_
  refine refused_guard (errorIfBusy_guard l true w) (by simp) fun h => ?_
  cases hb.symm.trans h

theorem rename_refuses_error (cfg : Config) (d : Defs) (old new : Bytes) (co : List Bytes) (w : World)
    (l : Layer) (hl : findLayer d old = some l) (he : l.state = S_error) :
    Refused ((renameLayer cfg d old new co).run.run w) w ["name", "errorstate"] := by
  unfold renameLayer
  refine refused_guard (testName_guard d _ w) (by simp) fun _ => ?_
  rw [bind_ok _ _ _ _ _ (run_getL hl w)]
  exact refused_guard (errorIfError_guard l w) (by simp) fun h => absurd he h

/-- **rebase refuses a busy layer** -/
theorem rebase_refuses (cfg : Config) (d : Defs) (name newbase : Bytes) (w : World)
    (l : Layer) (hl : findLayer d name = some l) (hb : isBusy l true = true) :
    Refused ((rebaseLayer cfg d name newbase).run.run w) w ["name", "errorstate", "busy"] := by
  unfold rebaseLayer
  refine refused_guard (testName_guard d _ w) (by simp) fun _ => ?_
  rw [bind_ok _ _ _ _ _ (run_getL hl w)]
  refine refused_guard (errorIfError_guard l w) (by simp) fun _ => ?_
  refine refused_guard (errorIfBusy_guard l true w) (by simp) fun h => ?_
  cases hb.symm.trans h

theorem rebase_refuses_error (cfg : Config) (d : Defs) (name newbase : Bytes) (w : World)
    (l : Layer) (hl : findLayer d name = some l) (he : l.state = S_error) :
    Refused ((rebaseLayer cfg d name newbase).run.run w) w ["name", "errorstate"] := by
  unfold rebaseLayer
  refine refused_guard (testName_guard d _ w) (by simp) fun _ => ?_
  rw [bind_ok _ _ _ _ _ (run_getL hl w)]
  exact refused_guard (errorIfError_guard l w) (by simp) fun h => absurd he h

/-! ### 2. a direct child is busy -/

/-- **rename refuses when a direct child is busy** (the child `k` is the layer registered
    under its own name — `d.layers` is Go's `layermap` — and has `old` as base), whatever
    order Go's map iteration visits the children in. -/
theorem rename_child_refuses (cfg : Config) (d : Defs) (old new : Bytes) (co : List Bytes) (w : World)
    (l k : Layer) (hl : findLayer d old = some l)
    (hk : findLayer d k.name = some k) (hkb : k.base = old) (hb : isBusy k true = true) :
    Refused ((renameLayer cfg d old new co).run.run w) w ["name", "errorstate", "busy"] := by
  have hany := kids_any d old co k hk hkb hb
  unfold renameLayer
  refine refused_guard (testName_guard d _ w) (by simp) fun _ => ?_
  rw [bind_ok _ _ _ _ _ (run_getL hl w)]
  refine refused_guard (errorIfError_guard l w) (by simp) fun _ => ?_
  refine refused_guard (errorIfBusy_guard l true w) (by simp) fun _ => ?_
  refine refused_failIf (by simp) fun h => ?_
  cases hany.symm.trans h

/-- **rebase refuses when a direct child is busy** (or earlier, with "orphan", when the new
    parent would close a cycle) -/
theorem rebase_child_refuses (cfg : Config) (d : Defs) (name newbase : Bytes) (w : World)
    (l k : Layer) (hl : findLayer d name = some l)
    (hk : k ∈ d.layers) (hkb : k.base = name) (hb : isBusy k true = true) :
    Refused ((rebaseLayer cfg d name newbase).run.run w) w ["name", "errorstate", "busy", "orphan"] := by
  have hany : (d.layers.filter (·.base == name)).any (fun k => isBusy k true) = true := by
    rw [List.any_eq_true]
    exact ⟨k, by simp [List.mem_filter, hk, hkb], hb⟩
  unfold rebaseLayer
  refine refused_guard (testName_guard d _ w) (by simp) fun _ => ?_
  rw [bind_ok _ _ _ _ _ (run_getL hl w)]
  refine refused_guard (errorIfError_guard l w) (by simp) fun _ => ?_
  refine refused_guard (errorIfBusy_guard l true w) (by simp) fun _ => ?_
  refine refused_failIf (by simp) fun _ => ?_
  refine refused_failIf (by simp) fun h => ?_
  cases hany.symm.trans h

/-! ### 3. umount -/

/-- umount of a layer with a user inside build/upper/work, or with a mounted derived
    layer on top, answers "busy" and does nothing -/
theorem umount_refuses (cfg : Config) (d : Defs) (name : Bytes) (w : World) (l : Layer)
    (hl : findLayer d name = some l) (hb : (l.mountBusy || l.overlain) = true) :
    (unmountLayer cfg d name).run.run w = (.ok (.busy, d), w) := by
  have hb' : isBusy l false = true := by simpa [isBusy] using hb
  unfold unmountLayer getL
  simp only [hl, hb', run_bind, run_pure]
  rfl

theorem umountCmd_status (cfg : Config) (d : Defs) (name : Bytes) (w : World) (st : UStatus)
    (cls : String) (h : (unmountLayer cfg d name).run.run w = (.ok (st, d), w))
    (hs : st = .busy ∧ cls = "busy" ∨ st = .notMounted ∧ cls = "notmounted") :
    Refused ((unmountCmd cfg d name false).run.run w) w ["needarg", "name", cls] := by
  unfold unmountCmd
  simp only [Bool.and_false, Bool.false_eq_true, ↓reduceIte]
  by_cases h0 : name.length > 0
  · rw [if_pos h0]
    refine refused_guard (testName_guard d _ w) (by simp) fun _ => ?_
    rw [bind_ok _ _ _ _ _ h]
    rcases hs with ⟨rfl, rfl⟩ | ⟨rfl, rfl⟩ <;> exact ⟨_, by simp, rfl⟩
  · rw [if_neg h0]
    exact refused_failIf (by simp) (fun h => by cases h)

/-- … and the command `umount <name>` then fails with "busy", world unchanged -/
theorem umountCmd_refuses (cfg : Config) (d : Defs) (name : Bytes) (w : World) (l : Layer)
    (hl : findLayer d name = some l) (hb : (l.mountBusy || l.overlain) = true) :
    Refused ((unmountCmd cfg d name false).run.run w) w ["needarg", "name", "busy"] :=
  umountCmd_status cfg d name w _ _ (umount_refuses cfg d name w l hl hb) (Or.inl ⟨rfl, rfl⟩)

/-- **umount refuses iff MountBusy ∨ Overlain**: the status is "busy" exactly then (and then
    nothing happened); NonMountBusy and `mounts` play no role in the decision. -/
theorem umount_refuses_iff (cfg : Config) (d : Defs) (name : Bytes) (w : World) (l : Layer)
    (hl : findLayer d name = some l) :
    (∃ d', ((unmountLayer cfg d name).run.run w).1 = .ok (.busy, d')) ↔
      (l.mountBusy || l.overlain) = true := by
  constructor
  · rintro ⟨d', hd'⟩
    cases hb : (l.mountBusy || l.overlain) with
    | true => rfl
    | false =>
      exfalso
      have hb' : isBusy l false = false := by simpa [isBusy] using hb
      have h := extractOk _ _ _ (unmount_status cfg d name l hl hb') w trivial _ hd'
      exact h rfl
  · intro hb
    exact ⟨d, by rw [umount_refuses cfg d name w l hl hb]⟩

/-- **processes elsewhere in the layer directory do not block umount**: with
    MountBusy = Overlain = false (NonMountBusy arbitrary) and at least one mount, the first
    thing `umount` does (not pretending, fault point not armed) is the unmount system call
    on the last = deepest entry of `l.mounts`. -/
theorem umount_nonMountBusy_proceeds (cfg : Config) (d : Defs) (name : Bytes) (w : World) (l : Layer)
    (m : MountType) (hl : findLayer d name = some l)
    (hmb : l.mountBusy = false) (hov : l.overlain = false) (hm : l.mounts.getLast? = some m)
    (hp : w.pretend = false) (hc : w.crashAt ≠ some (w.nops + 1)) (hf : w.faultAt ≠ some (w.nops + 1)) :
    ∃ rest, ((unmountLayer cfg d name).run.run w).2.trace =
      w.trace ++ Op.umount m.mountpoint (if w.force then 1 else 0) :: rest := by
  have h := unmount_first cfg d name w l m hl hmb hov hm hp hc hf
  obtain ⟨rest, hr⟩ := h
  exact ⟨rest, by rw [← hr]; simp⟩

/-! ### 4. from the probe to the flags -/

/-- every process attributed to the layer makes it busy for remove / rename / rebase -/
theorem classify_any_user_busy (cfg : Config) (l : Layer) (users : List User) (hne : users ≠ []) :
    (classifyUsers cfg l users).mountBusy = true ∨ (classifyUsers cfg l users).nonMountBusy = true :=
  classifyUsers_busy cfg l users hne

/-- MountBusy ⇔ some process sits in (or below) the build, work or upper directory -/
theorem classify_mountBusy_iff (cfg : Config) (l : Layer) (users : List User) (h0 : l.mountBusy = false) :
    (classifyUsers cfg l users).mountBusy = true ↔
      ∃ u ∈ users, ∃ mp ∈ [cfg.buildRoot, cfg.workdir, cfg.upperdir], sameDirOrDesc u.file mp = true := by
  rw [StateProbe.classifyUsers_eq]
  simp only [h0, Bool.false_or, List.any_eq_true]

/-- the classification touches nothing but the three process flags (MountBusy,
    NonMountBusy, Chroot) and never clears one -/
theorem classify_rest (cfg : Config) (l : Layer) (users : List User) :
    (classifyUsers cfg l users).name = l.name ∧ (classifyUsers cfg l users).base = l.base ∧
    (classifyUsers cfg l users).state = l.state ∧ (classifyUsers cfg l users).overlain = l.overlain ∧
    (classifyUsers cfg l users).mounts = l.mounts ∧ (classifyUsers cfg l users).layerPath = l.layerPath ∧
    (l.mountBusy = true → (classifyUsers cfg l users).mountBusy = true) ∧
    (l.nonMountBusy = true → (classifyUsers cfg l users).nonMountBusy = true) := by
  rw [StateProbe.classifyUsers_eq]
  refine ⟨rfl, rfl, rfl, rfl, rfl, rfl, ?_, ?_⟩
  · intro h; simp only [h, Bool.true_or]
  · intro h; simp only [h, Bool.true_or]

/-- `Mounts` of a layer is non-empty iff the table has a mount at the build root or below -/
theorem mounts_listed (m : Mounts) (path : Bytes) :
    getMountAndSubmounts m path ≠ [] ↔
      ∃ x ∈ m.list, x.mountpoint = path ∨ hasPrefix x.mountpoint (path ++ [47]) = true := by
  constructor
  · intro h
    obtain ⟨x, hx⟩ := List.exists_mem_of_ne_nil _ h
    exact ⟨x, ((TreeOrder.mem_getMountAndSubmounts m path x).mp hx).1,
      ((TreeOrder.mem_getMountAndSubmounts m path x).mp hx).2⟩
  · rintro ⟨x, hx, hp⟩
    exact List.ne_nil_of_mem ((TreeOrder.mem_getMountAndSubmounts m path x).mpr ⟨hx, hp⟩)

theorem mounts_listed_mem (m : Mounts) (path : Bytes) (x : MountType) :
    x ∈ getMountAndSubmounts m path ↔
      x ∈ m.list ∧ (x.mountpoint = path ∨ hasPrefix x.mountpoint (path ++ [47]) = true) :=
  TreeOrder.mem_getMountAndSubmounts m path x

/-- refreshMountInfo reads the table and sets Overlain per layer, nothing else -/
theorem refresh_sets_overlain (cfg : Config) (d : Defs) (w : World) (m : Mounts)
    (hm : Kernel.probe w.kt = .ok m) :
    (refreshMountInfo cfg d).run.run w =
      (.ok { d with mounts := m,
                    layers := d.layers.map fun l =>
                      { l with overlain := (overlayLowerdirs m).contains (buildPath cfg l) } }, w) :=
  StateProbe.refresh_run cfg d w m hm

/-- Overlain ⇔ some mounted overlay has the layer's build root as its lower directory -/
theorem overlain_iff (m : Mounts) (p : Bytes) :
    (overlayLowerdirs m).contains p = true ↔
      ∃ x ∈ m.list, x.fstype = b!"overlay" ∧ x.source = p := by
  unfold overlayLowerdirs
  simp only [List.contains_iff_mem, List.mem_map, List.mem_filter]
  constructor
  · rintro ⟨x, ⟨hx, hf⟩, hs⟩
    exact ⟨x, hx, by simpa using hf, hs⟩
  · rintro ⟨x, hx, hf, hs⟩
    exact ⟨x, ⟨hx, by simpa using hf⟩, hs⟩

/-! ### 5. end to end: from the world to the refusal -/

/-- the busy condition of the property, read off the world: a mount at or below the build
    root, a process attributed to the layer, or a mounted overlay with the build root as
    lower directory -/
def WorldBusy (cfg : Config) (inuse : List (Bytes × List User)) (m : Mounts) (l0 : Layer) : Prop :=
  (∃ x ∈ m.list, x.mountpoint = buildPath cfg l0 ∨ hasPrefix x.mountpoint (buildPath cfg l0 ++ [47]) = true) ∨
  usersOf inuse l0.name ≠ [] ∨
  (∃ x ∈ m.list, x.fstype = b!"overlay" ∧ x.source = buildPath cfg l0)

theorem probed_busy (cfg : Config) (inuse : List (Bytes × List User)) (m : Mounts) (l0 l : Layer)
    (hb : WorldBusy cfg inuse m l0) (hlp : l.layerPath = l0.layerPath)
    (hov : l.overlain = (overlayLowerdirs m).contains (buildPath cfg l0))
    (hp : Probed cfg m (usersOf inuse l0.name) l) : isBusy l true = true := by
  obtain ⟨hmn, hus⟩ := hp
  have hbp : buildPath cfg l = buildPath cfg l0 := by unfold buildPath; rw [hlp]
  rcases hb with h | h | h
  · have := (mounts_listed m (buildPath cfg l0)).mpr h
    rw [← hbp, ← hmn] at this
    have hl : l.mounts.length > 0 := List.length_pos_iff.mpr this
    simp [isBusy, hl]
  · rcases hus h with h | h <;> simp [isBusy, h]
  · have := (overlain_iff m (buildPath cfg l0)).mpr h
    rw [← hov] at this
    simp [isBusy, this]

theorem getLayers_bind_findLayers_error (cfg : Config) (inuse : List (Bytes × List User)) (w : World)
    (k : Defs → M Defs) (e : Fault) (h : (findLayers cfg).run.run w = (.error e, w)) :
    (getLayers cfg inuse >>= k).run.run w = (.error e, w) := by
  unfold getLayers
  rw [run_bind, run_bind, h]

theorem getLayers_bind_cases (cfg : Config) (inuse : List (Bytes × List User)) (w : World)
    (k : Defs → M Defs) (d0 : Defs) (hfl : (findLayers cfg).run.run w = (.ok d0, w)) :
    (getLayers cfg inuse >>= k).run.run w =
      match (probeAll cfg inuse d0).run.run w with
      | (.ok d, w') => (k d).run.run w'
      | (.error e, w') => (.error e, w') := by
  unfold getLayers
  rw [run_bind, run_bind, hfl]
  simp only
  generalize (StateT.run (ExceptT.run (probeAll cfg inuse d0)) w) = r
  obtain ⟨a, s⟩ := r
  cases a <;> rfl

/-- skeleton of the end-to-end statements: whatever the outcome of `FindLayers` and
    of the probe (both only read), the command ends in an error with the world unchanged,
    provided `k` does so on every table the probe returns -/
theorem guarded_spec (cfg : Config) (users : List (Bytes × List User)) (w : World)
    (k : Defs → M Defs)
    (hk' : ∀ d0 d, (findLayers cfg).run.run w = (.ok d0, w) →
      (probeAll cfg users d0).run.run w = (.ok d, w) → ∃ e, (k d).run.run w = (.error e, w)) :
    ∃ e, (getLayers cfg users >>= k).run.run w = (.error e, w) := by
  obtain ⟨-, hw⟩ := Lc.Props.C02.list_total cfg w
  cases hfl : (findLayers cfg).run.run w with
  | mk r w1 =>
    have hw1 : w1 = w := by rw [hfl] at hw; exact hw
    subst hw1
    cases r with
    | error e => exact ⟨e, getLayers_bind_findLayers_error cfg users w1 _ e hfl⟩
    | ok d0 =>
      rw [getLayers_bind_cases cfg users w1 k d0 hfl]
      have hs := probeAll_world cfg users d0 w1
      cases hpa : (probeAll cfg users d0).run.run w1 with
      | mk a s =>
        rw [hpa] at hs
        subst hs
        cases a with
        | error e => exact ⟨e, rfl⟩
        | ok d => exact hk' d0 d hfl hpa

/-- **end to end** for any command of the shape "load and probe, then a guarded
    operation on `name`": if the layer exists on disk, the listing succeeds, the mount table
    is readable and the WORLD makes the layer busy, the whole CLI step fails and leaves
    file system, mount table, trace and fault counter exactly as they were. -/
theorem guarded_end_to_end (cfg : Config) (inuse : List (Bytes × List User)) (w : World)
    (d0 : Defs) (l0 : Layer) (m : Mounts) (k : Defs → M Defs)
    (hfl : (findLayers cfg).run.run w = (.ok d0, w))
    (hl0 : findLayer d0 l0.name = some l0) (hm : Kernel.probe w.kt = .ok m)
    (hb : WorldBusy cfg inuse m l0)
    (hk : ∀ (d : Defs) (l : Layer) (w : World), findLayer d l0.name = some l →
      isBusy l true = true → ∃ e, (k d).run.run w = (.error e, w)) :
    ∃ e, ((getLayers cfg inuse >>= k).run.run w) = (.error e, w) := by
  refine guarded_spec cfg inuse w k fun d0' d hfl' hpa => ?_
  cases hfl.symm.trans hfl'
  have hord : l0.name ∈ d0.order := by
    rw [(order_perm d0.layers d0.order (ForestCmd.findLayers_ok cfg w w d0 hfl).2.2.2.2).mem_iff]
    exact List.mem_map.mpr ⟨l0, List.mem_of_find?_eq_some hl0, rfl⟩
  have hpr := probeAll_layer cfg inuse d0 w m l0.name l0 hm hl0 hord
  rw [hpa] at hpr
  obtain ⟨-, l, hl, hlp, hov, hp⟩ := hpr
  exact hk d l _ hl (probed_busy cfg inuse m l0 l hb hlp hov hp)

/-- **remove, end to end** (named `_partial`: it assumes that FindLayers succeeds on the
    world, that the layer is in the table it returns, and that the mount table parses; the
    probe records mounts and users of a layer with a broken layerconfig too (fix e3cb7aa),
    so such a layer is refused as busy (and by the error-state guard); an error — even a
    panic — inside the probe also leaves the world unchanged and is included) -/
theorem remove_end_to_end_partial (cfg : Config) (inuse : List (Bytes × List User)) (w : World)
    (d0 : Defs) (l0 : Layer) (m : Mounts) (files : Bool)
    (hfl : (findLayers cfg).run.run w = (.ok d0, w))
    (hl0 : findLayer d0 l0.name = some l0) (hm : Kernel.probe w.kt = .ok m)
    (hb : WorldBusy cfg inuse m l0) :
    ∃ e, run cfg inuse (.remove l0.name files) w = (.error e, w) := by
  refine guarded_end_to_end cfg inuse w d0 l0 m (fun d => removeLayer cfg d l0.name files) hfl hl0 hm hb ?_
  intro d l w' hl hbz
  obtain ⟨c, _, h⟩ := remove_refuses cfg d l0.name files w' l hl hbz
  exact ⟨_, h⟩

theorem rename_end_to_end_partial (cfg : Config) (inuse : List (Bytes × List User)) (w : World)
    (d0 : Defs) (l0 : Layer) (m : Mounts) (new : Bytes) (co : List Bytes)
    (hfl : (findLayers cfg).run.run w = (.ok d0, w))
    (hl0 : findLayer d0 l0.name = some l0) (hm : Kernel.probe w.kt = .ok m)
    (hb : WorldBusy cfg inuse m l0) :
    ∃ e, run cfg inuse (.rename l0.name new co) w = (.error e, w) := by
  refine guarded_end_to_end cfg inuse w d0 l0 m (fun d => renameLayer cfg d l0.name new co) hfl hl0 hm hb ?_
  intro d l w' hl hbz
  obtain ⟨c, _, h⟩ := rename_refuses cfg d l0.name new co w' l hl hbz
  exact ⟨_, h⟩

theorem rebase_end_to_end_partial (cfg : Config) (inuse : List (Bytes × List User)) (w : World)
    (d0 : Defs) (l0 : Layer) (m : Mounts) (nb : Bytes)
    (hfl : (findLayers cfg).run.run w = (.ok d0, w))
    (hl0 : findLayer d0 l0.name = some l0) (hm : Kernel.probe w.kt = .ok m)
    (hb : WorldBusy cfg inuse m l0) :
    ∃ e, run cfg inuse (.rebase l0.name nb) w = (.error e, w) := by
  refine guarded_end_to_end cfg inuse w d0 l0 m (fun d => rebaseLayer cfg d l0.name nb) hfl hl0 hm hb ?_
  intro d l w' hl hbz
  obtain ⟨c, _, h⟩ := rebase_refuses cfg d l0.name nb w' l hl hbz
  exact ⟨_, h⟩
/-! ### non-vacuity: concrete busy layers -/

def exCfg : Config :=
  { basepath := b!"/lc", layerdirs := b!"/lc/layers", buildRoot := b!"build", binPkg := b!"packages",
    generated := b!"generated", workdir := b!"overlayfs/workdir", upperdir := b!"overlayfs/upperdir",
    exportdirs := b!"/lc/exports", exportBinPkg := b!"packages", exportGenerated := b!"generated" }

def exMount : MountType :=
  { source := b!"proc", mountpoint := b!"/lc/layers/a/build/proc", source2 := [], workdir := [],
    fstype := b!"proc", options := b!"rw", inShadow := false, stDev := b!"0:5", root := b!"/" }

/-- layer `a` with a mount below its build root; child `b`, used by a process -/
def exA : Layer := { name := b!"a", layerPath := b!"/lc/layers/a", state := S_mounted, mounts := [exMount] }
def exB : Layer := { name := b!"b", base := b!"a", layerPath := b!"/lc/layers/b", state := S_mountable,
                     nonMountBusy := true }
def exD : Defs := { layers := [exA, exB], order := [b!"a", b!"b"] }

example : findLayer exD b!"a" = some exA ∧ isBusy exA true = true := by decide +kernel
example (w : World) :=
  remove_refuses exCfg exD b!"a" false w exA (by decide +kernel) (by decide +kernel)
example (w : World) :=
  rename_refuses exCfg exD b!"a" b!"c" [] w exA (by decide +kernel) (by decide +kernel)
/-- the child-only case: `b` is busy through a process, its parent `a` taken without mounts -/
def exA0 : Layer := { exA with mounts := [] }
def exD0 : Defs := { layers := [exA0, exB], order := [b!"a", b!"b"] }
example : isBusy exA0 true = false ∧ isBusy exB true = true := by decide +kernel
example (w : World) :=
  rename_child_refuses exCfg exD0 b!"a" b!"c" [b!"b"] w exA0 exB (by decide +kernel) (by decide +kernel) (by decide +kernel) (by decide +kernel)
example (w : World) :=
  rebase_child_refuses exCfg exD0 b!"a" [] w exA0 exB (by decide +kernel) (by simp [exD0]) (by decide +kernel) (by decide +kernel)
/-- umount: NonMountBusy does not block, the deepest mount goes first -/
def exA1 : Layer := { exA with nonMountBusy := true }
example (w : World) (hp : w.pretend = false) (hc : w.crashAt = none) (hf : w.faultAt = none) :
    ∃ rest, ((unmountLayer exCfg { layers := [exA1] } b!"a").run.run w).2.trace =
      w.trace ++ Op.umount b!"/lc/layers/a/build/proc" (if w.force then 1 else 0) :: rest :=
  umount_nonMountBusy_proceeds exCfg { layers := [exA1] } b!"a" w exA1 exMount (by decide +kernel) rfl rfl rfl
    hp (by simp [hc]) (by simp [hf])
/-- a process with cwd in the build root → MountBusy; one in "packages" → only NonMountBusy -/
example : (classifyUsers exCfg exA0 [⟨1, b!"build/usr"⟩]).mountBusy = true := by decide +kernel
example : (classifyUsers exCfg exA0 [⟨1, b!"packages"⟩]).mountBusy = false ∧
          (classifyUsers exCfg exA0 [⟨1, b!"packages"⟩]).nonMountBusy = true := by decide +kernel
example : getMountAndSubmounts { list := [exMount] } b!"/lc/layers/a/build" = [exMount] := by decide +kernel

/-- non-vacuity of the end-to-end statement: a disk with one layer `a`, no mounts, and a
    process whose cwd is inside the layer's build root -/
def exFs : Fs.Tree :=
  [(b!"/lc", .dir), (b!"/lc/layers", .dir), (b!"/lc/layers/a", .dir),
   (b!"/lc/layers/a/layerconfig", .file []), (b!"/lc/layers/a/build", .dir)]
def exW : World := { fs := exFs }
def exL : Layer := { name := b!"a", layerPath := b!"/lc/layers/a" }
set_option maxRecDepth 100000 in
example : ∃ e, run exCfg [(b!"a", [⟨1, b!"build"⟩])] (.remove b!"a" false) exW = (.error e, exW) :=
  remove_end_to_end_partial exCfg [(b!"a", [⟨1, b!"build"⟩])] exW { layers := [exL], order := [b!"a"] } exL {} false
    rfl (by decide +kernel) rfl (Or.inr (Or.inl (by decide +kernel)))

/-! ### 6. at the level of the specification: `Spec.World.protectedL` / `unmountBlocked` on the
    installation a world shows

  `instOf cfg w` is the installation (configuration, tree, kernel mount table) the world shows;
  `Spec.World.diskLayers`, `protectedL`, `mountedAtOrBelow`, `overlain`, `mountBusy`,
  `unmountBlocked`, `childrenOf` are the oracle's (`Driver/Oracle.lean` c04) readings of it.
  No hypothesis mentions the parsed mount view: `KernelWF.KWF` (the kernel table is printable)
  gives it (`probe_view`), `findLayers_lists` gives the records of the listed layers. -/

open Lc.Spec.World Lc.StateProbe in
/-- the specification's protection condition on the installation is the busy condition of
    section 5 on the parsed view -/
theorem worldBusy_of_protected (cfg : Config) (users : List (Bytes × List User)) (w : World) (m : Mounts)
    (hv : MountsView w.kt.mnts m) (n : Bytes) (lf : Layerfile.LayerFile)
    (hp : protectedL (instOf cfg w) users n = true) :
    WorldBusy cfg users m (layerOfFile cfg n lf) := by
  unfold protectedL at hp
  simp only [Bool.or_eq_true, Bool.not_eq_true'] at hp
  unfold WorldBusy
  rcases hp with (hp | hp) | hp
  · left
    have hlen := (mounts_nonempty_view hv (buildDir (instOf cfg w) n)).mpr hp
    apply (mounts_listed m (buildPath cfg (layerOfFile cfg n lf))).mp
    intro hnil
    rw [buildPath_layerOfFile cfg w n lf] at hnil
    rw [hnil] at hlen
    simp at hlen
  · right; left
    show Lc.Spec.World.usersOf users n ≠ []
    intro e; rw [e] at hp; simp at hp
  · right; right
    apply (overlain_iff m (buildPath cfg (layerOfFile cfg n lf))).mp
    rw [overlain_of_view w.kt.mnts m hv, buildPath_layerOfFile cfg w n lf]
    exact hp

open Lc.Spec.World Lc.StateProbe in
/-- **Protected layers are not changed** (specification level, FULL).  For every
    configuration, process list and world whose kernel table is printable (`KWF`), and every
    layer `n` the specification lists on the installation the world shows: if `n` is
    protected — a mount at or below its build root in the kernel table, a process attributed
    to it, or a mounted overlay with its build root as lower directory — then `remove`
    (with or without -files), `rename` (to any name, any child order) and `rebase` (onto
    anything) are refused and the world — tree, kernel table, trace, counters — is exactly
    the one before.  (A `FindLayers` that fails, a probe that fails, a layerconfig with
    messages: the command fails as well, world unchanged.) -/
theorem protected_refused (cfg : Config) (users : List (Bytes × List User)) (w : World)
    (hk : ∀ k ∈ w.kt.mnts, Lc.KernelWF.KWF k) (n : Bytes)
    (hn : (findD (diskLayers (instOf cfg w)) n).isSome = true)
    (hp : protectedL (instOf cfg w) users n = true) :
    (∀ files, ∃ e, run cfg users (.remove n files) w = (.error e, w)) ∧
    (∀ new co, ∃ e, run cfg users (.rename n new co) w = (.error e, w)) ∧
    (∀ nb, ∃ e, run cfg users (.rebase n nb) w = (.error e, w)) := by
  obtain ⟨dl, hd⟩ := Option.isSome_iff_exists.mp hn
  obtain ⟨hnp, hw⟩ := Lc.Props.C02.list_total cfg w
  cases hfl : (findLayers cfg).run.run w with
  | mk r w1 =>
    have hw1 : w1 = w := by rw [hfl] at hw; exact hw
    subst hw1
    cases r with
    | error e =>
      exact ⟨fun files => ⟨e, getLayers_bind_findLayers_error cfg users w1 _ e hfl⟩,
        fun new co => ⟨e, getLayers_bind_findLayers_error cfg users w1 _ e hfl⟩,
        fun nb => ⟨e, getLayers_bind_findLayers_error cfg users w1 _ e hfl⟩⟩
    | ok d0 =>
      obtain ⟨-, hl0, hnm, -⟩ := findLayers_lists cfg w1 w1 d0 hfl n dl hd
      obtain ⟨m, hm, hv⟩ := world_view w1 hk
      rw [hnm] at hl0
      have hb := worldBusy_of_protected cfg users w1 m hv n dl.file hp
      have hname : (layerOfFile cfg n dl.file).name = n := rfl
      refine ⟨fun files => ?_, fun new co => ?_, fun nb => ?_⟩
      · have := remove_end_to_end_partial cfg users w1 d0 (layerOfFile cfg n dl.file) m files hfl
          (by rw [hname]; exact hl0) hm hb
        rwa [hname] at this
      · have := rename_end_to_end_partial cfg users w1 d0 (layerOfFile cfg n dl.file) m new co hfl
          (by rw [hname]; exact hl0) hm hb
        rwa [hname] at this
      · have := rebase_end_to_end_partial cfg users w1 d0 (layerOfFile cfg n dl.file) m nb hfl
          (by rw [hname]; exact hl0) hm hb
        rwa [hname] at this

open Lc.Spec.World Lc.StateProbe in
/-- the record of a protected listed layer whose layerconfig was read without messages is
    busy for remove / rename / rebase -/
theorem record_busy_of_protected (cfg : Config) (users : List (Bytes × List User)) (w : World)
    (n : Bytes) (l : Layer) (hp : protectedL (instOf cfg w) users n = true)
    (hov : l.overlain = overlain (instOf cfg w) n)
    (hm : l.mounts.length > 0 ↔ mountedAtOrBelow (instOf cfg w) n = true)
    (hu : Lc.StateProbe.usersOf users n ≠ [] → l.mountBusy = true ∨ l.nonMountBusy = true) :
    isBusy l true = true := by
  unfold protectedL at hp
  simp only [Bool.or_eq_true, Bool.not_eq_true'] at hp
  rcases hp with (hp | hp) | hp
  · have := hm.mpr hp
    simp [isBusy, this]
  · have hne : Lc.StateProbe.usersOf users n ≠ [] := by
      rw [Lc.StateProbe.usersOf_eq_spec]
      intro e; rw [e] at hp; simp at hp
    rcases hu hne with h | h <;> simp [isBusy, h]
  · rw [← hov] at hp
    simp [isBusy, hp]

open Lc.Spec.World Lc.StateProbe in
/-- **A protected direct child protects its parent from rename and rebase** (specification
    level).  Hypotheses: `KWF` and distinct layer names (`hnd`).  Nothing is asked of the
    child's layerconfig: with fix e3cb7aa the probe does not skip a layer in the error state;
    without it such a child, though mounted, looks idle (`fixed_child_in_error_state_witness`).  `kn` is a direct child of `n`
    per `Spec.World.childrenOf` and is protected (a mount at or below its build root, a process
    attributed to it, or overlain): `rename n …` and `rebase n …` are refused, world unchanged. -/
theorem child_protected_refused (cfg : Config) (users : List (Bytes × List User)) (w : World)
    (hk : ∀ k ∈ w.kt.mnts, Lc.KernelWF.KWF k)
    (hnd : ((diskLayers (instOf cfg w)).map (·.name)).Nodup) (n kn : Bytes)
    (hn : (findD (diskLayers (instOf cfg w)) n).isSome = true)
    (hkid : kn ∈ childrenOf (diskLayers (instOf cfg w)) n)
    (hp : protectedL (instOf cfg w) users kn = true) :
    (∀ new co, ∃ e, run cfg users (.rename n new co) w = (.error e, w)) ∧
    (∀ nb, ∃ e, run cfg users (.rebase n nb) w = (.error e, w)) := by
  obtain ⟨dl, hd⟩ := Option.isSome_iff_exists.mp hn
  obtain ⟨dk, hdkm, hdkn, hdkb⟩ := childrenOf_mem _ n kn hkid
  have hdk : findD (diskLayers (instOf cfg w)) kn = some dk := by
    rw [← hdkn]; exact findD_of_mem _ hnd dk hdkm
  -- the records of parent and child in every probed table
  have key : ∀ d0 d, (findLayers cfg).run.run w = (.ok d0, w) →
      (probeAll cfg users d0).run.run w = (.ok d, w) →
      ∃ l k, findLayer d n = some l ∧ findLayer d k.name = some k ∧ k.base = n ∧ isBusy k true = true := by
    intro d0 d hfl hpa
    obtain ⟨-, l, hl, -⟩ := getLayers_record cfg users w w d0 d hk hnd hfl hpa n dl hd
    obtain ⟨-, k, hkf, hkn, hkb, hkov, -, hkm, -, hku, -⟩ :=
      getLayers_record cfg users w w d0 d hk hnd hfl hpa kn dk hdk
    refine ⟨l, k, hl, by rw [hkn]; exact hkf, hkb.trans hdkb, ?_⟩
    exact record_busy_of_protected cfg users w kn k hp hkov hkm hku
  constructor
  · intro new co
    refine guarded_spec cfg users w (fun d => renameLayer cfg d n new co) ?_
    intro d0 d hfl hpa
    obtain ⟨l, k, hl, hkf, hkb, hb⟩ := key d0 d hfl hpa
    obtain ⟨c, _, h⟩ := rename_child_refuses cfg d n new co w l k hl hkf hkb hb
    exact ⟨_, h⟩
  · intro nb
    refine guarded_spec cfg users w (fun d => rebaseLayer cfg d n nb) ?_
    intro d0 d hfl hpa
    obtain ⟨l, k, hl, hkf, hkb, hb⟩ := key d0 d hfl hpa
    obtain ⟨c, _, h⟩ := rebase_child_refuses cfg d n nb w l k hl (List.mem_of_find?_eq_some hkf) hkb hb
    exact ⟨_, h⟩

/-- `umount <name>` of a layer that is neither busy nor has mounts listed answers
    "notmounted" and does nothing -/
theorem umountCmd_notMounted (cfg : Config) (d : Defs) (name : Bytes) (w : World) (l : Layer)
    (hl : findLayer d name = some l) (hb : isBusy l false = false) (hm : l.mounts = []) :
    Refused ((unmountCmd cfg d name false).run.run w) w ["needarg", "name", "notmounted"] := by
  have h : (unmountLayer cfg d name).run.run w = (.ok (.notMounted, d), w) := by
    unfold unmountLayer getL
    simp only [hl, hb, hm, run_bind, run_pure]
    rfl
  exact umountCmd_status cfg d name w _ _ h (Or.inr ⟨rfl, rfl⟩)

open Lc.Spec.World Lc.StateProbe in
/-- **umount refuses a blocked layer** (specification level).  For every configuration,
    process list and world with a printable kernel table and distinct layer names, and every
    listed layer `n`: if a process works inside its build, work or upper directory or a
    mounted overlay has its build root as lower directory (`unmountBlocked`), then
    `umount n` ends in the error "busy" and the world is exactly the one before — in
    particular no unmount call was issued (the trace is unchanged) and the kernel table is
    unchanged.  This includes a layer whose layerconfig had messages: with fix e3cb7aa its
    processes and mounts are recorded like anyone's (without it the answer is "notmounted"). -/
theorem umount_blocked_refused (cfg : Config) (users : List (Bytes × List User)) (w : World)
    (hk : ∀ k ∈ w.kt.mnts, Lc.KernelWF.KWF k)
    (hnd : ((diskLayers (instOf cfg w)).map (·.name)).Nodup) (n : Bytes)
    (hn : (findD (diskLayers (instOf cfg w)) n).isSome = true)
    (hb : unmountBlocked (instOf cfg w) users n = true) :
    ∃ e, run cfg users (.umount n false) w = (.error e, w) := by
  obtain ⟨dl, hd⟩ := Option.isSome_iff_exists.mp hn
  refine guarded_spec cfg users w (fun d => unmountCmd cfg d n false) ?_
  intro d0 d hfl hpa
  obtain ⟨-, l, hl, -, -, hov, -, -, hmb, -, -⟩ := getLayers_record cfg users w w d0 d hk hnd hfl hpa n dl hd
  unfold unmountBlocked at hb
  have hbusy : (l.mountBusy || l.overlain) = true := by
    rw [hov, hmb]
    simp only [Bool.or_eq_true] at hb ⊢
    rcases hb with h | h
    · exact Or.inl (modelMountBusy_of_spec cfg users n w h)
    · exact Or.inr h
  obtain ⟨c, _, h⟩ := umountCmd_refuses cfg d n w l hl hbusy
  exact ⟨_, h⟩

/-- what `umount <name>` leaves behind is what `unmountLayer` leaves behind (the command only
    turns the status into a return value) -/
theorem unmountCmd_world (cfg : Config) (d : Defs) (name : Bytes) (w : World)
    (l : Layer) (hne : name ≠ []) (hlegal : isLegalLayerName name = true)
    (hl : findLayer d name = some l) :
    ((unmountCmd cfg d name false).run.run w).2 = ((unmountLayer cfg d name).run.run w).2 := by
  have h0 : name.length > 0 := List.length_pos_iff.mpr hne
  have h1 : testName1 d name NAME_NEED = true := by
    unfold testName1
    simp [Nat.not_lt.mpr h0, hlegal, NAME_NEED, hl]
  unfold unmountCmd testName fail
  simp only [run_bind, run_pure, Bool.and_false, h0, List.all_cons, h1,
    List.all_nil, Bool.and_self, Bool.false_eq_true, ↓reduceIte, decide_true]
  generalize (StateT.run (ExceptT.run (unmountLayer cfg d name)) w) = r
  obtain ⟨a, s⟩ := r
  cases a with
  | error e => rfl
  | ok p =>
    obtain ⟨st, d'⟩ := p
    cases st <;> rfl

open Lc.Spec.World Lc.StateProbe in
/-- **umount proceeds on a layer that is not blocked** (specification level, PARTIAL).  For a
    listed layer `n` (also one whose layerconfig had messages: with fix e3cb7aa its mounts are
    recorded and it is unmounted like any other) that has a mount at or below
    its build root in the kernel table and is NOT blocked (no process in its build, work or
    upper directory, not overlain — processes elsewhere in the layer directory do not count):
    the first thing `umount n` does to the world is an unmount call on a mountpoint at or below
    the layer's build root.  PARTIAL: it assumes that loading and probing succeed (`hgl`, a
    decidable statement about (cfg, users, w): `FindLayers` and the probe return), that the
    three directory names of the configuration do not end in '/' (then the code's
    SameDirectoryOrDescendant is the manual's "the directory or below"), `n ≠ ""`, not
    pretending, and no fault / crash armed for the very next operation.  Which mountpoint goes
    first (the deepest in tree order) and how the sequence continues is C03's subject. -/
theorem umount_free_proceeds_partial (cfg : Config) (users : List (Bytes × List User)) (w : World)
    (hk : ∀ k ∈ w.kt.mnts, Lc.KernelWF.KWF k)
    (hnd : ((diskLayers (instOf cfg w)).map (·.name)).Nodup)
    (hcb : cfg.buildRoot.getLast? ≠ some 47) (hcw : cfg.workdir.getLast? ≠ some 47)
    (hcu : cfg.upperdir.getLast? ≠ some 47)
    (n : Bytes) (hne : n ≠ []) (dl : DLayer)
    (hd : findD (diskLayers (instOf cfg w)) n = some dl)
    (hfree : unmountBlocked (instOf cfg w) users n = false)
    (hmnt : mountedAtOrBelow (instOf cfg w) n = true)
    (hgl : ((getLayers cfg users).run.run w).1.toOption.isSome = true)
    (hp : w.pretend = false) (hc : w.crashAt ≠ some (w.nops + 1)) (hf : w.faultAt ≠ some (w.nops + 1)) :
    ∃ mp rest, atOrBelow (buildDir (instOf cfg w) n) mp = true ∧
      (run cfg users (.umount n false) w).2.trace =
        w.trace ++ Op.umount mp (if w.force then 1 else 0) :: rest := by
  cases hg : (getLayers cfg users).run.run w with
  | mk r w' =>
    rw [hg] at hgl
    cases r with
    | error e => simp [Except.toOption] at hgl
    | ok d =>
      obtain ⟨d0, hfl, hpa, -⟩ := getLayers_run cfg users w w' d hg
      obtain ⟨hw, l, hl, -, -, hov, -, hm, hmb, -, hat⟩ := getLayers_record cfg users w w' d0 d hk hnd hfl hpa n dl hd
      subst hw
      unfold unmountBlocked at hfree
      simp only [Bool.or_eq_false_iff] at hfree
      have hmb' : l.mountBusy = false := by
        rw [hmb, modelMountBusy_eq_spec cfg users n w' hcb hcw hcu]; exact hfree.1
      have hov' : l.overlain = false := by rw [hov]; exact hfree.2
      have hms : l.mounts ≠ [] := List.length_pos_iff.mp (hm.mpr hmnt)
      obtain ⟨rest, htr⟩ := umount_nonMountBusy_proceeds cfg d n w' l _ hl hmb' hov'
        (List.getLast?_eq_some_getLast hms) hp hc hf
      refine ⟨_, rest, hat _ (List.getLast_mem hms), ?_⟩
      have hrun : run cfg users (.umount n false) w' = (unmountCmd cfg d n false).run.run w' := by
        show (getLayers cfg users >>= fun d => unmountCmd cfg d n false).run.run w' = _
        rw [bind_ok _ _ _ _ _ hg]
      have hlegal : isLegalLayerName n = true := by
        have := diskLayers_legal (instOf cfg w') dl (findD_mem _ _ dl hd)
        rwa [findD_name _ n dl hd] at this
      rw [hrun, unmountCmd_world cfg d n w' l hne hlegal hl]
      exact htr

/-! #### non-vacuity of section 6: a world with a kernel table -/

namespace SpecEx
open Lc.Spec.World Lc.StateProbe

/-- layers `a` (base, import proc) and `b` (on `a`); `cfgB` is `b`'s layerconfig -/
def fsOf (cfgB : Bytes) : Fs.Tree :=
  [(b!"/", .dir), (b!"/proc", .dir), (b!"/lc", .dir), (b!"/lc/layers", .dir), (b!"/lc/exports", .dir),
   (b!"/lc/layers/a", .dir), (b!"/lc/layers/a/layerconfig", .file b!"import proc /proc /proc\n"),
   (b!"/lc/layers/a/build", .dir), (b!"/lc/layers/a/build/proc", .dir),
   (b!"/lc/layers/b", .dir), (b!"/lc/layers/b/layerconfig", .file cfgB),
   (b!"/lc/layers/b/build", .dir), (b!"/lc/layers/b/build/proc", .dir)]
def kRoot : Kernel.KMnt :=
  { id := 1, parent := 0, dev := b!"8:1", root := b!"/", mp := b!"/", fstype := b!"ext4", source := b!"/dev/sda1" }
def kProcHost : Kernel.KMnt :=
  { id := 2, parent := 1, dev := b!"0:5", root := b!"/", mp := b!"/proc", fstype := b!"proc", source := b!"proc" }
def kProcOf (id : Nat) (n : Bytes) : Kernel.KMnt :=
  { id := id, parent := 1, dev := b!"0:5", root := b!"/", mp := b!"/lc/layers/" ++ n ++ b!"/build/proc",
    fstype := b!"proc", source := b!"/proc" }
def world (cfgB : Bytes) (ks : List Kernel.KMnt) : World :=
  { fs := fsOf cfgB, kt := { mnts := [kRoot, kProcHost] ++ ks, nextId := 200 } }

/-- `a` has its proc import mounted: protected; remove, rename, rebase refused -/
def wA : World := world b!"base a\n" [kProcOf 100 b!"a"]
example := protected_refused exCfg [] wA (by decide +kernel) b!"a" (by decide +kernel) (by decide +kernel)
example : mountedAtOrBelow (instOf exCfg wA) b!"a" = true ∧ protectedL (instOf exCfg wA) [] b!"b" = false := by
  decide +kernel

/-- nothing mounted, a process with its cwd in `b`'s build directory: `b` is protected, and so
    is its parent `a` against rename / rebase -/
def wB : World := world b!"base a\n" []
def usersB : List (Bytes × List User) := [(b!"b", [⟨1, b!"build"⟩])]
example := protected_refused exCfg usersB wB (by decide +kernel) b!"b" (by decide +kernel) (by decide +kernel)
example :=
  have h : (∀ k ∈ wB.kt.mnts, Lc.KernelWF.KWF k) ∧ ((diskLayers (instOf exCfg wB)).map (·.name)).Nodup ∧
      (findD (diskLayers (instOf exCfg wB)) b!"a").isSome = true ∧
      b!"b" ∈ childrenOf (diskLayers (instOf exCfg wB)) b!"a" ∧
      protectedL (instOf exCfg wB) usersB b!"b" = true := by decide +kernel
  child_protected_refused exCfg usersB wB h.1 h.2.1 b!"a" b!"b" h.2.2.1 h.2.2.2.1 h.2.2.2.2
example : protectedL (instOf exCfg wB) usersB b!"a" = false := by decide +kernel

/-- umount: a process in `a`'s build directory blocks it (nothing is unmounted); a process
    elsewhere in the layer directory (`packages`) does not -/
def usersA : List (Bytes × List User) := [(b!"a", [⟨1, b!"build/usr"⟩])]
example := umount_blocked_refused exCfg usersA wA (by decide +kernel) (by decide +kernel) b!"a" (by decide +kernel) (by decide +kernel)
def usersA' : List (Bytes × List User) := [(b!"a", [⟨1, b!"packages"⟩])]
example : ∃ mp rest, atOrBelow (buildDir (instOf exCfg wA) b!"a") mp = true ∧
    (run exCfg usersA' (.umount b!"a" false) wA).2.trace = wA.trace ++ Op.umount mp 0 :: rest :=
  ⟨b!"/lc/layers/a/build/proc", [], by decide +kernel⟩
/-- … and indeed (kernel evaluation of the whole run): one unmount call, on `a`'s proc mount -/
example : (run exCfg usersA' (.umount b!"a" false) wA).2.trace = [Op.umount b!"/lc/layers/a/build/proc" 0] := by
  decide +kernel

end SpecEx

open Lc.Spec.World Lc.StateProbe in
/-- **A child in the error state protects its parent** (defect repaired by fix e3cb7aa; the
    world is the witness of the defect).  `b` is a direct child of `a`, its layerconfig has a
    line the reader does not understand (one message: error state), and its proc import is
    mounted, so `b` is protected.  Without the fix `ProbeAllLayerstate` skips layers in the
    error state: `b`'s record lists no mounts and `rename a c` / `rebase a` go ahead (reproduced
    on the implementation: "rename of a protected layer succeeded").  With it the mounts and
    users of every layer are recorded and only the state classification is skipped: the hypotheses of
    `child_protected_refused` hold and the run (kernel evaluation) fails with the tree
    untouched and no operation attempted; `umount b` unmounts the proc mount like for any
    other layer. -/
theorem fixed_child_in_error_state_witness :
    let w := SpecEx.world b!"base a\nbogus line\n" [SpecEx.kProcOf 101 b!"b"]
    (∀ k ∈ w.kt.mnts, Lc.KernelWF.KWF k) ∧
    ((diskLayers (instOf exCfg w)).map (·.name)).Nodup ∧
    b!"b" ∈ childrenOf (diskLayers (instOf exCfg w)) b!"a" ∧
    protectedL (instOf exCfg w) [] b!"b" = true ∧
    (diskLayers (instOf exCfg w)).map (fun dl => (dl.name, dl.file.nmsgs)) = [(b!"a", 0), (b!"b", 1)] ∧
    (run exCfg [] (.rename b!"a" b!"c" []) w).1.toOption.isSome = false ∧
    (run exCfg [] (.rename b!"a" b!"c" []) w).2.fs = w.fs ∧
    (run exCfg [] (.rename b!"a" b!"c" []) w).2.trace = [] ∧
    (run exCfg [] (.rebase b!"a" []) w).1.toOption.isSome = false ∧
    (run exCfg [] (.umount b!"b" false) w).2.trace = [Op.umount b!"/lc/layers/b/build/proc" 0] := by
  decide +kernel

end Lc.Props.C04
