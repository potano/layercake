/-
  C19 — processes using a layer are attributed to that layer and only that layer; the
  scan succeeds whatever processes start or exit while it runs.
  Over the model Lc/Model/InUse.lean, in which every /proc access of the scan may fail
  with any errno (the kernel's actual repertoire is an environment assumption).
-/
import Lc.Model.InUse
import Lc.Lemmas.InUse
import Lc.Lemmas.Prefix
import Lc.Lemmas.Ite

namespace Lc.Props.C19
open Lc Lc.InUse Lc.InUseLemmas

/-- the scan prefix of a layers directory (other than "/") ends with a slash -/
theorem scanPrefix_slash (d : Bytes) (h : d.length > 1) : (scanPrefix d).getLast? = some 47 := by
  unfold scanPrefix
  split
  · simp
  · rename_i hn
    simp [h] at hn
    exact hn

/-! ### attribution -/

/-- a link pointing below `<layers>/<name>/` is attributed to exactly `name`, with the path
    below the layer directory as tail -/
theorem link_inside (pre name tail : Bytes) (hp : pre.getLast? = some 47) (hn : 47 ∉ name) :
    linkToLayer pre (.ok (pre ++ name ++ 47 :: tail)) = some (name, tail) := by
  simp [linkToLayer, sameDirOrDesc, hp, List.append_assoc, hasPrefix_iff,
        indexByte_append 47 name tail hn]

/-- a link to the layer directory itself -/
theorem link_layerdir (pre name : Bytes) (hp : pre.getLast? = some 47) (hn : 47 ∉ name) :
    linkToLayer pre (.ok (pre ++ name)) = some (name, []) := by
  simp [linkToLayer, sameDirOrDesc, hp, hasPrefix_iff, indexByte_none 47 name hn]

/-- a link that does not point below the layers directory is attributed to no layer -/
theorem link_outside (pre target : Bytes) (h : hasPrefix target pre = false) :
    linkToLayer pre (.ok target) = none := by
  simp [linkToLayer, sameDirOrDesc, h]

theorem link_error (pre : Bytes) (e : Nat) : linkToLayer pre (.error e) = none := rfl

/-- exactness: whatever is attributed to layer `L` really lies in `<layers>/L` — the
    reported name is the complete first path component below the layers directory -/
theorem attribution_exact (pre target L tail : Bytes)
    (h : linkToLayer pre (.ok target) = some (L, tail)) :
    47 ∉ L ∧ (target = pre ++ L ∧ tail = [] ∨ target = pre ++ L ++ 47 :: tail) := by
  unfold linkToLayer at h
  simp only at h
  split at h
  case isFalse => cases h
  rename_i hs
  obtain ⟨x, rfl⟩ := (hasPrefix_iff target pre).mp (Bool.and_eq_true_iff.mp hs).1
  simp only [List.drop_left'] at h
  split at h
  next k hi =>
    obtain ⟨hnot, hsplit⟩ := indexByte_some 47 x k hi
    cases h
    exact ⟨hnot, .inr (by rw [List.append_assoc, ← hsplit])⟩
  next hi =>
    have hnot := (indexByte_eq_none_iff 47 x).mp hi
    cases h
    exact ⟨hnot, .inl ⟨rfl, rfl⟩⟩

/-- never another layer whose name merely shares a prefix (d1 vs d1x, x vs x~removed):
    a target below `<layers>/M/` is reported for `M` and nothing else -/
theorem no_prefix_confusion (pre M r L tail : Bytes) (hp : pre.getLast? = some 47) (hM : 47 ∉ M)
    (h : linkToLayer pre (.ok (pre ++ M ++ 47 :: r)) = some (L, tail)) : L = M ∧ tail = r := by
  rw [link_inside pre M r hp hM] at h
  cases h
  exact ⟨rfl, rfl⟩

/-! ### robustness of the scan -/

theorem scanProc_ok (pre : Bytes) (p : ProcRec) : ∃ us, scanProc false pre p = .ok us := by
  unfold scanProc
  simp only [Bool.false_and, Bool.false_eq_true, if_false]
  refine ite_ind (P := fun r : Res (List Use) => ∃ us, r = .ok us) ⟨_, rfl⟩ ?_
  cases p.fd <;> exact ⟨_, rfl⟩

theorem scanAll_ok (pre : Bytes) : ∀ procs, ∃ us, scanAll false pre procs = .ok us
  | [] => ⟨[], rfl⟩
  | p :: ps => by
    obtain ⟨us, hus⟩ := scanProc_ok pre p
    obtain ⟨rest, hrest⟩ := scanAll_ok pre ps
    exact ⟨us ++ rest, by simp only [scanAll, hus, hrest]⟩

/-- whatever the processes do while they are examined — every readlink, open and readdir
    of the scan may fail with any errno — the scan succeeds -/
theorem scan_robust (layersDir : Bytes) (procs : List ProcRec) :
    ∃ us, findLayerUsers layersDir procs = .ok us :=
  scanAll_ok _ procs

/-- the code before fix 3b950b5 did abort: a process whose fd directory could be opened
    but not read any more (it exited in between) failed the whole command -/
theorem old_scan_aborts :
    findLayerUsersOld b!"/VB/layers"
      [⟨7, .ok b!"/bin/sleep", .ok b!"/", .ok b!"/", .readFails ESRCH⟩] = Res.err "readdir" := by
  rfl

/-- an unreadable process contributes nothing and hides no other process's uses -/
theorem vanished_process_only_loses_its_own (layersDir : Bytes) (p : ProcRec) (ps : List ProcRec)
    (us rest : List Use) (h1 : scanProc false (scanPrefix layersDir) p = .ok us)
    (h2 : findLayerUsers layersDir ps = .ok rest) :
    findLayerUsers layersDir (p :: ps) = .ok (us ++ rest) := by
  unfold findLayerUsers at *
  simp [scanAll, h1, h2]

/-! ### non-vacuity -/

example : linkToLayer b!"/VB/layers/" (.ok b!"/VB/layers/d1x/build/usr") = some (b!"d1x", b!"build/usr") := by
  decide +kernel
example : linkToLayer b!"/VB/layers/" (.ok b!"/VB/layers/d1~removed/build") = some (b!"d1~removed", b!"build") := by
  decide +kernel
example : linkToLayer b!"/VB/layers/" (.ok b!"/VB/layersX/d1") = none := by decide +kernel

end Lc.Props.C19
