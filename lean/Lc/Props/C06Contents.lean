/-
  C06, the part before the pipeline: what is "recorded for a selected package" is what
  `vdb.GetAtomFileInfo` reads out of the package's CONTENTS file.  These theorems say that
  the reader (Model/Contents: GetAtomFileInfo, parseOffTimestamp, parseOffMd5,
  parseOffNonBlankField, readFileLines -- the code as it is) returns exactly the recorded
  names, kinds and times for every file Portage can have written (Spec/ContentsRender:
  `render`, `WFEntry`), and where the format itself cannot carry a name.
  Helper lemmas: Lc/Lemmas/Contents.lean.
-/
import Lc.Model.Contents
import Lc.Spec.ContentsRender
import Lc.Lemmas.Contents

namespace Lc.Props.C06Contents
open Lc Lc.Contents Lc.Spec.ContentsRender Lc.Lemmas.Contents

/-! ## 1. cutting fields from the right -/

/-- The core of the format: cutting the last blank-free field off the right end undoes
    appending ` <field>`, whatever the (non-empty) text to the left of it is -- blanks,
    blanks at its end, text that itself looks like ` <field>`. -/
theorem field_cut_from_right (head field : Bytes) (hh : head ≠ []) (hne : field ≠ [])
    (hf : 32 ∉ field) : parseOffNonBlankField (head ++ 32 :: field) = .ok (head, field) :=
  parseOff_append head field hh hne hf

example : parseOffNonBlankField (b!"/a b  " ++ 32 :: b!"17") = .ok (b!"/a b  ", b!"17") :=
  field_cut_from_right _ _ (by decide) (by decide) (by decide)

/-- ... and the left part must not be empty: the loop stops before position 0. -/
theorem field_cut_needs_left_part (field : Bytes) (hf : 32 ∉ field) :
    parseOffNonBlankField (32 :: field) = Res.err "parse" :=
  parseOff_empty_head field hf

example : parseOffNonBlankField b!" 17" = Res.err "parse" := field_cut_needs_left_part b!"17" (by decide)

/-- every 64-bit time comes back from its decimal rendering -/
theorem time_any_int64 (t : Int) (ht : TimeOK t) : parseInt64 (intDec t) = some t :=
  parseInt64_intDec t ht

example : parseInt64 (intDec (-9223372036854775808)) = some (-9223372036854775808) :=
  time_any_int64 _ (by decide)
example : parseInt64 b!"1500000000" = some 1500000000 := by decide +kernel
-- accepted by strconv.ParseInt: a sign, `-0`; refused: an underscore, 2^63, a sign alone, CR
example : parseInt64 b!"+5" = some 5 ∧ parseInt64 b!"-0" = some 0 ∧ parseInt64 b!"1_0" = none ∧
    parseInt64 b!"9223372036854775808" = none ∧ parseInt64 b!"-" = none ∧ parseInt64 b!"17\r" = none := by
  refine ⟨?_, ?_, ?_, ?_, ?_, ?_⟩ <;> rfl

/-! ## 2. the whole file -/

/-- For every list of well-formed entries, reading the file Portage writes for it gives
    back exactly the entries' names, kinds, times (and checksums), in order. -/
theorem parse_render (es : List Entry) (h : ∀ e ∈ es, WFEntry e) :
    getAtomFileInfo (render es) = .ok (es.map expected) := by
  by_cases hne : es = []
  · subst hne; rfl
  · rw [getAtomFileInfo_render es hne fun e he => renderLine_no_nl e (h e he)]
    exact parseLines_render es h

/-- C06's sentence for the reader: names, kinds and times, in order -/
theorem parse_render_names_types_times (es : List Entry) (h : ∀ e ∈ es, WFEntry e) :
    ∃ out, getAtomFileInfo (render es) = .ok out ∧
      out.map (fun fi => (fi.name, fi.type, fi.unixTime)) = es.map (fun e => (e.name, e.typeCode, e.time)) := by
  refine ⟨es.map expected, parse_render es h, ?_⟩
  simp [List.map_map, expected, Function.comp_def]

def md5A : Bytes := [0xd4, 0x1d, 0x8c, 0xd9, 0x8f, 0x00, 0xb2, 0x04, 0xe9, 0x80, 0x09, 0x98, 0xec, 0xf8, 0x42, 0x7e]

/-- a file with the awkward cases side by side: a name with blanks and one at the end, a
    name that looks like the tail of an `obj` line, a target containing ` -> ` and ending in a
    blank, an empty target, a `dir` name ending in a blank as the LAST line (kept by
    readFileLines), non-ASCII bytes -/
def sampleEntries : List Entry :=
  [.dir b!"/usr", .obj b!"/usr/my file " md5A 1500000000,
   .obj b!"/a d41d8cd98f00b204e9800998ecf8427e 17" md5A 0,
   .sym b!"/usr/lib/x" b!"a -> b " 1700000000, .sym b!"/e" b!"" (-1),
   .obj b!"/opt/é" md5A 9223372036854775807, .dir b!"/opt/end "]

example : ∀ e ∈ sampleEntries, WFEntry e := by decide +kernel

example : render [.obj b!"/usr/my file " md5A 1500000000, .sym b!"/e" b!"a -> b " (-1)] =
    b!"obj /usr/my file  d41d8cd98f00b204e9800998ecf8427e 1500000000\nsym /e -> a -> b  -1\n" := by
  rfl

example : getAtomFileInfo (render sampleEntries) = .ok (sampleEntries.map expected) :=
  parse_render _ (by decide)

/-- The point of cutting from the right: the name of an `obj` entry comes back unchanged
    for ANY non-empty name without newline -- blanks, a blank at the end, a name ending in
    ` -> x`, a name that is itself `a 0123abcd 17`.  No other condition on the name. -/
theorem obj_name_any_bytes (name md5 : Bytes) (t : Int) (hne : name ≠ []) (hnl : 10 ∉ name)
    (hl : md5.length = 16) (hb : ∀ b ∈ md5, b < 256) (ht : TimeOK t) :
    getAtomFileInfo (render [.obj name md5 t]) =
      .ok [{ name := name, unixTime := t, md5 := md5, type := FileType_file }] :=
  parse_render [.obj name md5 t] (by
    intro e he
    simp at he
    subst he
    exact ⟨hne, hnl, hl, hb, ht⟩)

example : getAtomFileInfo (render [.obj b!"a 0123abcd 17" md5A 5]) =
    .ok [{ name := b!"a 0123abcd 17", unixTime := 5, md5 := md5A, type := 2 }] :=
  obj_name_any_bytes _ _ _ (by decide) (by decide) (by decide) (by decide) (by decide)
example : getAtomFileInfo (render [.obj b!"/x -> y " md5A 5]) =
    .ok [{ name := b!"/x -> y ", unixTime := 5, md5 := md5A, type := 2 }] :=
  obj_name_any_bytes _ _ _ (by decide) (by decide) (by decide) (by decide) (by decide)

/-- the same among other entries: in a file of well-formed entries the `obj` entry at
    position `i` is returned at position `i` with its name -/
theorem obj_name_any_bytes_in_file (before after : List Entry) (name md5 : Bytes) (t : Int)
    (hb : ∀ e ∈ before, WFEntry e) (ha : ∀ e ∈ after, WFEntry e) (hw : WFEntry (.obj name md5 t)) :
    ∃ out, getAtomFileInfo (render (before ++ .obj name md5 t :: after)) = .ok out ∧
      (out[before.length]?).map (·.name) = some name := by
  refine ⟨(before ++ .obj name md5 t :: after).map expected, parse_render _ ?_, ?_⟩
  · intro e he
    simp only [List.mem_append, List.mem_cons] at he
    rcases he with he | rfl | he
    · exact hb e he
    · exact hw
    · exact ha e he
  · simp [expected, Entry.name]

example : ∃ out, getAtomFileInfo (render ([.dir b!"/usr"] ++ .obj b!"/usr/my file " md5A 7 :: [.dir b!"/z"])) = .ok out ∧
    (out[1]?).map (·.name) = some b!"/usr/my file " :=
  obj_name_any_bytes_in_file _ _ _ _ _ (by decide) (by decide) (by decide)

/-! ## 3. symlinks: exactly which names the format carries -/

/-- The name of a `sym` entry comes back exactly when ` -> ` does not occur in `<name> ->`
    (`ArrowFree`); otherwise it comes back cut at an earlier position.  The target plays no
    part.  So `ArrowFree` is the weakest condition; that names containing ` -> ` cannot be
    recorded is a limitation of the CONTENTS format (`sym /a -> b -> c 5` can be read as
    `/a` pointing to `b -> c` or as `/a -> b` pointing to `c`: nothing is escaped, a reader has to
    choose, and this one takes the first ` -> `), not a defect of this reader. -/
theorem sym_name_back_iff (name targ : Bytes) (t : Int) (ht : TimeOK t) (hn : 10 ∉ name)
    (htg : 10 ∉ targ) :
    getAtomFileInfo (render [.sym name targ t]) = .ok [expected (.sym name targ t)] ↔ ArrowFree name := by
  constructor
  · intro h
    apply Classical.byContradiction
    intro hna
    obtain ⟨p, hp, hidx⟩ := indexOf_not_arrowFree name targ hna
    have hline := parseLine_sym_general name targ t ht
    rw [arrow_eq, hidx] at hline
    have hnl : 10 ∉ renderLine (.sym name targ t) := by
      simp [renderLine, hn, htg, intDec_no_nl t, sepArrow]
    rw [getAtomFileInfo_render [.sym name targ t] (by simp) (by simpa using hnl)] at h
    simp only [List.map, parseLines, hline] at h
    have hname : (name ++ (sepArrow ++ targ)).take p = name := by
      have := congrArg (fun r => match r with | Except.ok [fi] => fi.name | _ => []) h
      simpa [expected, Entry.name] using this
    have hlen := congrArg List.length hname
    simp at hlen
    omega
  · intro ha
    exact parse_render [.sym name targ t] (by
      intro e he; simp at he; subst he; exact ⟨hn, htg, ha, ht⟩)

example : ArrowFree b!"/usr/lib/a - > b" ∧ ¬ ArrowFree b!"/a -> b" ∧ ¬ ArrowFree b!"/a ->" := by decide +kernel

/-- targets are free: ` -> ` inside, blanks at the end, empty -/
theorem sym_target_any_bytes (name targ : Bytes) (t : Int) (ht : TimeOK t) (hn : 10 ∉ name)
    (htg : 10 ∉ targ) (ha : ArrowFree name) :
    getAtomFileInfo (render [.sym name targ t]) =
      .ok [{ name := name, unixTime := t, type := FileType_symlink }] :=
  (sym_name_back_iff name targ t ht hn htg).mpr ha

example : getAtomFileInfo (render [.sym b!"/l" b!"x -> y -> z " 3]) =
    .ok [{ name := b!"/l", unixTime := 3, type := 3 }] :=
  sym_target_any_bytes _ _ _ (by decide) (by decide) (by decide) (by decide)

/-- Witness (documented limitation of the format, not a defect): a symlink whose NAME
    contains ` -> ` comes back with a shorter name. -/
theorem sym_name_with_arrow_is_cut :
    getAtomFileInfo (render [.sym b!"/a -> b" b!"t" 5]) = .ok [{ name := b!"/a", unixTime := 5, type := 3 }] := by
  rfl

/-- ... and so does a name that merely ENDS in ` ->`: together with the separator it reads
    ` -> -> `, and the reader stops at the first one.  This is why `ArrowFree` looks at
    `<name> ->` and not at the name alone. -/
theorem sym_name_ending_in_arrow_is_cut :
    getAtomFileInfo (render [.sym b!"/a ->" b!"t" 5]) = .ok [{ name := b!"/a", unixTime := 5, type := 3 }] := by
  rfl

/-! ## 4. what else the conditions of `WFEntry` are needed for -/

/-- an `obj` entry with the empty name is refused (for every checksum and time): the reader
    does not look for a blank at position 0 -/
theorem obj_empty_name_refused (md5 : Bytes) (t : Int) (ht : TimeOK t) :
    parseLine (renderLine (.obj [] md5 t)) = Res.err "parse" := by
  have htail : (renderLine (.obj [] md5 t)).drop 4 = (32 :: hexEncode md5) ++ 32 :: intDec t := by
    simp [renderLine]
  have htake : (renderLine (.obj [] md5 t)).take 4 = b!"obj " := by simp [renderLine]
  have hlen : ¬ (renderLine (.obj [] md5 t)).length < 4 := by simp [renderLine]
  unfold parseLine
  rw [if_neg hlen]
  simp only [htake, htail]
  rw [parseOffTimestamp_append _ t (by simp) ht]
  simp only [show (b!"obj " = b!"dir ") = False from by simp, if_false, if_true]
  unfold parseOffMd5
  rw [parseOff_empty_head _ (hexEncode_no_blank md5)]
  rfl

example : getAtomFileInfo (render [.obj [] md5A 5]) = Res.err "parse" := by rfl

/-- a time outside 64 bits is refused -/
theorem time_out_of_range_refused :
    getAtomFileInfo (render [.obj b!"/a" md5A 9223372036854775808]) = Res.err "timestamp" := by rfl

/-- a name with a newline is two lines to the reader; here the second one is too short -/
theorem newline_in_name_breaks_line :
    getAtomFileInfo (render [.dir b!"/a\nb"]) = Res.panic := by rfl

/-- Portage records FIFOs and device nodes as `fif <name>` / `dev <name>`; this reader knows
    `dir`, `obj`, `sym` only and refuses the whole file (it does not skip the line and does
    not lose a name silently). -/
theorem fif_line_is_refused :
    getAtomFileInfo b!"dir /run\nfif /run/initctl\n" = Res.err "type" ∧
    getAtomFileInfo b!"dev /dev/console\n" = Res.err "type" := by
  constructor <;> rfl

/-! ## 5. malformed text -/

/-- a line shorter than four bytes: `line[:4]` is a Go panic (slice bounds out of range) -/
theorem short_line_panics : getAtomFileInfo b!"ab" = Res.panic := by rfl

/-- an empty line in the middle of the file is such a line -/
theorem blank_line_in_the_middle : getAtomFileInfo b!"dir /a\n\ndir /b\n" = Res.panic := by rfl

-- empty lines at either end are dropped by readFileLines; a file of newlines only is empty
example : getAtomFileInfo b!"\n\ndir /a \n\n\n" = .ok [{ name := b!"/a ", type := 1 }] := by rfl
example : getAtomFileInfo b!"\n\n\n" = .ok [] := by rfl
-- other malformed lines are error returns
example : getAtomFileInfo b!"obj /a d41d8cd98f00b204e9800998ecf8427 5\n" = Res.err "md5" := by rfl
example : getAtomFileInfo b!"obj /a D41D8CD98F00B204E9800998ECF8427E 5\n" =
    .ok [{ name := b!"/a", unixTime := 5, md5 := md5A, type := 2 }] := by rfl
example : getAtomFileInfo b!"obj /a d41d 1_0\n" = Res.err "timestamp" := by rfl
example : getAtomFileInfo b!"sym /a b 5\n" = Res.err "arrow" := by rfl
example : getAtomFileInfo b!"obj \n" = Res.err "empty" := by rfl
example : getAtomFileInfo b!"obj x\n" = Res.err "parse" := by rfl
example : getAtomFileInfo b!"dir /a\r\ndir /b\r\n" = .ok [{ name := b!"/a\r", type := 1 }, { name := b!"/b\r", type := 1 }] := by rfl

/-- The only panic is the short line: if the reader panics, some line of the trimmed text
    has fewer than four bytes.  (So on every text whose lines all have four bytes or more the
    outcome is a list or an error return.) -/
theorem panic_only_on_short_line (content : Bytes) (h : getAtomFileInfo content = Res.panic) :
    ∃ l ∈ splitOn 10 (readFileLines content), l.length < 4 := by
  have hlines : ∀ ls, parseLines ls = Res.panic → ∃ l ∈ ls, l.length < 4 := by
    intro ls
    induction ls with
    | nil => intro hp; simp [parseLines, Res.panic] at hp
    | cons l ls ih =>
      intro hp
      simp only [parseLines] at hp
      cases hl : parseLine l with
      | error e =>
        rw [hl] at hp; dsimp only at hp
        have he : e = Fault.panic := by simpa [Res.panic] using hp
        exact ⟨l, by simp, parseLine_panic_short l (by rw [hl, he]; rfl)⟩
      | ok fi =>
        rw [hl] at hp; dsimp only at hp
        cases hls : parseLines ls with
        | error e =>
          rw [hls] at hp; dsimp only at hp
          have he : e = Fault.panic := by simpa [Res.panic] using hp
          obtain ⟨l', hl', hlt⟩ := ih (by rw [hls, he]; rfl)
          exact ⟨l', by simp [hl'], hlt⟩
        | ok fis => rw [hls] at hp; simp [Res.panic] at hp
  unfold getAtomFileInfo at h
  dsimp only at h
  split at h
  · simp [Res.panic] at h
  · exact hlines _ h

example : ∃ l ∈ splitOn 10 (readFileLines b!"dir /a\n\ndir /b\n"), l.length < 4 :=
  panic_only_on_short_line _ blank_line_in_the_middle

/-- If reading succeeds, there is one entry per line of the trimmed text (no line is skipped,
    none yields two entries); an empty text has none. -/
theorem parse_error_or_all_lines (content : Bytes) (out : List FileInfo)
    (h : getAtomFileInfo content = .ok out) :
    out.length = if (readFileLines content).length = 0 then 0
                 else (splitOn 10 (readFileLines content)).length := by
  unfold getAtomFileInfo at h
  simp only at h
  split at h
  · rename_i h0
    simp at h
    subst h
    simp [h0]
  · rename_i h0
    rw [if_neg h0]
    exact parseLines_length _ _ h

example : ∃ out, getAtomFileInfo b!"dir /a\ndir /b c \nsym /l -> /a 5\n" = .ok out ∧ out.length = 3 :=
  ⟨_, rfl, rfl⟩

end Lc.Props.C06Contents
