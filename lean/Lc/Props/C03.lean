/-
  C03 — unmount removes all of a layer's mounts, deepest first, and nothing else.

  Theorems over the command model (`unmountLayer`, `unmountCmd` of Lc/Model/Layers.lean) for
  EVERY configuration, `Defs`, layer name and world, on every exit.  `Emitted m w s`: the run
  of `m` from world `w` appended exactly the operations `s` to the trace.
  Master results in Lc/Lemmas/UmountTrace.lean: `unmountLayer_run` (status, returned `Defs`
  and trace of one layer: with the pretend switch nothing, without it exactly the unmount
  calls of `l.mounts` in reverse order, an error exit having issued an initial part),
  `unmountCmd_all_run` (the `-all` loop over `d.order.reverse`).
-/
import Lc.Lemmas.UmountTrace
import Lc.Lemmas.UmountState
import Lc.Lemmas.TreeOrder
import Lc.Lemmas.KernelProbe
import Lc.Lemmas.RunM
import Lc.Lemmas.Probe
import Lc.Lemmas.TreeGlue
import Lc.Props.C12

namespace Lc.Props.C03
open Lc.SortByAux
open Lc Lc.Layers Lc.Mountinfo Lc.Trace Lc.UmountTrace Lc.Kernel Lc.KernelUmount Lc.UmountState Lc.KernelResolve
open Lc.TreeOrder (NoCovered)
open Lc.TreeUmount (TreeS ClosedRegion)

/-! ### what `getMountAndSubmounts` returns -/

/-- every listed mount sits on the path or below it (`path/…`) and is a mount of the table -/
theorem getMountAndSubmounts_inside (m : Mounts) (path : Bytes) (x : MountType)
    (hx : x ∈ getMountAndSubmounts m path) :
    x ∈ m.list ∧ (x.mountpoint = path ∨ hasPrefix x.mountpoint (path ++ [47]) = true) :=
  (TreeOrder.mem_getMountAndSubmounts m path x).mp hx

/-- every mount of the table on the path or below it is listed, as often as it occurs
    (stacked mounts are separate entries): the result is a permutation of the filtered table -/
theorem getMountAndSubmounts_complete (m : Mounts) (path : Bytes) :
    (getMountAndSubmounts m path).Perm
      (m.list.filter fun x => x.mountpoint == path || hasPrefix x.mountpoint (path ++ [47])) :=
  TreeOrder.getMountAndSubmounts_perm_region m path

/-- the mounts at/below the path, sorted by mountpoint: what `GetMountAndSubmounts` returned
    before fix e546b99, and still returns when no listed mount covers a listed sibling -/
def pathSorted (m : Mounts) (path : Bytes) : List MountType := TreeOrder.sortedRegion m path

/-- **getMountAndSubmounts_perm**: in every case — also when the list is re-ordered along the
    mount tree — a permutation of the path-sorted list -/
theorem getMountAndSubmounts_perm (m : Mounts) (path : Bytes) :
    (getMountAndSubmounts m path).Perm (pathSorted m path) :=
  TreeOrder.getMountAndSubmounts_perm_sorted m path

/-- `NoCovered m path` (Lemmas/TreeOrder): no mount listed at/below `path` covers another one
    (`Mountinfo.covers a b`: same parent id, `b`'s mountpoint below `a`'s).  Then the list is
    the path-sorted one; always so when the entries carry no ids. -/
theorem getMountAndSubmounts_pathSorted (m : Mounts) (path : Bytes) (hnc : NoCovered m path) :
    getMountAndSubmounts m path = pathSorted m path :=
  TreeOrder.getMountAndSubmounts_noCovered m path hnc

/-- nothing covered: sorted by mountpoint, non-strictly (stacked mounts repeat a mountpoint) -/
theorem getMountAndSubmounts_sorted (m : Mounts) (path : Bytes) (hnc : NoCovered m path) :
    (getMountAndSubmounts m path).Pairwise (fun a b => bytesLt b.mountpoint a.mountpoint = false) := by
  rw [getMountAndSubmounts_pathSorted m path hnc]
  exact Lc.SortByAux.sortBy_sorted (fun a b : MountType => bytesLt a.mountpoint b.mountpoint)
    (fun a => bytesLt_irrefl _) (fun a b c h1 h2 => bytesLt_trans h1 h2) _

/-- **treeOrder_parent_first**: when the list is re-ordered along the mount tree, every mount
    still precedes the mounts hanging below it (nothing listed after an entry has the id that is
    the entry's parent id), provided this is so in the path-sorted list (it is when a child's
    mountpoint extends its parent's), ids are unique and nobody is its own parent -/
theorem treeOrder_parent_first (l : List MountType) (hnd : (l.map (·.id)).Nodup)
    (hns : ∀ x ∈ l, x.id ≠ x.parent) (hl : l.Pairwise (fun x y => y.id ≠ x.parent)) :
    (inTreeOrder l).Pairwise (fun x y => y.id ≠ x.parent) :=
  TreeOrder.inTreeOrder_parent_first l hnd hns hl

/-- **treeOrder_covered_first**: … and a covered mount precedes the mount that covers it, so that
    going through the list from its end the covering mount is unmounted first.  (The submounts of
    the covered mount precede the covering one as well: `treeOrder_subtree_first`.) -/
theorem treeOrder_covered_first (pre rest : List MountType) (a b : MountType) (ha : a ∈ pre)
    (hc : covers a b = true) : [b, a].Sublist (inTreeOrder (pre ++ b :: rest)) :=
  TreeOrder.inTreeOrder_covered_first pre rest a b ha hc

/-- `later` is a proper extension of `earlier` (as a byte string; a mount beneath
    `earlier` has mountpoint `earlier ++ "/" ++ …`); the same relation as `KernelUmount.Ext` -/
def ProperExt (earlier later : Bytes) : Prop := ∃ s, s ≠ [] ∧ later = earlier ++ s

/-- **umount_leaf_order (list form)**: in the issue order of a layer whose `mounts` field
    was filled by `getMountAndSubmounts` from a table in which nothing listed is covered, no
    later target properly extends an earlier one: when a target is unmounted every listed mount
    beneath it has already been unmounted. -/
theorem issueOrder_children_first (l : Layer) (m : Mounts) (path : Bytes)
    (hm : l.mounts = getMountAndSubmounts m path) (hnc : NoCovered m path) :
    (issueOrder l).Pairwise (fun earlier later => ¬ ProperExt earlier later) := by
  unfold issueOrder
  rw [List.pairwise_map, List.pairwise_reverse, hm]
  refine List.Pairwise.imp ?_ (getMountAndSubmounts_sorted m path hnc)
  intro a b hab ⟨s, hs, he⟩
  -- a before b in the sorted list: ¬ b < a; in issue order b is earlier, a later
  have := prefix_lt b.mountpoint s hs
  rw [← he] at this
  rw [this] at hab
  cases hab

/-! ### one layer -/

/-- **umount_targets_inside**: `unmountLayer` issues nothing but unmount calls, each on the
    mountpoint of an entry of the named layer's `mounts` list; when that list was filled by
    `getMountAndSubmounts m (buildPath l)` every target is the layer's build path or lies
    below it (`buildPath l ++ "/" ++ …`) — for the named layer only — and is a mountpoint
    of the table `m`. -/
theorem umount_targets_inside (cfg : Config) (d : Defs) (name : Bytes) (w : World) (s : List Op)
    (h : Emitted (unmountLayer cfg d name) w s) :
    s = [] ∨ ∃ l, findLayer d name = some l ∧ isBusy l false = false ∧
      ∀ op ∈ s, ∃ t fl, op = Op.umount t fl ∧ (∃ x ∈ l.mounts, x.mountpoint = t) ∧
        ∀ m, l.mounts = getMountAndSubmounts m (buildPath cfg l) →
          (t = buildPath cfg l ∨ hasPrefix t (buildPath cfg l ++ [47]) = true) ∧
          ∃ x ∈ m.list, x.mountpoint = t := by
  obtain ⟨s0, he, _, hN, hE⟩ := unmountLayer_run cfg d name w
  have := h.unique he
  subst this
  have key : ∀ l pre rest, issueOrder l = pre ++ rest → UmountsOf pre s →
      ∀ op ∈ s, ∃ t fl, op = Op.umount t fl ∧ (∃ x ∈ l.mounts, x.mountpoint = t) ∧
        ∀ m, l.mounts = getMountAndSubmounts m (buildPath cfg l) →
          (t = buildPath cfg l ∨ hasPrefix t (buildPath cfg l ++ [47]) = true) ∧
          ∃ x ∈ m.list, x.mountpoint = t := by
    intro l pre rest hio hu op hop
    obtain ⟨t, fl, ho, ht⟩ := hu.only op hop
    have ht2 : t ∈ issueOrder l := by rw [hio]; exact List.mem_append.mpr (.inl ht)
    unfold issueOrder at ht2
    obtain ⟨x, hx, hxt⟩ := List.mem_map.mp ht2
    have hx' : x ∈ l.mounts := List.mem_reverse.mp hx
    refine ⟨t, fl, ho, ⟨x, hx', hxt⟩, ?_⟩
    intro m hm
    rw [hm] at hx'
    obtain ⟨h1, h2⟩ := getMountAndSubmounts_inside m _ x hx'
    rw [hxt] at h2
    exact ⟨h2, x, h1, hxt⟩
  generalize hr : ((unmountLayer cfg d name).run.run w).1 = r at hN hE
  cases r with
  | ok a =>
    obtain ⟨l, hl, hc⟩ := hN a rfl
    rcases hc with ⟨_, _, hs, _⟩ | ⟨_, _, _, hs, _⟩ | ⟨_, hb, _, hs⟩
    · exact .inl hs
    · exact .inl hs
    · rcases hs with ⟨_, hs⟩ | ⟨_, hs⟩
      · exact .inl hs
      · exact .inr ⟨l, hl, hb, key l _ [] (by simp) hs⟩
  | error e =>
    rcases hE e rfl with hs | ⟨l, hl, hb, _, pre, rest, hio, hs⟩
    · exact .inl hs
    · exact .inr ⟨l, hl, hb, key l pre rest hio hs⟩

/-- **umount_leaf_order**: without the pretend switch, the unmount calls of `unmountLayer`
    are issued exactly in the order `l.mounts.reverse` (an error exit stops somewhere in it),
    and — the list having been filled by `getMountAndSubmounts` from a table in which nothing
    listed is covered (`NoCovered`; otherwise the list follows the mount tree) — no target issued
    later lies beneath (properly extends) a target issued earlier. -/
theorem umount_leaf_order (cfg : Config) (d : Defs) (name : Bytes) (w : World) (s : List Op)
    (hp : w.pretend = false) (h : Emitted (unmountLayer cfg d name) w s)
    (l : Layer) (hl : findLayer d name = some l) (m : Mounts) (path : Bytes)
    (hm : l.mounts = getMountAndSubmounts m path) (hnc : NoCovered m path) :
    (∃ pre rest, issueOrder l = pre ++ rest ∧ UmountsOf pre s ∧
      (∀ d', ((unmountLayer cfg d name).run.run w).1 = .ok (.ok, d') → rest = [])) ∧
    (issueOrder l).Pairwise (fun earlier later => ¬ ProperExt earlier later) := by
  refine ⟨?_, issueOrder_children_first l m path hm hnc⟩
  obtain ⟨s0, he, _, hN, hE⟩ := unmountLayer_run cfg d name w
  have := h.unique he
  subst this
  rw [hp] at hN hE
  generalize hr : ((unmountLayer cfg d name).run.run w).1 = r at hN hE
  cases r with
  | ok a =>
    obtain ⟨l', hl', hc⟩ := hN a rfl
    rw [hl] at hl'; cases hl'
    rcases hc with ⟨hst, _, hs, _⟩ | ⟨hst, _, _, hs, _⟩ | ⟨_, _, _, hs⟩
    · refine ⟨[], _, rfl, by rw [hs]; exact UmountsOf.nil, ?_⟩
      intro d' hd; cases hd; cases hst
    · refine ⟨[], _, rfl, by rw [hs]; exact UmountsOf.nil, ?_⟩
      intro d' hd; cases hd; cases hst
    · rcases hs with ⟨hpt, _⟩ | ⟨_, hs⟩
      · cases hpt
      · exact ⟨_, [], by simp, hs, fun _ _ => rfl⟩
  | error e =>
    rcases hE e rfl with hs | ⟨l', hl', _, _, pre, rest, hio, hs⟩
    · exact ⟨[], _, rfl, by rw [hs]; exact UmountsOf.nil, fun _ hd => by cases hd⟩
    · rw [hl] at hl'; cases hl'
      exact ⟨pre, rest, hio, hs, fun _ hd => by cases hd⟩

/-! ### argument errors -/

/-- **umount_noargs_fails**: neither a layer nor `-all`: an error, and the world (file system,
    mount table, trace, fault counter) is exactly as before -/
theorem umount_noargs_fails (cfg : Config) (d : Defs) (w : World) :
    (unmountCmd cfg d [] false).run.run w = (.error (.err "needarg"), w) := rfl

/-- **umount_both_fails**: a layer name together with `-all`: an error, world unchanged -/
theorem umount_both_fails (cfg : Config) (d : Defs) (name : Bytes) (hn : name ≠ []) (w : World) :
    (unmountCmd cfg d name true).run.run w = (.error (.err "both"), w) := by
  cases name with
  | nil => exact absurd rfl hn
  | cons c cs => rfl

/-! ### busy layers -/

/-- **umount_all_skips_busy (one layer)**: a busy layer is reported and left alone — status
    `busy`, same `Defs`, same world -/
theorem unmountLayer_busy_noop (cfg : Config) (d : Defs) (name : Bytes) (l : Layer) (w : World)
    (hl : findLayer d name = some l) (hb : isBusy l false = true) :
    (unmountLayer cfg d name).run.run w = (.ok (.busy, d), w) := by
  unfold unmountLayer getL
  rw [hl]
  simp [hb]
  rfl

/-- the status is `busy` exactly for a busy layer; otherwise `notMounted` / `ok` by the list -/
theorem unmountLayer_status (cfg : Config) (d : Defs) (name : Bytes) (w : World) (st : UStatus) (d' : Defs)
    (h : ((unmountLayer cfg d name).run.run w).1 = .ok (st, d')) :
    ∃ l, findLayer d name = some l ∧ (st = .busy ↔ isBusy l false = true) ∧
      (st = .notMounted ↔ (isBusy l false = false ∧ l.mounts.length = 0)) := by
  obtain ⟨s, _, _, hN, _⟩ := unmountLayer_run cfg d name w
  obtain ⟨l, hl, hc⟩ := hN (st, d') h
  refine ⟨l, hl, ?_⟩
  rcases hc with ⟨hst, hb, _⟩ | ⟨hst, hb, hm, _⟩ | ⟨hst, hb, hm, _⟩
  · simp only at hst; subst hst; simp [hb]
  · simp only at hst; subst hst; simp [hb, hm]
  · simp only at hst; subst hst; simp [hb, hm]

/-! ### `umount -all` -/

/-- generic: the segment of an element precedes the segments of everything after it -/
theorem FoldOk.split {σ ι : Type} {Seg : σ → ι → List Op → σ → Prop} :
    ∀ (a : List ι) (c : ι) (b : List ι) (acc acc' : σ) (s : List Op),
    FoldOk Seg acc (a ++ c :: b) s acc' →
    ∃ sa sc sb acc1 acc2, s = sa ++ sc ++ sb ∧ FoldOk Seg acc a sa acc1 ∧ Seg acc1 c sc acc2 ∧
      FoldOk Seg acc2 b sb acc' := by
  intro a
  induction a with
  | nil =>
    intro c b acc acc' s h
    cases h with
    | cons hseg hrest => exact ⟨[], _, _, acc, _, by simp, FoldOk.nil acc, hseg, hrest⟩
  | cons x a ih =>
    intro c b acc acc' s h
    cases h with
    | cons hseg hrest =>
      obtain ⟨sa, sc, sb, acc1, acc2, hs, h1, h2, h3⟩ := ih c b _ acc' _ hrest
      exact ⟨_ ++ sa, sc, sb, acc1, acc2, by rw [hs]; simp [List.append_assoc], FoldOk.cons hseg h1, h2, h3⟩

/-- in `d.order` every layer's base occurs before the layer (what `normalizeOrder`
    guarantees: `ancestor_precedes`, Props/C02) -/
def ParentsFirst (d : Defs) : Prop :=
  ∀ l1 c l2, d.order = l1 ++ c :: l2 → ∀ lc, findLayer d c = some lc → lc.base.length > 0 → lc.base ∈ l1

/-- **umount_all_children_first**: `umount -all` goes through `d.order.reverse`, one segment
    per layer in this order (`unmountCmd_all_run`); under `ParentsFirst` the base of every
    derived layer comes later in that order, so by `FoldOk.split` all unmounts of a derived
    layer precede those of the layers it sits on. -/
theorem umount_all_children_first (cfg : Config) (d : Defs) (w : World) (hpf : ParentsFirst d) :
    (∃ s, Emitted (unmountCmd cfg d [] true) w s ∧
      (∀ d', ((unmountCmd cfg d [] true).run.run w).1 = .ok d' →
        FoldOk (AllSeg w.pretend) (d, false) d.order.reverse s (d', false)) ∧
      (∀ e, ((unmountCmd cfg d [] true).run.run w).1 = .error e →
        (e = .err "busylayers" ∧ ∃ d', FoldOk (AllSeg w.pretend) (d, false) d.order.reverse s (d', true)) ∨
        FoldErr (AllSeg w.pretend) (AllSegE w.pretend) (d, false) d.order.reverse s)) ∧
    (∀ a c b, d.order.reverse = a ++ c :: b → ∀ lc, findLayer d c = some lc → lc.base.length > 0 →
      lc.base ∈ b) := by
  refine ⟨unmountCmd_all_run cfg d w, ?_⟩
  intro a c b hrev lc hlc hb
  have : d.order = b.reverse ++ c :: a.reverse := by
    have := congrArg List.reverse hrev
    simpa using this
  have := hpf _ _ _ this lc hlc hb
  exact List.mem_reverse.mp this

/-- the busy flag, once up, stays up -/
theorem flag_mono {p : Bool} : ∀ (xs : List Bytes) (d0 d' : Defs) (b' : Bool) (s : List Op),
    FoldOk (AllSeg p) (d0, true) xs s (d', b') → b' = true := by
  intro xs
  induction xs with
  | nil => intro d0 d' b' s h; cases h; rfl
  | cons x xs ih =>
    intro d0 d' b' s h
    cases h with
    | cons hseg hrest =>
      rename_i acc1 _ _
      obtain ⟨st, _, hflag⟩ := hseg
      obtain ⟨d1, b1⟩ := acc1
      simp only [Bool.true_or] at hflag
      subst hflag
      exact ih d1 d' b' _ hrest

/-- **umount_all_skips_busy (success)**: if the loop ends with the flag down, no layer was busy
    at its turn: every step had an idle layer (status `notMounted` or `ok`) -/
theorem all_success_all_idle {p : Bool} : ∀ (xs : List Bytes) (d0 d' : Defs) (s : List Op),
    FoldOk (AllSeg p) (d0, false) xs s (d', false) →
    FoldOk (fun acc n seg acc' => AllSeg p acc n seg acc' ∧
      ∃ l, findLayer acc.1 n = some l ∧ isBusy l false = false) (d0, false) xs s (d', false) := by
  intro xs
  induction xs with
  | nil => intro d0 d' s h; cases h; exact FoldOk.nil _
  | cons x xs ih =>
    intro d0 d' s h
    cases h with
    | cons hseg hrest =>
      rename_i acc1 _ _
      obtain ⟨d1, b1⟩ := acc1
      have hseg' := hseg
      obtain ⟨st, ⟨l, hl, hc⟩, hflag⟩ := hseg
      simp only [Bool.false_or] at hflag
      cases b1 with
      | true => have := flag_mono xs d1 d' false _ hrest; cases this
      | false =>
        refine FoldOk.cons ⟨hseg', l, hl, ?_⟩ (ih d1 d' _ hrest)
        rcases hc with ⟨hst, _⟩ | ⟨_, hb, _⟩ | ⟨_, hb, _⟩
        · subst hst; exact absurd hflag (by decide)
        · exact hb
        · exact hb

/-- **umount_all_skips_busy (failure "busylayers")**: if the loop ends with the flag up some
    layer was busy at its turn — it was skipped (empty segment, `Defs` unchanged) and the loop
    went on with the remaining layers (the `FoldOk` covers the whole list) -/
theorem all_busy_some_busy {p : Bool} : ∀ (xs : List Bytes) (d0 d' : Defs) (s : List Op),
    FoldOk (AllSeg p) (d0, false) xs s (d', true) →
    ∃ n ∈ xs, ∃ dn l, findLayer dn n = some l ∧ isBusy l false = true := by
  intro xs
  induction xs with
  | nil => intro d0 d' s h; cases h
  | cons x xs ih =>
    intro d0 d' s h
    cases h with
    | cons hseg hrest =>
      rename_i acc1 _ _
      obtain ⟨d1, b1⟩ := acc1
      obtain ⟨st, ⟨l, hl, hc⟩, hflag⟩ := hseg
      simp only [Bool.false_or] at hflag
      cases b1 with
      | true =>
        rcases hc with ⟨_, hb, _⟩ | ⟨hst, _⟩ | ⟨hst, _⟩
        · exact ⟨x, List.mem_cons_self, d0, l, hl, hb⟩
        · subst hst; exact absurd hflag (by decide)
        · subst hst; exact absurd hflag (by decide)
      | false =>
        obtain ⟨n, hn, dn, l', hl', hb'⟩ := ih d1 d' _ hrest
        exact ⟨n, List.mem_cons_of_mem _ hn, dn, l', hl', hb'⟩

/-- **umount_all_skips_busy (result)**: `umount -all` fails with "busylayers" exactly when the
    loop went through all layers and at least one was busy; it succeeds exactly when the loop
    went through all layers and none was busy; any other failure is that of an unmount call. -/
theorem umount_all_skips_busy (cfg : Config) (d : Defs) (w : World) :
    ∃ s, Emitted (unmountCmd cfg d [] true) w s ∧
      (∀ d', ((unmountCmd cfg d [] true).run.run w).1 = .ok d' →
        FoldOk (fun acc n seg acc' => AllSeg w.pretend acc n seg acc' ∧
          ∃ l, findLayer acc.1 n = some l ∧ isBusy l false = false) (d, false) d.order.reverse s (d', false)) ∧
      (((unmountCmd cfg d [] true).run.run w).1 = .error (.err "busylayers") →
        (∃ d', FoldOk (AllSeg w.pretend) (d, false) d.order.reverse s (d', true)) ∧
        (∃ n ∈ d.order.reverse, ∃ dn l, findLayer dn n = some l ∧ isBusy l false = true) ∨
        FoldErr (AllSeg w.pretend) (AllSegE w.pretend) (d, false) d.order.reverse s) := by
  obtain ⟨s, he, hN, hE⟩ := unmountCmd_all_run cfg d w
  refine ⟨s, he, ?_, ?_⟩
  · intro d' hd
    exact all_success_all_idle _ d d' s (hN d' hd)
  · intro herr
    rcases hE _ herr with ⟨_, d', hf⟩ | hf
    · exact .inl ⟨⟨d', hf⟩, all_busy_some_busy _ d d' s hf⟩
    · exact .inr hf

/-! ### non-vacuity -/

namespace Example
def cfg0 : Config := { basepath := b!"/b", layerdirs := b!"/b/L", buildRoot := b!"build", binPkg := b!"pk", generated := b!"gen", workdir := b!"work", upperdir := b!"upper", exportdirs := b!"/b/E", exportBinPkg := b!"p", exportGenerated := b!"g" }
/-- cached table: overlay on the build path, a mount beneath it, and a foreign mount whose
    path merely starts with the same bytes (`/b/L/xy`) -/
def m1 : Mounts := { list := [⟨b!"devtmpfs", b!"/b/L/x/build/dev", [], [], b!"devtmpfs", [], false, b!"0:5", [47], [], []⟩, ⟨b!"overlay", b!"/b/L/x/build", [], [], b!"overlay", [], false, b!"0:9", [47], [], []⟩, ⟨b!"x", b!"/b/L/xy", [], [], b!"tmpfs", [], false, b!"0:7", [47], [], []⟩] }
def lm : Layer := { name := b!"x", layerPath := b!"/b/L/x", state := S_mounted, mounts := getMountAndSubmounts m1 b!"/b/L/x/build" }
def d1 : Defs := { layers := [lm], order := [b!"x"] }
def w1 : World := { faultAt := some 2 }

example : lm.mounts = getMountAndSubmounts m1 (buildPath cfg0 lm) := by rfl
/-- deepest first, the foreign mount is not touched -/
example : issueOrder lm = [b!"/b/L/x/build/dev", b!"/b/L/x/build"] := by rfl
/-- a real run of the model issues the first of them (and is then stopped by the kernel
    model, nothing being mounted in `w1`) -/
example : Emitted (unmountLayer cfg0 d1 b!"x") w1 [.umount b!"/b/L/x/build/dev" 0] := by
  unfold Emitted; rfl
example : findLayer d1 b!"x" = some lm ∧ isBusy lm false = false := ⟨rfl, rfl⟩
example : ParentsFirst d1 := by
  intro l1 c l2 h lc hlc hb
  have hc : c = b!"x" := by
    cases l1 with
    | nil => simp [d1] at h; exact h.1.symm
    | cons y ys => cases ys <;> simp [d1] at h
  subst hc
  have : lc = lm := by
    have h2 : findLayer d1 b!"x" = some lm := rfl
    rw [h2] at hlc; cases hlc; rfl
  subst this
  exact absurd hb (by decide)
end Example

/-! ### the END STATE in the kernel model

  `Plain w`: no pretend switch, no injected fault or crash.  `atOrBelow bp q`: `q` is `bp` or
  starts with `bp ++ "/"` — the region test of `getMountAndSubmounts`.  `kumountSeq t ts`: the
  kernel model's `kumount` applied to the targets `ts` in order, stopping at the first refusal:
  (targets done, table reached, error).  The kernel model resolves a path through the mount
  tree (`Kernel.resolve`): a mount below a mount stacked later on one of its ancestors is hidden
  and cannot be unmounted by path (EINVAL).  `KWF` (`KernelUmount.KWF` = `KernelResolve.Tree`; C01's
  `KWF` is `KernelProbe.KWF`, which says that every entry can be printed): ids unique, nobody
  its own parent, parents listed before children, an entry at/below its parent's mountpoint — an
  invariant of the kernel model (`KTWF_empty`, `kmount_KTWF`, `kumount_KTWF` in
  Lemmas/KernelUmount).  `NoHidden`: moreover the mountpoints of two entries below the same
  parent are never nested, i.e. nothing is covered; kept by `kumount` (`kumount_noHidden`) and by
  every mount on a target below which nothing is mounted (`addMount_noHidden`, `kmount_noHidden`);
  on such tables the lookup is the flat reading of the table (`resolve_eq_findContaining`,
  `mountedAt_eq_topmostAt`). -/

/-- **ViewAgrees**: the layer's `mounts` list was filled by `getMountAndSubmounts` from a
    cached table `view` that shows, at or below the build root `bp`, the same mounts in the same
    order as the kernel table `t` — mount id, parent id (as the kernel prints them) and
    mountpoint; stacked mounts as often as they occur.  This is what `getLayers` establishes:
    `probeAll` sets `l.mounts := getMountAndSubmounts d.mounts (buildPath l)` with `d.mounts =
    Kernel.probe w.kt`, and `probe_render` (Props/C12) says the probe returns one entry per
    kernel mount, in table order, with its ids and mountpoint (`viewAgrees_of_probe`). -/
def ViewAgrees (l : Layer) (bp : Bytes) (t : KTable) : Prop :=
  ∃ view : Mounts, l.mounts = getMountAndSubmounts view bp ∧
    (view.list.filter (fun x => atOrBelow bp x.mountpoint)).map (fun x => (x.id, x.parent, x.mountpoint)) =
      (t.mnts.filter (fun m => atOrBelow bp m.mp)).map (fun m => (natBytes m.id, natBytes m.parent, m.mp))

theorem ViewAgrees.mountpoints {l : Layer} {bp : Bytes} {t : KTable} (h : ViewAgrees l bp t) :
    ∃ view : Mounts, l.mounts = getMountAndSubmounts view bp ∧
      (view.list.filter (fun x => atOrBelow bp x.mountpoint)).map (·.mountpoint) =
        (t.mnts.filter (fun m => atOrBelow bp m.mp)).map (·.mp) := by
  obtain ⟨view, hm, hv⟩ := h
  refine ⟨view, hm, ?_⟩
  have := congrArg (List.map (fun (x : Bytes × Bytes × Bytes) => x.2.2)) hv
  simpa [List.map_map, Function.comp_def] using this

/-- under `ViewAgrees` the issue order is a permutation of the kernel's mountpoints of the region -/
theorem ViewAgrees.perm {l : Layer} {bp : Bytes} {t : KTable} (h : ViewAgrees l bp t) :
    (issueOrder l).Perm ((t.mnts.filter (fun m => atOrBelow bp m.mp)).map (·.mp)) := by
  obtain ⟨view, hm, hv⟩ := h.mountpoints
  rw [← hv]
  unfold issueOrder
  rw [hm]
  exact ((List.reverse_perm _).trans (getMountAndSubmounts_complete view bp)).map _

/-- no listed mount of the layer covers a listed sibling -/
def NoCoveredL (l : Layer) : Prop := ∀ a ∈ l.mounts, ∀ b ∈ l.mounts, covers a b = false

theorem NoCoveredL.of_view {l : Layer} {view : Mounts} {bp : Bytes} (hm : l.mounts = getMountAndSubmounts view bp)
    (h : NoCoveredL l) : NoCovered view bp := by
  intro a ha b hb
  have hmem : ∀ x ∈ TreeOrder.regionOf view bp, x ∈ l.mounts := by
    intro x hx
    rw [hm]
    exact (TreeOrder.getMountAndSubmounts_perm_region view bp).mem_iff.mpr hx
  exact h a (hmem a ha) b (hmem b hb)

/-- … and leaf-first, when nothing listed is covered: no target properly extends an earlier one
    (`issueOrder_children_first`, stated with `ProperExt`, which unfolds to the same
    proposition as `KernelUmount.Ext`, the byte-string relation `kumountSeq_succeeds` asks for) -/
theorem ViewAgrees.leafFirst {l : Layer} {bp : Bytes} {t : KTable} (h : ViewAgrees l bp t)
    (hnc : NoCoveredL l) : (issueOrder l).Pairwise (fun earlier later => ¬ Ext earlier later) := by
  obtain ⟨view, hm, _⟩ := h
  exact issueOrder_children_first l view bp hm (hnc.of_view hm)

/-- **a kernel table without hidden mounts shows no covered mount**: under `ViewAgrees`,
    `NoHidden` of the kernel table (siblings never nested) gives `NoCoveredL` of the layer's
    list — mount ids are printed injectively (`natBytes_injective`) -/
theorem noCoveredL_of_noHidden {l : Layer} {bp : Bytes} {t : KTable} (h : ViewAgrees l bp t)
    (hnh : NoHidden t.mnts) : NoCoveredL l := by
  obtain ⟨view, hm, hv⟩ := h
  have himg : ∀ x ∈ l.mounts, ∃ k ∈ t.mnts, TreeGlue.Rep x k := by
    intro x hx
    rw [hm] at hx
    obtain ⟨k, hk, hr⟩ := (TreeGlue.all2_of_map_eq _ _ hv).mem_left x
      ((TreeOrder.getMountAndSubmounts_perm_region view bp).mem_iff.mp hx)
    exact ⟨k, (List.mem_filter.mp hk).1, hr⟩
  intro a ha b hb
  cases hc : covers a b with
  | false => rfl
  | true =>
    exfalso
    obtain ⟨ka, hka, ia, pa, ma⟩ := himg a ha
    obtain ⟨kb, hkb, ib, pb, mb⟩ := himg b hb
    obtain ⟨_, hid, _, hpar, r, hr⟩ := TreeOrder.covers_iff.mp hc
    have hne : ka ≠ kb := by
      intro e; apply hid; rw [ia, ib, e]
    have hsib : Siblings t.mnts ka kb := .inl (KernelProbe.natBytes_injective (by rw [← pa, ← pb, hpar]))
    have hu : pathUnder ka.mp kb.mp = true :=
      (pathUnder_iff_append _ _).mpr ⟨47 :: r, by rw [← ma, ← mb, hr], .inr (.inr rfl)⟩
    rw [hnh.sib ka hka kb hkb hne hsib] at hu
    cases hu

theorem entries_keys (ts : List Spec.KMount) :
    (C12.entries ts).map (fun x => (x.id, x.parent, x.mountpoint)) = ts.map (fun m => (m.id, m.parent, m.mp)) := by
  have h : ∀ (sh : Bool) (m : Spec.KMount), (C12.entryWith sh m).mountpoint = m.mp ∧
      (C12.entryWith sh m).id = m.id ∧ (C12.entryWith sh m).parent = m.parent := by
    intro sh m
    unfold C12.entryWith Spec.expectedOf
    split <;> exact ⟨rfl, rfl, rfl⟩
  unfold C12.entries
  apply List.ext_getElem?
  intro i
  simp only [List.getElem?_map, List.getElem?_mapIdx, C12.entryOf]
  cases ts[i]? with
  | none => rfl
  | some m => simp [h]

theorem entries_mountpoints (ts : List Spec.KMount) :
    (C12.entries ts).map (·.mountpoint) = ts.map (·.mp) := by
  have := congrArg (List.map (fun (x : Bytes × Bytes × Bytes) => x.2.2)) (entries_keys ts)
  simpa [List.map_map, Function.comp_def] using this

/-- **what `getLayers` establishes**: if the probe of the kernel table (the mountinfo text the
    kernel model renders, read by the model of `ProbeMounts`) returns `view` and the layer's
    list was filled from it, the view agrees with the table — ids, parent ids, mountpoints.  By
    `probe_render` (Props/C12); `hwf` is its well-formedness condition on the rendered lines
    (token fields free of blanks, no carriage return at a line end). -/
theorem viewAgrees_of_probe (t : KTable) (view : Mounts) (l : Layer) (bp : Bytes)
    (hwf : ∀ m ∈ t.mnts, (toSpec m).WF) (hp : Kernel.probe t = .ok view)
    (hm : l.mounts = getMountAndSubmounts view bp) : ViewAgrees l bp t := by
  refine ⟨view, hm, ?_⟩
  unfold Kernel.probe Kernel.render at hp
  rw [C12.probe_render (t.mnts.map toSpec) (by
    intro m hm
    obtain ⟨x, hx, rfl⟩ := List.mem_map.mp hm
    exact hwf x hx)] at hp
  injection hp with hp
  subst hp
  simp only
  have h1 : ∀ (xs : List MountType),
      (xs.filter (fun x => atOrBelow bp x.mountpoint)).map (fun x => (x.id, x.parent, x.mountpoint)) =
      (xs.map (fun x => (x.id, x.parent, x.mountpoint))).filter (fun k => atOrBelow bp k.2.2) := by
    intro xs; rw [List.filter_map]; rfl
  have h2 : (t.mnts.filter (fun m => atOrBelow bp m.mp)).map (fun m => (natBytes m.id, natBytes m.parent, m.mp)) =
      (t.mnts.map (fun m => (natBytes m.id, natBytes m.parent, m.mp))).filter (fun k => atOrBelow bp k.2.2) := by
    rw [List.filter_map]; rfl
  rw [h1, h2, entries_keys, List.map_map]
  rfl

/-- `ViewAgrees` with the ids written as digit strings (`natBytes` goes through `toString`,
    which `decide` cannot evaluate; `KernelProbe.natBytes_eq`) -/
theorem viewAgrees_intro {l : Layer} {bp : Bytes} {t : KTable} (view : Mounts)
    (hm : l.mounts = getMountAndSubmounts view bp)
    (hv : (view.list.filter (fun x => atOrBelow bp x.mountpoint)).map (fun x => (x.id, x.parent, x.mountpoint)) =
      (t.mnts.filter (fun m => atOrBelow bp m.mp)).map
        (fun m => (KernelProbe.digitBytes m.id, KernelProbe.digitBytes m.parent, m.mp))) :
    ViewAgrees l bp t := by
  refine ⟨view, hm, ?_⟩
  rw [hv]
  apply List.map_congr_left
  intro m _
  rw [KernelProbe.natBytes_eq, KernelProbe.natBytes_eq]

/-- **umount_clears_buildroot**: in a plain world whose kernel table has unique
    mount ids and agrees with the layer's cached view on the region at/below the build root,
    if `unmountLayer` returns normally with status `ok` ("unmounted") then the kernel table
    afterwards is the initial one WITHOUT the entries at or below the build root: no mount is
    left there, and every other mount is still there, unchanged and in the same order; the
    file system is untouched.  (Stacked mounts count as often as they occur.) -/
theorem umount_clears_buildroot (cfg : Config) (d : Defs) (name : Bytes) (w : World) (l : Layer) (d' : Defs)
    (hl : findLayer d name = some l) (hw : Plain w)
    (hids : (w.kt.mnts.map (·.id)).Nodup)
    (hview : ViewAgrees l (buildPath cfg l) w.kt)
    (hok : ((unmountLayer cfg d name).run.run w).1 = .ok (.ok, d')) :
    ((unmountLayer cfg d name).run.run w).2.kt.mnts =
        w.kt.mnts.filter (fun m => !atOrBelow (buildPath cfg l) m.mp) ∧
    (∀ m ∈ ((unmountLayer cfg d name).run.run w).2.kt.mnts, atOrBelow (buildPath cfg l) m.mp = false) ∧
    ((unmountLayer cfg d name).run.run w).2.fs = w.fs := by
  have hidle : isBusy l false = false ∧ l.mounts.length ≠ 0 := by
    rcases unmountLayer_run_cases cfg d name w l hl with ⟨_, h⟩ | ⟨_, _, h⟩ | ⟨h1, h2, _⟩
    · rw [h] at hok; cases hok
    · rw [h] at hok; cases hok
    · exact ⟨h1, h2⟩
  obtain ⟨hkt, hfs, _, hst, _⟩ := unmountLayer_plain cfg d name w l hl hw hidle.1 hidle.2
  have hnone := (hst .ok d' hok).2
  have hcl := kumountSeq_cleared w.kt (issueOrder l) (atOrBelow (buildPath cfg l)) hids hview.perm hnone
  have heq : ((unmountLayer cfg d name).run.run w).2.kt.mnts =
      w.kt.mnts.filter (fun m => !atOrBelow (buildPath cfg l) m.mp) := by rw [hkt, hcl]
  refine ⟨heq, ?_, hfs⟩
  intro m hm
  rw [heq] at hm
  simpa using (List.mem_filter.mp hm).2

/-- the same for the command `umount <name>`: a normal return means status `ok` -/
theorem umountCmd_clears_buildroot (cfg : Config) (d : Defs) (name : Bytes) (w : World) (l : Layer) (d' : Defs)
    (hn : name ≠ []) (hl : findLayer d name = some l) (hw : Plain w)
    (hids : (w.kt.mnts.map (·.id)).Nodup)
    (hview : ViewAgrees l (buildPath cfg l) w.kt)
    (hok : ((unmountCmd cfg d name false).run.run w).1 = .ok d') :
    ((unmountCmd cfg d name false).run.run w).2.kt.mnts =
        w.kt.mnts.filter (fun m => !atOrBelow (buildPath cfg l) m.mp) ∧
    (∀ m ∈ ((unmountCmd cfg d name false).run.run w).2.kt.mnts, atOrBelow (buildPath cfg l) m.mp = false) ∧
    ((unmountCmd cfg d name false).run.run w).2.fs = w.fs := by
  rcases unmountCmd_one cfg d name w hn with ⟨_, e, he⟩ | ⟨hw2, hN, _, _⟩
  · rw [he] at hok; cases hok
  · rw [hw2]
    exact umount_clears_buildroot cfg d name w l d' hl hw hids hview (hN d' hok)

/-- when the kernel refuses none of the calls of the issue order, every exit of `unmountLayer`
    leaves the initial table without the region, and a normal return of a layer that had mounts
    has status `ok` -/
theorem unmountLayer_none_refused (cfg : Config) (d : Defs) (name : Bytes) (w : World) (l : Layer)
    (hl : findLayer d name = some l) (hw : Plain w) (hids : (w.kt.mnts.map (·.id)).Nodup)
    (hview : ViewAgrees l (buildPath cfg l) w.kt) (hb : isBusy l false = false)
    (hnone : (kumountSeq w.kt (issueOrder l)).2.2 = none) :
    ((unmountLayer cfg d name).run.run w).2.kt.mnts =
        w.kt.mnts.filter (fun m => !atOrBelow (buildPath cfg l) m.mp) ∧
    (l.mounts.length ≠ 0 → ∀ st d', ((unmountLayer cfg d name).run.run w).1 = .ok (st, d') → st = .ok) := by
  have hcl := kumountSeq_cleared w.kt (issueOrder l) (atOrBelow (buildPath cfg l)) hids hview.perm hnone
  refine ⟨?_, fun hm st d' hr => ((unmountLayer_plain cfg d name w l hl hw hb hm).2.2.2.1 st d' hr).1⟩
  by_cases hm : l.mounts.length = 0
  · -- nothing listed: nothing mounted in the region, nothing done
    rcases unmountLayer_run_cases cfg d name w l hl with ⟨h1, _⟩ | ⟨_, _, h⟩ | ⟨_, h2, _⟩
    · rw [hb] at h1; cases h1
    · have hnil : issueOrder l = [] := by
        unfold issueOrder
        rw [List.length_eq_zero_iff.mp hm]; rfl
      rw [hnil] at hcl
      rw [h]
      exact hcl
    · exact absurd hm h2
  · rw [(unmountLayer_plain cfg d name w l hl hw hb hm).1, hcl]

/-- **umount_no_call_refused**: plain world,
    kernel table without hidden mounts (`NoHidden`; `umount_hidden_submount_fixed_witness` shows that
    the tree discipline alone does not suffice), view agreeing with the table on the region,
    build root not "/", idle layer.  Then the kernel refuses NONE of the unmount calls (no EBUSY because of
    `umount_leaf_order`: when a target's turn comes nothing is mounted beneath it any more; no
    EINVAL because every target is a current mountpoint), so on EVERY exit of `unmountLayer`
    the table is the initial one without the region; and when the layer had mounts a normal
    return has status `ok`.  (The only error exit left is a panic of the re-probe after the
    loop, which does not touch the world.) -/
theorem umount_no_call_refused (cfg : Config) (d : Defs) (name : Bytes) (w : World) (l : Layer)
    (hl : findLayer d name = some l) (hw : Plain w) (hwf : NoHidden w.kt.mnts)
    (hview : ViewAgrees l (buildPath cfg l) w.kt) (hbp : buildPath cfg l ≠ b!"/")
    (hb : isBusy l false = false) :
    (kumountSeq w.kt (issueOrder l)).2.2 = none ∧
    ((unmountLayer cfg d name).run.run w).2.kt.mnts =
        w.kt.mnts.filter (fun m => !atOrBelow (buildPath cfg l) m.mp) ∧
    (l.mounts.length ≠ 0 → ∀ st d', ((unmountLayer cfg d name).run.run w).1 = .ok (st, d') → st = .ok) := by
  have hnone := kumountSeq_succeeds (buildPath cfg l) hbp (issueOrder l) w.kt hwf hview.perm
    (hview.leafFirst (noCoveredL_of_noHidden hview hwf))
  exact ⟨hnone, unmountLayer_none_refused cfg d name w l hl hw hwf.ids hview hb hnone⟩

/-- **umount_failure_keeps_prefix**: plain world, unique mount ids, idle layer with
    a non-empty `mounts` list whose entries lie at/below the build root (true of every list
    `getMountAndSubmounts` returns: `getMountAndSubmounts_inside`) — NO agreement between view
    and kernel table is assumed.  If the kernel refuses one of the calls (say a mount the view
    did not know about keeps a target busy, or a listed mount is already gone), then
    * the command reports failure, with the kernel's errno — it does not report success;
    * the calls before it (`done`) succeeded, the refused target is the next of the issue order;
    * the table reached is a sublist of the initial one (nothing changed, added or reordered),
      its mountpoints together with `done` are exactly the initial mountpoints — the initial
      table minus one (the topmost) entry per successfully unmounted target —, and every mount
      outside the build root is still there;
    * the refusal is EINVAL with no lookup ending on a mount at the target (nothing mounted there
      or, `mountedAt_none_noHidden` excluding it only for tables without hidden mounts, what is
      mounted there is hidden), or EBUSY with a mount whose parent is the mount found at the
      target;  the file system is untouched. -/
theorem umount_failure_keeps_prefix (cfg : Config) (d : Defs) (name : Bytes) (w : World) (l : Layer)
    (hl : findLayer d name = some l) (hw : Plain w) (hids : (w.kt.mnts.map (·.id)).Nodup)
    (hb : isBusy l false = false) (hm : l.mounts.length ≠ 0)
    (hin : ∀ x ∈ l.mounts, atOrBelow (buildPath cfg l) x.mountpoint = true)
    (e : KErr) (hfail : (kumountSeq w.kt (issueOrder l)).2.2 = some e) :
    ((unmountLayer cfg d name).run.run w).1 = .error (.err ("sys:" ++ e.str)) ∧
    (∃ p rest, issueOrder l = (kumountSeq w.kt (issueOrder l)).1 ++ p :: rest ∧
      kumount ((unmountLayer cfg d name).run.run w).2.kt p = .error e ∧
      ((e = .einval ∧ mountedAt ((unmountLayer cfg d name).run.run w).2.kt.mnts p = none) ∨
       (e = .ebusy ∧ ∃ m, mountedAt ((unmountLayer cfg d name).run.run w).2.kt.mnts p = some m ∧
          ∃ c ∈ ((unmountLayer cfg d name).run.run w).2.kt.mnts, c.parent = m.id))) ∧
    ((unmountLayer cfg d name).run.run w).2.kt.mnts.Sublist w.kt.mnts ∧
    (w.kt.mnts.map (·.mp)).Perm ((kumountSeq w.kt (issueOrder l)).1 ++
      ((unmountLayer cfg d name).run.run w).2.kt.mnts.map (·.mp)) ∧
    ((unmountLayer cfg d name).run.run w).2.kt.mnts.filter (fun m => !atOrBelow (buildPath cfg l) m.mp) =
      w.kt.mnts.filter (fun m => !atOrBelow (buildPath cfg l) m.mp) ∧
    ((unmountLayer cfg d name).run.run w).2.fs = w.fs := by
  obtain ⟨hkt, hfs, _, _, herr⟩ := unmountLayer_plain cfg d name w l hl hw hb hm
  obtain ⟨rest, hpre, _, hstop⟩ := kumountSeq_prefix w.kt (issueOrder l)
  obtain ⟨p, rest', hrest, hkp⟩ := hstop e hfail
  obtain ⟨hsub, hperm, _, _, hfil⟩ := kumountSeq_spec w.kt (issueOrder l) hids
  rw [hkt]
  refine ⟨herr e hfail, ⟨p, rest', by rw [← hrest]; exact hpre, hkp, kumount_error hkp⟩, hsub, hperm, ?_, hfs⟩
  apply hfil
  intro q hq
  have hq' : q ∈ issueOrder l := by rw [hpre]; exact List.mem_append_left _ hq
  unfold issueOrder at hq'
  obtain ⟨x, hx, rfl⟩ := List.mem_map.mp hq'
  exact hin x (List.mem_reverse.mp hx)

/-- the command `umount <name>` passes that failure on -/
theorem umountCmd_failure_reported (cfg : Config) (d : Defs) (name : Bytes) (w : World) (l : Layer)
    (hn : name ≠ []) (hl : findLayer d name = some l) (hw : Plain w) (hb : isBusy l false = false)
    (hm : l.mounts.length ≠ 0) (e : KErr) (hfail : (kumountSeq w.kt (issueOrder l)).2.2 = some e) :
    ∃ f, ((unmountCmd cfg d name false).run.run w).1 = .error f ∧
      (((unmountCmd cfg d name false).run.run w).2.kt = (kumountSeq w.kt (issueOrder l)).2.1 ∨
       ((unmountCmd cfg d name false).run.run w).2 = w) := by
  obtain ⟨hkt, _, _, _, herr⟩ := unmountLayer_plain cfg d name w l hl hw hb hm
  rcases unmountCmd_one cfg d name w hn with ⟨h1, f, hf⟩ | ⟨hw2, _, hE, _⟩
  · exact ⟨f, hf, .inr h1⟩
  · exact ⟨_, hE _ (herr e hfail), .inl (by rw [hw2, hkt])⟩

/-! ### non-vacuity of the end-state theorems -/

namespace Example2
/-- kernel table: the host's root and /home, a mount on a sibling of the layer whose path
    starts with the same bytes (`/b/L/xy`), and below the build root of layer `x`: /proc, /dev
    and TWO stacked mounts on /dev/shm (the second has the first as its parent) -/
def kt2 : KTable :=
  { mnts := [ { id := 1, parent := 0, dev := b!"8:1", root := b!"/", mp := b!"/", fstype := b!"ext4", source := b!"/dev/sda1" },
              { id := 25, parent := 1, dev := b!"8:2", root := b!"/", mp := b!"/home", fstype := b!"ext4", source := b!"/dev/sda2" },
              { id := 30, parent := 1, dev := b!"0:4", root := b!"/", mp := b!"/b/L/x/build/proc", fstype := b!"proc", source := b!"proc" },
              { id := 31, parent := 1, dev := b!"0:5", root := b!"/", mp := b!"/b/L/x/build/dev", fstype := b!"devtmpfs", source := b!"udev" },
              { id := 32, parent := 31, dev := b!"0:20", root := b!"/", mp := b!"/b/L/x/build/dev/shm", fstype := b!"tmpfs", source := b!"shm" },
              { id := 33, parent := 32, dev := b!"0:21", root := b!"/", mp := b!"/b/L/x/build/dev/shm", fstype := b!"tmpfs", source := b!"shm2" },
              { id := 34, parent := 1, dev := b!"0:22", root := b!"/", mp := b!"/b/L/xy", fstype := b!"tmpfs", source := b!"x" } ],
    nextId := 35 }
/-- what the probe makes of it (one entry per kernel mount, table order) -/
def view2 : Mounts :=
  { list := [ ⟨[], b!"/", [], [], b!"ext4", b!"rw", false, b!"8:1", [47], b!"1", b!"0"⟩,
              ⟨[], b!"/home", [], [], b!"ext4", b!"rw", false, b!"8:2", [47], b!"25", b!"1"⟩,
              ⟨[], b!"/b/L/x/build/proc", [], [], b!"proc", b!"rw", false, b!"0:4", [47], b!"30", b!"1"⟩,
              ⟨[], b!"/b/L/x/build/dev", [], [], b!"devtmpfs", b!"rw", false, b!"0:5", [47], b!"31", b!"1"⟩,
              ⟨[], b!"/b/L/x/build/dev/shm", [], [], b!"tmpfs", b!"rw", true, b!"0:20", [47], b!"32", b!"31"⟩,
              ⟨[], b!"/b/L/x/build/dev/shm", [], [], b!"tmpfs", b!"rw", true, b!"0:21", [47], b!"33", b!"32"⟩,
              ⟨[], b!"/b/L/xy", [], [], b!"tmpfs", b!"rw", false, b!"0:22", [47], b!"34", b!"1"⟩ ] }
def l2 : Layer := { name := b!"x", layerPath := b!"/b/L/x", state := S_mounted,
                    mounts := getMountAndSubmounts view2 b!"/b/L/x/build" }
def d2 : Defs := { layers := [l2], order := [b!"x"], mounts := view2 }
def w2 : World := { kt := kt2 }

end Example2

theorem Example2.viewAgrees2 :
    ViewAgrees Example2.l2 (buildPath Example.cfg0 Example2.l2) Example2.w2.kt :=
  viewAgrees_intro Example2.view2 (by rfl) (by decide +kernel)

theorem Example2.noHidden2 : NoHidden Example2.w2.kt.mnts := by decide +kernel

namespace Example2

-- the hypotheses of `umount_clears_buildroot` / `umount_no_call_refused` hold here
example : findLayer d2 b!"x" = some l2 ∧ isBusy l2 false = false ∧ l2.mounts.length = 4 := ⟨rfl, rfl, rfl⟩
example : Plain w2 := ⟨rfl, rfl, rfl⟩
example : buildPath Example.cfg0 l2 = b!"/b/L/x/build" := by decide
example : ViewAgrees l2 (buildPath Example.cfg0 l2) w2.kt := viewAgrees2
example : NoHidden w2.kt.mnts := noHidden2
/-- deepest first; the two stacked mounts are two calls on the same target -/
example : issueOrder l2 = [b!"/b/L/x/build/proc", b!"/b/L/x/build/dev/shm", b!"/b/L/x/build/dev/shm",
    b!"/b/L/x/build/dev"] := by rfl
/-- the kernel model evaluated on that order: every call succeeds, … -/
example : (kumountSeq w2.kt (issueOrder l2)).2.2 = none ∧ (kumountSeq w2.kt (issueOrder l2)).1 = issueOrder l2 := by
  decide +kernel
/-- … and the conclusion is not trivial: four of the seven mounts are gone, the host's mounts
    and the sibling `/b/L/xy` are left, in their order -/
example : (w2.kt.mnts.filter (fun m => !atOrBelow (buildPath Example.cfg0 l2) m.mp)).map (·.mp) =
    [b!"/", b!"/home", b!"/b/L/xy"] := by decide +kernel
/-- the theorem applied: on every exit of the model's `unmountLayer` (its re-probe goes through
    `toString`, which `decide` cannot evaluate) the table holds exactly these three -/
example : ((unmountLayer Example.cfg0 d2 b!"x").run.run w2).2.kt.mnts.map (·.mp) =
    [b!"/", b!"/home", b!"/b/L/xy"] := by
  rw [(umount_no_call_refused Example.cfg0 d2 b!"x" w2 l2 rfl ⟨rfl, rfl, rfl⟩ noHidden2 viewAgrees2
    (by decide) rfl).2.1]
  decide +kernel

/-- the administrator mounted something on `/b/L/x/build/dev/pts` after the probe: the
    view (still `view2`) does not know it -/
def pts : KMnt :=
  { id := 35, parent := 31, dev := b!"0:23", root := b!"/", mp := b!"/b/L/x/build/dev/pts", fstype := b!"devpts", source := b!"devpts" }
def kt3 : KTable := { kt2 with mnts := kt2.mnts ++ [pts], nextId := 36 }
def w3 : World := { kt := kt3 }
example : (w3.kt.mnts.map (·.id)).Nodup ∧ (∀ x ∈ l2.mounts, atOrBelow (buildPath Example.cfg0 l2) x.mountpoint = true) := by
  decide +kernel
/-- /proc and both /dev/shm go, then /dev is refused with EBUSY -/
example : kumountSeq w3.kt (issueOrder l2) =
    ([b!"/b/L/x/build/proc", b!"/b/L/x/build/dev/shm", b!"/b/L/x/build/dev/shm"],
     { kt3 with mnts := kt3.mnts.filter (fun m => m.id != 30 && m.id != 32 && m.id != 33) }, some .ebusy) := by
  decide +kernel
/-- the theorem applied: failure is reported, /dev and the unknown /dev/pts are still mounted,
    the host's mounts untouched -/
example : ((unmountLayer Example.cfg0 d2 b!"x").run.run w3).1 = .error (.err "sys:EBUSY") ∧
    ((unmountLayer Example.cfg0 d2 b!"x").run.run w3).2.kt.mnts.filter
        (fun m => !atOrBelow (buildPath Example.cfg0 l2) m.mp) =
      w3.kt.mnts.filter (fun m => !atOrBelow (buildPath Example.cfg0 l2) m.mp) := by
  have h := umount_failure_keeps_prefix Example.cfg0 d2 b!"x" w3 l2 rfl ⟨rfl, rfl, rfl⟩
    (by decide +kernel) rfl (by decide) (by decide +kernel) .ebusy (by decide +kernel)
  exact ⟨h.1, h.2.2.2.2.1⟩
end Example2

/-- **umount_keeps_noHidden**: on every exit of `unmountLayer` a kernel table in which no mount
    is hidden is still such a table (each successful `kumount` takes out a childless entry);
    with `sysMount_noHidden` (Lemmas/UmountState: a mount on a target below which nothing is
    mounted hides nothing, recursive binds included) the tables layercake produces by its own
    calls from a table without hidden mounts have none, provided the configured imports name
    a mountpoint before the mountpoints below it. -/
theorem umount_keeps_noHidden (cfg : Config) (d : Defs) (name : Bytes) (w : World)
    (h : NoHidden w.kt.mnts) : NoHidden ((unmountLayer cfg d name).run.run w).2.kt.mnts :=
  Lc.Hoare.extract _ _ (unmountLayer_noHidden cfg d name) w h

/-! ### a hidden submount: the order "deepest path first" does not work (finding
    `umount-order-hidden-submount`, reproduced with the real binary on the real kernel) -/

namespace Example3
def hostP : Bytes := b!"/b/L/x/build/mnt/host"
def subP : Bytes := b!"/b/L/x/build/mnt/host/sub"
/-- the import on `mnt/host`, a mount made by hand on `mnt/host/sub`, then a second one stacked
    on `mnt/host`: it covers the first and what hangs below it -/
def m41 : KMnt := { id := 41, parent := 40, dev := b!"8:1", root := b!"/a", mp := subP, fstype := b!"ext4", source := b!"/dev/sda1" }
def m42 : KMnt := { id := 42, parent := 40, dev := b!"8:1", root := b!"/b", mp := hostP, fstype := b!"ext4", source := b!"/dev/sda1" }
def kt4 : KTable :=
  { mnts := [ { id := 1, parent := 0, dev := b!"8:1", root := b!"/", mp := b!"/", fstype := b!"ext4", source := b!"/dev/sda1" },
              { id := 40, parent := 1, dev := b!"8:1", root := b!"/src", mp := hostP, fstype := b!"ext4", source := b!"/dev/sda1" },
              m41, m42 ],
    nextId := 43 }
def v41 : MountType := ⟨[], subP, [], [], b!"ext4", b!"rw", false, b!"8:1", b!"/a", b!"41", b!"40"⟩
def v42 : MountType := ⟨[], hostP, [], [], b!"ext4", b!"rw", false, b!"8:1", b!"/b", b!"42", b!"40"⟩
def view4 : Mounts :=
  { list := [ ⟨[], b!"/", [], [], b!"ext4", b!"rw", false, b!"8:1", [47], b!"1", b!"0"⟩,
              ⟨[], hostP, [], [], b!"ext4", b!"rw", false, b!"8:1", b!"/src", b!"40", b!"1"⟩,
              v41, v42 ] }
def l4 : Layer := { name := b!"x", layerPath := b!"/b/L/x", state := S_mounted,
                    mounts := getMountAndSubmounts view4 b!"/b/L/x/build" }
def d4 : Defs := { layers := [l4], order := [b!"x"], mounts := view4 }
def w4 : World := { kt := kt4 }
end Example3

/-- the kernel table after the three unmounts: the host's root only -/
def Example3.ktF : KTable := { Example3.kt4 with mnts := [Example3.kt4.mnts.headD Example3.m41] }

/-- **umount_hidden_submount_fixed_witness** (after fix e546b99; before it this table was the
    witness of finding `umount-order-hidden-submount`: `umount` failed with EINVAL on every
    retry).  The table obeys the tree discipline, has a hidden mount (`¬ NoHidden`: the second
    mount on `mnt/host` covers `mnt/host/sub`), agrees with the layer's view, the layer is idle.
    One listed mount covers a listed sibling, so `getMountAndSubmounts` lists along the mount
    tree: the issue order asks for the covering mount first (the path-sorted order would ask for
    the covered mountpoint first, which the kernel refuses), the kernel accepts every call, and
    the whole `unmountLayer` run — re-probe included — ends `.ok` with status "unmounted" and
    nothing left at or below the build root, the rest of the table untouched. -/
theorem umount_hidden_submount_fixed_witness :
    Plain Example3.w4 ∧ KWF Example3.w4.kt.mnts ∧ ¬ NoHidden Example3.w4.kt.mnts ∧
    ViewAgrees Example3.l4 (buildPath Example.cfg0 Example3.l4) Example3.w4.kt ∧
    findLayer Example3.d4 b!"x" = some Example3.l4 ∧ isBusy Example3.l4 false = false ∧
    ¬ NoCoveredL Example3.l4 ∧
    issueOrder Example3.l4 = [Example3.hostP, Example3.subP, Example3.hostP] ∧
    ((pathSorted Example3.view4 b!"/b/L/x/build").reverse.map (·.mountpoint) =
        [Example3.subP, Example3.hostP, Example3.hostP] ∧
      (kumountSeq Example3.w4.kt [Example3.subP, Example3.hostP, Example3.hostP]).2.2 = some .einval) ∧
    (∃ d', ((unmountLayer Example.cfg0 Example3.d4 b!"x").run.run Example3.w4).1 = .ok (.ok, d')) ∧
    ((unmountLayer Example.cfg0 Example3.d4 b!"x").run.run Example3.w4).2.kt.mnts =
      Example3.w4.kt.mnts.filter (fun m => !atOrBelow (buildPath Example.cfg0 Example3.l4) m.mp) ∧
    ((unmountLayer Example.cfg0 Example3.d4 b!"x").run.run Example3.w4).2.kt.mnts.map (·.mp) = [b!"/"] := by
  have hplain : Plain Example3.w4 := ⟨rfl, rfl, rfl⟩
  have hseq : kumountSeq Example3.w4.kt (issueOrder Example3.l4) =
      (issueOrder Example3.l4, Example3.ktF, none) := by decide +kernel
  have hcov : ¬ NoCoveredL Example3.l4 := by
    intro h
    have hl4 : Example3.l4.mounts = [Example3.view4.list.getD 1 Example3.v41, Example3.v41, Example3.v42] := by rfl
    have := h Example3.v42 (by rw [hl4]; simp) Example3.v41 (by rw [hl4]; simp)
    exact absurd this (by decide +kernel)
  obtain ⟨hkt, _, _, _, _⟩ := unmountLayer_plain Example.cfg0 Example3.d4 b!"x" Example3.w4 Example3.l4 rfl
    hplain rfl (by decide +kernel)
  rw [hseq] at hkt
  have hktm : ((unmountLayer Example.cfg0 Example3.d4 b!"x").run.run Example3.w4).2.kt = Example3.ktF := hkt
  refine ⟨hplain, by decide +kernel, ?_, viewAgrees_intro Example3.view4 (by rfl) (by decide +kernel),
    rfl, rfl, hcov, by rfl, ⟨by rfl, by decide +kernel⟩, ?_, by rw [hktm]; decide +kernel, by rw [hktm]; decide +kernel⟩
  · intro h
    have := h.sib Example3.m42 (by simp [Example3.w4, Example3.kt4]) Example3.m41 (by simp [Example3.w4, Example3.kt4])
      (by decide +kernel) (.inl rfl)
    exact absurd this (by decide +kernel)
  · -- the run: the loop succeeds, the re-probe of the remaining table succeeds
    rcases unmountLayer_run_cases Example.cfg0 Example3.d4 b!"x" Example3.w4 Example3.l4 rfl with
      ⟨hb, _⟩ | ⟨_, hm0, _⟩ | ⟨_, _, hrunOk, _⟩
    · exact absurd hb (by decide +kernel)
    · exact absurd hm0 (by decide +kernel)
    · have hloop := unmountMounts_run Example3.l4.mounts.reverse Example3.w4 hplain
      obtain ⟨_, hfs, hlk, hok, _⟩ := hloop
      have hnone : (kumountSeq Example3.w4.kt (Example3.l4.mounts.reverse.map (·.mountpoint))).2.2 = none := by
        show (kumountSeq Example3.w4.kt (issueOrder Example3.l4)).2.2 = none
        rw [hseq]
      have hkf : (kumountSeq Example3.w4.kt (Example3.l4.mounts.reverse.map (·.mountpoint))).2.1 = Example3.ktF := by
        show (kumountSeq Example3.w4.kt (issueOrder Example3.l4)).2.1 = Example3.ktF
        rw [hseq]
      have hok' := hok hnone
      generalize hr1 : (unmountMounts Example3.l4.mounts.reverse).run.run Example3.w4 = r1 at hfs hlk hok' hrunOk
      obtain ⟨x, w1⟩ := r1
      simp only at hfs hlk hok'
      subst hok'
      rw [hrunOk PUnit.unit w1 rfl]
      rw [hkf] at hlk
      have hM := KernelProbe.probe_ok (t := w1.kt) (by rw [hlk]; decide +kernel)
      unfold unmountTail
      rw [Lc.RunM.run_bind, StateProbe.refresh_run Example.cfg0 Example3.d4 w1 _ hM]
      have hfs' : w1.fs = [] := hfs
      generalize ({ list := C12.entries (List.map toSpec w1.kt.mnts),
                    devices := C12.devicesOf (List.map toSpec w1.kt.mnts) } : Mounts) = M
      simp only []
      have hfl : findLayer { Example3.d4 with mounts := M, layers := Example3.d4.layers.map fun l =>
            { l with overlain := (overlayLowerdirs M).contains (buildPath Example.cfg0 l) } } b!"x" =
          some { Example3.l4 with overlain := (overlayLowerdirs M).contains (buildPath Example.cfg0 Example3.l4) } := rfl
      rw [Lc.RunM.run_bind, Lc.RunM.run_getL hfl]
      simp only []
      rw [Lc.RunM.run_bind, Lc.RunM.run_getW]
      simp only []
      rw [Lc.RunM.run_bind, Lc.RunM.run_liftRes, hfs']
      exact ⟨_, rfl⟩

/-! ### unmounting along the mount tree is never refused (no `NoHidden`)

  `TreeS` (Lemmas/TreeUmount): the tree discipline `KWF` plus what the kernel model's `addMount`
  also guarantees — no two entries below one mount on the same mountpoint (a lookup of that
  mountpoint ends on the first, so the second hangs below it), roots not nested (a namespace
  has one).  `ClosedRegion mnts bp`: an entry that blocks (same parent, mountpoint equal to or a
  path-prefix of the other's) an entry inside the region at/below `bp`, or on the way to it,
  lies in the region itself: nothing mounted OUTSIDE the build root covers it.  Both decidable. -/

/-- **treeOrder_subtree_first**: in the tree order of a path-sorted list (unique ids, nobody its
    own parent, nothing listed before the mount it hangs below) the WHOLE SUBTREE of a covered
    mount precedes the mount that covers it: no entry `v` is listed after an entry `u` that
    covers `v` or an entry `v` hangs below (`TreeOrder.UBV`, chains over the listed mounts) -/
theorem treeOrder_subtree_first (l : List MountType) (hnd : (l.map (·.id)).Nodup)
    (hns : ∀ x ∈ l, x.id ≠ x.parent) (hpf : l.Pairwise (fun x y => y.id ≠ x.parent))
    (hsorted : l.Pairwise (fun a b => bytesLt b.mountpoint a.mountpoint = false)) :
    (inTreeOrder l).Pairwise (fun u v => ¬ TreeOrder.UBV l u v) :=
  TreeOrder.inTreeOrder_subtree_first l hnd hns hpf hsorted

/-- **kumount_unblocked_leaf** (the `kumountSeq` argument against `Kernel.resolve`, one call): in
    a strict-tree table the lookup of the mountpoint of `x` ends on `x` — so `kumount` takes out
    exactly `x` — when nothing hangs below `x` and no entry blocks `x` or one of the entries it
    hangs below.  No `NoHidden`. -/
theorem kumount_unblocked_leaf (t : KTable) (x : KMnt) (ht : TreeS t.mnts) (hx : x ∈ t.mnts)
    (hleaf : ∀ c ∈ t.mnts, c.parent ≠ x.id)
    (hnb : ∀ a, TreeUmount.Chain t.mnts a x → ∀ k ∈ t.mnts, ¬ TreeUmount.Blocks k a) :
    mountedAt t.mnts x.mp = some x :=
  TreeUmount.mountedAt_unblocked ht hx hleaf hnb

/-- **umount_tree_order_no_call_refused**: plain world, kernel table with the strict tree
    discipline `TreeS` — hidden mounts allowed, NOT `NoHidden` —, view agreeing with the table on
    the region (ids, parent ids, mountpoints), build root neither "/" nor empty, the region
    closed (`ClosedRegion`: nothing outside the build root covers it), idle layer.  Then the
    kernel refuses NONE of the unmount calls of `unmountLayer`: in the order of
    `getMountAndSubmounts` read from its end — path order, or the mount-tree order when a listed
    mount covers a listed sibling — every target's lookup ends on the intended mount, which has
    nothing mounted below it any more; on every exit the table is the initial one without the
    region, and when the layer had mounts a normal return has status `ok`. -/
theorem umount_tree_order_no_call_refused (cfg : Config) (d : Defs) (name : Bytes) (w : World) (l : Layer)
    (hl : findLayer d name = some l) (hw : Plain w) (ht : TreeS w.kt.mnts)
    (hcl : ClosedRegion w.kt.mnts (buildPath cfg l))
    (hview : ViewAgrees l (buildPath cfg l) w.kt) (hbp : buildPath cfg l ≠ b!"/")
    (hbp2 : buildPath cfg l ≠ []) (hb : isBusy l false = false) :
    (kumountSeq w.kt (issueOrder l)).2.2 = none ∧
    ((unmountLayer cfg d name).run.run w).2.kt.mnts =
        w.kt.mnts.filter (fun m => !atOrBelow (buildPath cfg l) m.mp) ∧
    (l.mounts.length ≠ 0 → ∀ st d', ((unmountLayer cfg d name).run.run w).1 = .ok (st, d') → st = .ok) := by
  have hnone : (kumountSeq w.kt (issueOrder l)).2.2 = none := by
    obtain ⟨view, hm, hv⟩ := hview
    unfold issueOrder
    rw [hm]
    exact TreeGlue.issueOrder_tree_never_refused w.kt view (buildPath cfg l) ht hcl hbp hbp2 hv
  exact ⟨hnone, unmountLayer_none_refused cfg d name w l hl hw ht.ids hview hb hnone⟩

/-! evaluated instances -/

namespace Example4
def bp4 : Bytes := b!"/b/L/x/build"
def root4 : KMnt := { id := 1, parent := 0, dev := b!"8:1", root := b!"/", mp := b!"/", fstype := b!"ext4", source := b!"/dev/sda1" }
def km (i p : Nat) (mp : Bytes) : KMnt := { id := i, parent := p, dev := b!"0:9", root := b!"/", mp := mp, fstype := b!"tmpfs", source := b!"t" }
def vm (i p mp : Bytes) : MountType := ⟨[], mp, [], [], b!"tmpfs", b!"rw", false, b!"0:9", [47], i, p⟩

/-- nested covers below the build root: A on `m` (40), s1 on `m/s` (41), s2 on `m/s/t` (42); then C1
    stacked on `m` (43: covers s1 and s2 with it); inside C1: D on `m/s` (44), E on `m/s/u` (45);
    then C2 stacked on C1's `m` (46: covers D and E); and proc (47) beside them -/
def ktN : KTable :=
  { mnts := [root4, km 40 1 b!"/b/L/x/build/m", km 41 40 b!"/b/L/x/build/m/s", km 42 41 b!"/b/L/x/build/m/s/t",
             km 43 40 b!"/b/L/x/build/m", km 44 43 b!"/b/L/x/build/m/s", km 45 44 b!"/b/L/x/build/m/s/u",
             km 46 43 b!"/b/L/x/build/m", km 47 1 b!"/b/L/x/build/proc"], nextId := 48 }
def viewN : Mounts :=
  { list := [⟨[], b!"/", [], [], b!"ext4", b!"rw", false, b!"8:1", [47], b!"1", b!"0"⟩,
             vm b!"40" b!"1" b!"/b/L/x/build/m", vm b!"41" b!"40" b!"/b/L/x/build/m/s", vm b!"42" b!"41" b!"/b/L/x/build/m/s/t",
             vm b!"43" b!"40" b!"/b/L/x/build/m", vm b!"44" b!"43" b!"/b/L/x/build/m/s", vm b!"45" b!"44" b!"/b/L/x/build/m/s/u",
             vm b!"46" b!"43" b!"/b/L/x/build/m", vm b!"47" b!"1" b!"/b/L/x/build/proc"] }
def lN : Layer := { name := b!"x", layerPath := b!"/b/L/x", state := S_mounted, mounts := getMountAndSubmounts viewN bp4 }
def dN : Defs := { layers := [lN], order := [b!"x"], mounts := viewN }
def wN : World := { kt := ktN }

/-- shaped history 20 of the scenario suite: the layer's mounts, then by hand a mount over the whole
    layer directory `/b/L/x` (50) — it hangs below the root like the layer's own mounts and covers
    them from OUTSIDE the build root -/
def ktCov : KTable :=
  { mnts := [root4, km 30 1 b!"/b/L/x/build/proc", km 31 1 b!"/b/L/x/build/dev", km 50 1 b!"/b/L/x"], nextId := 51 }
def ktUncov : KTable := { ktCov with mnts := ktCov.mnts.filter (·.id != 50) }
end Example4

/-- the hypotheses of `umount_tree_order_no_call_refused` hold on the nested-cover table (which is
    not `NoHidden`); the issue order is evaluated; the kernel model accepts all eight calls; by the
    theorem the table afterwards holds the root only -/
theorem tree_order_nested_instance :
    TreeS Example4.wN.kt.mnts ∧ ClosedRegion Example4.wN.kt.mnts (buildPath Example.cfg0 Example4.lN) ∧
    ¬ NoHidden Example4.wN.kt.mnts ∧
    ViewAgrees Example4.lN (buildPath Example.cfg0 Example4.lN) Example4.wN.kt ∧
    (Example4.lN.mounts.map (·.id)) = [b!"40", b!"41", b!"42", b!"43", b!"44", b!"45", b!"46", b!"47"] ∧
    (kumountSeq Example4.wN.kt (issueOrder Example4.lN)).2.2 = none ∧
    ((unmountLayer Example.cfg0 Example4.dN b!"x").run.run Example4.wN).2.kt.mnts = [Example4.root4] := by
  have hts : TreeS Example4.wN.kt.mnts := by decide +kernel
  have hcl : ClosedRegion Example4.wN.kt.mnts (buildPath Example.cfg0 Example4.lN) := by decide +kernel
  have hva : ViewAgrees Example4.lN (buildPath Example.cfg0 Example4.lN) Example4.wN.kt :=
    viewAgrees_intro Example4.viewN (by rfl) (by decide +kernel)
  have hthm := umount_tree_order_no_call_refused Example.cfg0 Example4.dN b!"x" Example4.wN Example4.lN rfl
    ⟨rfl, rfl, rfl⟩ hts hcl hva (by decide +kernel) (by decide +kernel) rfl
  refine ⟨hts, hcl, ?_, hva, by decide +kernel, hthm.1, ?_⟩
  · intro h
    have := h.sib (Example4.km 43 40 b!"/b/L/x/build/m") (by simp [Example4.wN, Example4.ktN])
      (Example4.km 41 40 b!"/b/L/x/build/m/s") (by simp [Example4.wN, Example4.ktN]) (by decide +kernel) (.inl rfl)
    exact absurd this (by decide +kernel)
  · rw [hthm.2.1]
    decide +kernel

/-- cross-check by evaluating the kernel model on the issue order (independent of the theorem) -/
example : (kumountSeq Example4.wN.kt (issueOrder Example4.lN)) =
    (issueOrder Example4.lN, { Example4.ktN with mnts := [Example4.root4] }, none) := by decide +kernel

/-- **`ClosedRegion` fails exactly for the "layer directory covered from outside" table** (shaped
    history 20): strict tree, but the cover on `/b/L/x` blocks the layer's mounts from outside
    the build root — and indeed every unmount call is refused (EINVAL) there; without the cover
    the region is closed -/
theorem closedRegion_fails_when_covered_from_outside :
    TreeS Example4.ktCov.mnts ∧ ¬ ClosedRegion Example4.ktCov.mnts Example4.bp4 ∧
    (kumountSeq Example4.ktCov [b!"/b/L/x/build/proc", b!"/b/L/x/build/dev"]).2.2 = some .einval ∧
    (kumountSeq Example4.ktCov [b!"/b/L/x/build/dev", b!"/b/L/x/build/proc"]).2.2 = some .einval ∧
    TreeS Example4.ktUncov.mnts ∧ ClosedRegion Example4.ktUncov.mnts Example4.bp4 := by
  exact ⟨by decide +kernel, by decide +kernel, by decide +kernel, by decide +kernel,
    by decide +kernel, by decide +kernel⟩

/-- the binman-shaped table of `umount_hidden_submount_fixed_witness` is an instance too -/
example : TreeS Example3.w4.kt.mnts ∧ ClosedRegion Example3.w4.kt.mnts (buildPath Example.cfg0 Example3.l4) := by
  decide +kernel

end Lc.Props.C03
