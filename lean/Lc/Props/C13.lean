/-
  C13 — atom matching agrees with the Package Manager Specification.

  Model: Lc/Model/Version.lean (compare.go), Lc/Model/Atom.lean (parse.go, use.go,
  useDependencies.go, depend/atom.go).  Specification: Lc/Spec/Pms.lean.
  Helper lemmas: Lc/Lemmas/Version.lean.

  What is proved in full, what only on a sub-domain (`…_partial`), and where the unchanged
  code violates the property (negation theorems with concrete witnesses) is said at each
  theorem.
-/
import Lc.Lemmas.Version

namespace Lc.Props.C13
open Lc Lc.Version Lc.Atom Lc.Spec.Pms Lc.Lemmas.Version

/-! ## version order -/

/-- The comparison string `CompVer` the code builds for an installed package or for the
    version of a `<`, `<=`, `=`, `>=`, `>` atom: the model's normalisation applied to the
    three regexp groups of the rendered version. -/
def compVer (v : Spec.Pms.Version) : Bytes :=
  compVerOf v.renderBase v.renderSufs v.renderRev false

/-- **numeric-run lemma**: equal-length digit strings order bytewise like the numbers -/
theorem numeric_run_order (x y : Bytes) (hl : x.length = y.length)
    (hx : allDigits x = true) (hy : allDigits y = true) :
    strCmp x y = compare (natOf x) (natOf y) :=
  digits_order x y hl (digits_of_allDigits x hx) (digits_of_allDigits y hy)

/-- **padding lemma**: `padNumericSegment` makes digit strings of at most five digits
    order bytewise like the numbers (leading zeros in the input allowed) -/
theorem padded_run_order (a b : Bytes) (ha : allDigits a = true) (hb : allDigits b = true)
    (la : a.length ≤ 5) (lb : b.length ≤ 5) :
    strCmp (padNumericSegment a) (padNumericSegment b) = compare (natOf a) (natOf b) :=
  pad5_order a b (digits_of_allDigits a ha) (digits_of_allDigits b hb) la lb

example : strCmp (padNumericSegment b!"00042") (padNumericSegment b!"7") = .gt := by decide +kernel

/-- **compver_order_partial** — on Dom5 the byte order of the comparison strings is the PMS
    version order (Algorithm 3.1), for versions with any number of components.
    Proof: shape of the comparison string (`compVer_shape`), then induction over the
    component lists (`encRest_order`): equal-length padded runs order like numbers, the
    blank that follows a shorter component list is below the dot, a letter is above the
    `_` that starts the suffix field, the suffix letters are a<b<c<d<n<p, a blank is
    below every digit.

    PARTIAL: needs `dom5` for both versions.  Outside Dom5 the statement is false, see
    `over5_violates`, `leading_zero_violates`, `multi_suffix_violates`,
    `suffix_zero_violates` below.  (The first component could also be allowed leading
    zeros; not done.)  The hypothesis-free part is the tie of `compVer` to the text: the
    regexp split of the rendered text into the three groups is checked differentially. -/
theorem compver_order_partial (a b : Spec.Pms.Version) (ha : dom5 a = true) (hb : dom5 b = true) :
    strCmp (compVer a) (compVer b) = vercmp a b := by
  obtain ⟨n, ra, ena, sha⟩ := compVer_shape a ha
  obtain ⟨m, rb, enb, shb⟩ := compVer_shape b hb
  obtain ⟨ta, tb, eta, etb, ht⟩ := tailOf_order a b ha hb
  have hna := (dom5_facts a ha).clean
  have hnb := (dom5_facts b hb).clean
  have fn := cleanNum_facts n (hna n (by simp [ena]))
  have fm := cleanNum_facts m (hnb m (by simp [enb]))
  have hra : ∀ x ∈ ra, cleanNum x = true := fun x hx => hna x (by simp [ena, hx])
  have hrb : ∀ x ∈ rb, cleanNum x = true := fun x hx => hnb x (by simp [enb, hx])
  unfold compVer
  rw [sha, shb, eta, etb,
    strCmp_append _ _ _ _ (by rw [length_pad n fn.2.2, length_pad m fm.2.2]),
    pad5_order n m fn.1 fm.1 fn.2.2 fm.2.2, encRest_order ra rb ta tb hra hrb, ht,
    vercmp_then, ena, enb]
  have hnums : cmpNums (n :: ra) (m :: rb) =
      (compare (natOf n) (natOf m)).then (lexNum ra rb) := by
    simp only [cmpNums]
    rw [cmpLaterComponents_clean ra rb hra hrb]
    cases compare (natOf n) (natOf m) <;> rfl
  rw [hnums, Ordering.then_assoc]

/-- the comparison string the model computes from the TEXT of a version: the version
    regexp (`matchVerTail`, groups 2-4 of `pkgVerRE`) followed by the normalisation -/
def compVerOfText (text : Bytes) : Option Bytes :=
  (matchVerTail text).map fun g => compVerOf g.basever g.suffix g.revision false

/-- **compver_of_text_partial** — for every Dom5 version the regexp splits the rendered text
    into exactly the groups `compVer` is built from (`matchVerTail_render`: the greedy
    scan of `\d+(\.\d+)*`, letter, `_\w+`, `-r\d+` stages, any number of components).
    PARTIAL: Dom5; what stays differential is only the search for the leftmost `-` in
    `category/name-version`, which depends on the package name. -/
theorem compver_of_text_partial (v : Spec.Pms.Version) (h : dom5 v = true) :
    compVerOfText v.render = some (compVer v) := by
  simp [compVerOfText, matchVerTail_render v h, compVer]

/-- **compver_order_text_partial** — the order theorem stated on texts: for Dom5 versions
    the comparison strings computed from the rendered texts order bytewise as PMS orders
    the versions. -/
theorem compver_order_text_partial (a b : Spec.Pms.Version) (ha : dom5 a = true) (hb : dom5 b = true) :
    ∃ ca cb, compVerOfText a.render = some ca ∧ compVerOfText b.render = some cb ∧
      strCmp ca cb = vercmp a b :=
  ⟨compVer a, compVer b, compver_of_text_partial a ha, compver_of_text_partial b hb,
    compver_order_partial a b ha hb⟩

example : compVerOfText b!"1.10.3b_rc2-r1" = some b!"00001.00010.00003 b _d00002 r00001" := by
  decide +kernel

/-- tie of `compVer` to the text on an instance: parsing the installed package
    `c/p-1.10.3b_rc2-r1` (regexp split included) yields exactly `compVer` of the structure:
    padded components joined by dots, then the letter, suffix and revision fields, each
    opened by a blank -/
theorem compver_parse_instance :
    matchVerTail b!"1.10.3b_rc2-r1" = some ⟨b!"1.10.3b", b!"_rc2", b!"r1", false⟩ ∧
    (mkCand b!"c/p-1.10.3b_rc2-r1" b!"0" [] []).map (·.compVer) =
      some (compVer ⟨[b!"1", b!"10", b!"3"], some 98, [⟨.rc, some b!"2"⟩], some b!"1"⟩) ∧
    compVer ⟨[b!"1", b!"10", b!"3"], some 98, [⟨.rc, some b!"2"⟩], some b!"1"⟩ =
      b!"00001.00010.00003 b _d00002 r00001" := by decide +kernel

/-- a non-trivial instance of the hypotheses: 1.10.3b_rc2-r1 and 1.9 -/
example : dom5 ⟨[b!"1", b!"10", b!"3"], some 98, [⟨.rc, some b!"2"⟩], some b!"1"⟩ = true
    ∧ dom5 ⟨[b!"1", b!"9"], none, [], none⟩ = true := by decide +kernel

/-- the relational operator codes of parse.go -/
def relopOf : Op → Nat
  | .lt => relopLt | .le => relopLe | .eq => relopEq | .ge => relopGe | .gt => relopGt
  | .tilde => relopRange | .glob => relopRange

theorem relops_of_order (op : Op) (hop : op ≠ .tilde ∧ op ≠ .glob) (c t : Bytes)
    (pat cand : Spec.Pms.Version) (h : strCmp t c = vercmp cand pat) :
    versionComparer (relopOf op) c t = some (opMatch op pat cand) := by
  have hs := strCmp_swap t c
  cases op with
  | tilde => exact absurd rfl hop.1
  | glob => exact absurd rfl hop.2
  | _ =>
    simp only [relopOf, versionComparer, opMatch, relopLt, relopLe, relopEq, relopGe, relopGt,
      bytesLe, bytesLt_iff, beq_iff, hs, h]
    cases vercmp cand pat <;> rfl

/-- **relops_agree_partial** — hence on Dom5 the five relational operators decide as PMS
    says: the closure `makeVersionComparer relop (CompVer of the atom)` applied to the
    candidate's CompVer equals the PMS operator table.
    PARTIAL: Dom5 for both versions (see `compver_order_partial`). -/
theorem relops_agree_partial (op : Op) (hop : op ≠ .tilde ∧ op ≠ .glob)
    (pat cand : Spec.Pms.Version) (hp : dom5 pat = true) (hc : dom5 cand = true) :
    versionComparer (relopOf op) (compVer pat) (compVer cand) = some (opMatch op pat cand) :=
  relops_of_order op hop _ _ pat cand (compver_order_partial cand pat hc hp)

/-! ## `~v` and `=v*` -/

/-- the comparison string of a `~v` / `=v*` atom (`Relop_range`) -/
def compVerRange (v : Spec.Pms.Version) : Bytes :=
  compVerOf v.renderBase v.renderSufs v.renderRev true

/-- **range_accepts_extensions_partial** — why `~v` matches longer versions: the code tests
    `CompVer(v) <= c < MakeNextVer(CompVer(v))`, and EVERY byte string that extends
    `CompVer(v)` passes that test.  (The comparison strings of `v.1`, `va`, `v_p1`, `v-r3`
    all extend the one of `v`.)
    PARTIAL: Dom5; revision absent or no suffix (otherwise the code keeps the revision,
    finding `tilde-revision-not-ignored`); letter not `z`; no carry out of the last digit
    group (`noCarry`: the last component / suffix number is not 99999 — then MakeNextVer
    needs a second pass, covered only by `makeNextVer_terminates` and the differential
    runs). -/
theorem range_accepts_extensions_partial (v : Spec.Pms.Version) (h : dom5 v = true)
    (hr : v.sufs = [] ∨ v.rev = none) (hz : v.letter ≠ some 122) (hnc : noCarry v = true)
    (x : Bytes) :
    versionComparer relopRange (compVerRange v) (compVerRange v ++ x) = some true :=
  range_accepts_ext v h hr hz hnc x

/-- **tilde_partial** — `~v` agrees with PMS among the candidates that have v's components,
    letter and suffix (any revision): the code says yes, and so does PMS.
    PARTIAL: as `range_accepts_extensions_partial`; for candidates with OTHER components the
    code is wrong exactly on the extensions (`tilde_violates`). -/
theorem tilde_partial (pat cand : Spec.Pms.Version) (hp : dom5 pat = true) (hc : dom5 cand = true)
    (hr : pat.sufs = [] ∨ pat.rev = none) (hz : pat.letter ≠ some 122) (hnc : noCarry pat = true)
    (h1 : cand.nums = pat.nums) (h2 : cand.letter = pat.letter) (h3 : cand.sufs = pat.sufs) :
    versionComparer relopRange (compVerRange pat) (compVer cand) = some (opMatch .tilde pat cand) := by
  obtain ⟨x, hx⟩ := compVer_extends_range pat cand hp hc hr h1 h2 h3
  have hspec : opMatch .tilde pat cand = true := by
    simp [opMatch, vercmpNoRev_same cand pat h1 h2 h3]
  rw [hspec, compVer, hx]
  exact range_accepts_ext pat hp hr hz hnc x

/-- non-trivial instance: `~1.10b_rc2` and the installed `1.10b_rc2-r3` -/
example :
    dom5 ⟨[b!"1", b!"10"], some 98, [⟨.rc, some b!"2"⟩], none⟩ = true ∧
    noCarry ⟨[b!"1", b!"10"], some 98, [⟨.rc, some b!"2"⟩], none⟩ = true ∧
    versionComparer relopRange (compVerRange ⟨[b!"1", b!"10"], some 98, [⟨.rc, some b!"2"⟩], none⟩)
      (compVer ⟨[b!"1", b!"10"], some 98, [⟨.rc, some b!"2"⟩], some b!"3"⟩) = some true := by
  decide +kernel

/-! ## MakeNextVer terminates (after the fix) -/

/-- **makeNextVer_terminates** (full): `MakeNextVer` returns for every byte string; the
    fuel `len+1` of the model is never exhausted.  Before the `fix:` commit this was false:
    `~cat/pkg-1.99999` looped forever (corpus witness w13). -/
theorem makeNextVer_terminates (v : Bytes) : (makeNextVer v).isSome = true :=
  makeNextVerFuel_some _ v (by omega)

example : makeNextVer b!"00001.99999" = some b!"00002" := by decide +kernel

/-! ## the USE-dependency table -/

def typeOf : UseForm → Nat
  | .enabled => useDepEnabled | .disabled => useDepDisabled | .same => useDepSame
  | .opposite => useDepOpposite | .ifSet => useDepSetOnlyIf | .ifUnset => useDepUnsetOnlyIf

def dfltOf : UseDefault → Nat
  | .none => useDefaultNone | .plus => useDefaultEnabled | .minus => useDefaultDisabled

/-- the candidate's flag set: the flag absent / off / on -/
def flagsOf (flag : Bytes) : Option Bool → FlagSet
  | none => []
  | some s => [(flag, s)]

/-- the parent's flag map: the flag absent / false / true -/
def ctxOf (flag : Bytes) : Option Bool → List (Bytes × Bool)
  | none => []
  | some s => [(flag, s)]

/-- the candidate's effective state of the flag (state, else the `(+)`/`(-)` default) -/
def effective (d : UseDefault) (t : Option Bool) : Option Bool :=
  match t, d with
  | some s, _ => some s
  | none, .plus => some true
  | none, .minus => some false
  | none, .none => none

theorem flagState_flagsOf (flag : Bytes) (t : Option Bool) :
    flagState (flagsOf flag t) flag = t := by
  cases t <;> simp [flagState, flagsOf]

theorem ctxLookup_ctxOf (flag : Bytes) (p : Option Bool) :
    ctxLookup (ctxOf flag p) flag = p.getD false := by
  cases p <;> simp [ctxLookup, ctxOf]

/-- **usedep_table_partial** — the whole finite table: six forms × three defaults × three
    candidate states (absent/off/on) × three parent states (absent/false/true), for every
    flag name: `FlagsMatch` on the single dependency says yes exactly when PMS 8.3.4 says
    the dependency holds.  The quantifier *is* the table; every row is checked.
    PARTIAL: the `[!flag?]` rows with the flag effectively enabled in the candidate are
    excluded — there the code is wrong, see `usedep_not_conditional_inverted`. -/
theorem usedep_table_partial (flag : Bytes) (f : UseForm) (d : UseDefault) (t p : Option Bool)
    (hrow : ¬ (f = .ifUnset ∧ effective d t = some true)) :
    (flagsMatch [⟨typeOf f, dfltOf d, flag⟩] (flagsOf flag t) (ctxOf flag p) == .yes) =
      useDepHolds f d t (p.getD false) := by
  simp only [flagsMatch, flagsMatchOne, flagState_flagsOf, ctxLookup_ctxOf]
  generalize p.getD false = q
  cases f <;> cases d <;> rcases t with _ | _ | _ <;> cases q <;>
    first | rfl | exact absurd ⟨rfl, rfl⟩ hrow

/-- the rows of the table outside the excluded one are not vacuous -/
example : ¬ (UseForm.ifUnset = .ifUnset ∧ effective .minus none = some true) := by decide +kernel

theorem flagsMatchOne_ne_yes (fl : FlagSet) (ctx : List (Bytes × Bool)) (d : Atom.UseDep) :
    flagsMatchOne fl ctx d ≠ some .yes := by
  unfold flagsMatchOne
  have i : ∀ c : Prop, [Decidable c] → (if c then some FM.no else none) ≠ some .yes :=
    fun c _ => ite_ind (P := (· ≠ _)) nofun nofun
  dsimp only
  split
  · nofun
  · exact ite_ind (P := (· ≠ _)) (i _) (ite_ind (P := (· ≠ _)) (i _) (ite_ind (P := (· ≠ _)) (i _)
      (ite_ind (P := (· ≠ _)) (i _) (ite_ind (P := (· ≠ _)) (i _) (i _)))))

/-- several dependencies: `FlagsMatch` says yes iff every single dependency passes
    (full, by induction over the dependency list) -/
theorem flagsMatch_all (deps : List Atom.UseDep) (fl : FlagSet) (ctx : List (Bytes × Bool)) :
    (flagsMatch deps fl ctx == .yes) = deps.all (fun d => (flagsMatchOne fl ctx d).isNone) := by
  induction deps with
  | nil => simp [flagsMatch]
  | cons d ds ih =>
    simp only [flagsMatch, List.all_cons]
    cases h : flagsMatchOne fl ctx d with
    | none => simpa using ih
    | some r =>
      have hne : r ≠ .yes := by
        intro e
        exact flagsMatchOne_ne_yes fl ctx d (by rw [h, e])
      cases r with
      | yes => exact absurd rfl hne
      | no => simp
      | err => simp

/-- the text of each form parses to the type the table is about, in both spellings of the
    default (PMS `flag(+)=` and the older `flag=(+)`) -/
theorem usedep_parse_table :
    parseUseDependencies b!"nls" = some [⟨useDepEnabled, useDefaultNone, b!"nls"⟩] ∧
    parseUseDependencies b!"-nls(+)" = some [⟨useDepDisabled, useDefaultEnabled, b!"nls"⟩] ∧
    parseUseDependencies b!"nls(-)=" = some [⟨useDepSame, useDefaultDisabled, b!"nls"⟩] ∧
    parseUseDependencies b!"nls=(-)" = some [⟨useDepSame, useDefaultDisabled, b!"nls"⟩] ∧
    parseUseDependencies b!"!nls(+)=" = some [⟨useDepOpposite, useDefaultEnabled, b!"nls"⟩] ∧
    parseUseDependencies b!"nls(+)?" = some [⟨useDepSetOnlyIf, useDefaultEnabled, b!"nls"⟩] ∧
    parseUseDependencies b!"!nls?(-)" = some [⟨useDepUnsetOnlyIf, useDefaultDisabled, b!"nls"⟩] ∧
    parseUseDependencies b!"!nls(-)?,ssl" =
      some [⟨useDepUnsetOnlyIf, useDefaultDisabled, b!"nls"⟩, ⟨useDepEnabled, useDefaultNone, b!"ssl"⟩] := by
  decide +kernel

/-! ## where the unchanged code violates the property: negations with witnesses -/

/-- decision of the model on texts: parse the dependency atom and the installed package
    (slot as given, no USE flags), `VersionAndSlotMatch` -/
def decideVS (atomText candText candSlot : Bytes) : Option Bool :=
  match rawParseAtom atomText true true, mkCand candText candSlot [] [] with
  | some da, some c => versionAndSlotMatch da c.compVer c.slot
  | _, _ => none

def v (nums : List Bytes) : Spec.Pms.Version := ⟨nums, none, [], none⟩

/-- components of more than 5 digits are not padded: `100000 < 20000` for the code -/
theorem over5_violates :
    decideVS b!"<c/p-20000" b!"c/p-100000" b!"0" = some true ∧
    opMatch .lt (v [b!"20000"]) (v [b!"100000"]) = false ∧
    hasLongRun (v [b!"100000"]) = true := by decide +kernel

/-- leading zeros: the code says `1.01 = 1.1`, PMS compares "01" and "1" as strings -/
theorem leading_zero_violates :
    decideVS b!"=c/p-1.1" b!"c/p-1.01" b!"0" = some true ∧
    opMatch .eq (v [b!"1", b!"1"]) (v [b!"1", b!"01"]) = false ∧
    hasLeadingZeroComponent (v [b!"1", b!"01"]) = true := by decide +kernel

/-- `~1.2` matches `1.2.1` and `1.2_p1` (PMS: equal when the revision is ignored) -/
theorem tilde_violates :
    decideVS b!"~c/p-1.2" b!"c/p-1.2.1" b!"0" = some true ∧
    opMatch .tilde (v [b!"1", b!"2"]) (v [b!"1", b!"2", b!"1"]) = false ∧
    regionTildeLonger .tilde (v [b!"1", b!"2"]) (v [b!"1", b!"2", b!"1"]) = true ∧
    decideVS b!"~c/p-1.2" b!"c/p-1.2_p1" b!"0" = some true ∧
    opMatch .tilde (v [b!"1", b!"2"]) ⟨[b!"1", b!"2"], none, [⟨.p, some b!"1"⟩], none⟩ = false ∧
    regionTildeLonger .tilde (v [b!"1", b!"2"]) ⟨[b!"1", b!"2"], none, [⟨.p, some b!"1"⟩], none⟩ = true := by
  decide +kernel

/-- several suffixes: the code has `1_p < 1_p_alpha`, PMS `1_p_alpha < 1_p` -/
theorem multi_suffix_violates :
    decideVS b!"<c/p-1_p_alpha" b!"c/p-1_p" b!"0" = some true ∧
    opMatch .lt ⟨[b!"1"], none, [⟨.p, none⟩, ⟨.alpha, none⟩], none⟩ ⟨[b!"1"], none, [⟨.p, none⟩], none⟩ = false ∧
    hasMultiSuffix ⟨[b!"1"], none, [⟨.p, none⟩, ⟨.alpha, none⟩], none⟩ = true := by decide +kernel

/-- `_alpha0` and `_alpha` are the same version for PMS, different for the code -/
theorem suffix_zero_violates :
    decideVS b!"=c/p-1_alpha" b!"c/p-1_alpha0" b!"0" = some false ∧
    opMatch .eq ⟨[b!"1"], none, [⟨.alpha, none⟩], none⟩ ⟨[b!"1"], none, [⟨.alpha, some b!"0"⟩], none⟩ = true ∧
    hasSuffixZero ⟨[b!"1"], none, [⟨.alpha, some b!"0"⟩], none⟩ = true := by decide +kernel

/-- `~v-rN` with a suffix keeps the revision; `=v-rN*` without suffix drops it -/
theorem range_revision_violates :
    decideVS b!"~c/p-1.2_p1-r1" b!"c/p-1.2_p1" b!"0" = some false ∧
    opMatch .tilde ⟨[b!"1", b!"2"], none, [⟨.p, some b!"1"⟩], some b!"1"⟩
      ⟨[b!"1", b!"2"], none, [⟨.p, some b!"1"⟩], none⟩ = true ∧
    decideVS b!"=c/p-1.2-r1*" b!"c/p-1.2" b!"0" = some true ∧
    opMatch .glob ⟨[b!"1", b!"2"], none, [], some b!"1"⟩ (v [b!"1", b!"2"]) = false := by decide +kernel

/-- the sub-slot of `:0/1.2` is ignored; `:1` matches slot `01` -/
theorem slot_violates :
    (match rawParseAtom b!"c/p:0/1.2" true true with
     | some da => slotComparer da (setSlot b!"0")
     | none => none) = some true ∧
    slotMatch (.slot b!"0" (some b!"1.2") false) b!"0" b!"1.3" = false ∧
    regionSubslot (.slot b!"0" (some b!"1.2") false) b!"0" b!"1.3" = true ∧
    decideVS b!"c/p:1" b!"c/p-1" b!"01" = some true ∧
    slotMatch (.slot b!"1" none false) b!"01" b!"01" = false ∧
    regionSlotPadding (.slot b!"1" none false) b!"01" = true := by decide +kernel

/-- `[!flag?]` is evaluated with the parent's flag inverted: both rows where the candidate
    has the flag enabled are wrong (portage/depend/filter_test.go asserts the first) -/
theorem usedep_not_conditional_inverted :
    flagsMatch [⟨useDepUnsetOnlyIf, useDefaultNone, b!"nss"⟩] [(b!"nss", true)] [(b!"nss", true)] = .no ∧
    useDepHolds .ifUnset .none (some true) true = true ∧
    flagsMatch [⟨useDepUnsetOnlyIf, useDefaultNone, b!"nss"⟩] [(b!"nss", true)] [(b!"nss", false)] = .yes ∧
    useDepHolds .ifUnset .none (some true) false = false := by decide +kernel

/-- the model follows the `fix:` commits: a range atom whose last component is all nines
    matches (and MakeNextVer returns), and the PMS spelling `[flag(-)?]` parses -/
theorem fixed_witnesses :
    decideVS b!"~c/p-1.99999" b!"c/p-1.99999-r2" b!"0" = some true ∧
    decideVS b!"=c/p-99999*" b!"c/p-99999.1" b!"0" = some true ∧
    (rawParseAtom b!"dev-python/six[python_targets_python3_11(-)?,ssl(+)]" true true).isSome = true := by
  decide +kernel

end Lc.Props.C13
