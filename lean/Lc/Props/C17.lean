/-
  C17 — add-files and recipe lines mean what the manual says or are rejected.
  Property theorems over the model Lc.Model.StageLine (the Go code after the `fix:`
  commits) against the specifications Lc.Spec.Chmod and Lc.Spec.AddFiles.
-/
import Lc.Model.StageLine
import Lc.Spec.Chmod
import Lc.Spec.AddFiles
import Lc.Lemmas.StageLine
import Lc.Lemmas.StageClosed
import Lc.Lemmas.Faults

namespace Lc.Props.C17
open Lc Lc.StageLine Lc.Spec Lc.Lemmas.StageLine
open Lc.TreeWF (CleanAbs)

/-! ### no line can crash the tool -/

theorem pfLoop_fixed_no_panic (line : Bytes) (fs : List Bytes) (f : Bytes) (q : Nat) (b : Bool) :
    (pfLoop true line fs f q b).NoPanic := by
  -- a recursive call is its induction hypothesis, an end is `ok` or `err`, and the two
  -- `Res.panic` / unfixed branches carry the hypothesis `¬ fixed = true`
  fun_induction pfLoop true line fs f q b <;>
    first | assumption | exact .ok | exact .err nofun | contradiction

/-- `parseFields` and `parseLine` never panic, for every byte string. -/
theorem parse_total (line : Bytes) :
    (parseFields line).isPanic = false ∧ (parseLine line).isPanic = false := by
  have hf : (parseFields line).NoPanic := by
    unfold parseFields parseFieldsGen
    cases hp : pfLoop true line [] [] 0 false with
    | ok r => exact ite_ind .ok (ite_ind (.err nofun) .ok)  -- the two tests of `pfFinish`
    | error e => exact .error (pfLoop_fixed_no_panic line [] [] 0 false e hp)
  refine ⟨Res.isPanic_eq_false.mpr hf, Res.isPanic_eq_false.mpr ?_⟩
  unfold parseLine
  split
  · exact .ok
  · rename_i he
    exact absurd he hf.ne
  · exact .ok

example : parseFields b!"file /a\\" = Res.err "trailing-backslash" := by decide +kernel

/-- the unfixed tokenizer does panic: a line ending in a backslash (replayed against the
    implementation on every run, corpus/C17/witnesses.jsonl w0) -/
theorem old_trailing_backslash_panics : parseFieldsOld b!"file /a\\" = Res.panic := by decide +kernel

/-! ### names and option values survive quoting and backslash escaping unchanged -/

/-- one ordinary byte inside a field -/
theorem step_plain (c : Nat) (rest : Bytes) (fs : List Bytes) (f : Bytes) (q : Nat)
    (h1 : c ≠ 92) (h2 : c ≠ q) (h3 : q ≠ 0 ∨ (c ≠ 32 ∧ c ≠ 9)) :
    pfLoop true (c :: rest) fs f q true = pfLoop true rest fs (f ++ [c]) q true := by
  rw [pfLoop.eq_def]
  rcases h3 with h3 | ⟨h3, h4⟩ <;> simp [*]

/-- backslash + byte inside a field (byte other than `*`) -/
theorem step_esc (c : Nat) (rest : Bytes) (fs : List Bytes) (f : Bytes) (q : Nat)
    (hq : q ≠ 92) (hc : c ≠ 42) :
    pfLoop true (92 :: c :: rest) fs f q true = pfLoop true rest fs (f ++ [c]) q true := by
  have hq' : ¬ (92 = q) := fun e => hq e.symm
  simp [pfLoop, hq', hc]

/-- a run of field bytes, those in `sp` with a backslash in front, inside a field with open
    quote `q` (0: none): every byte left bare must be an ordinary one there -/
theorem escaped_in_field (q : Nat) (sp : Nat → Bool) (hq : q ≠ 92) (h42 : sp 42 = false)
    (g rest : Bytes) (fs : List Bytes) (f : Bytes)
    (hg : ∀ c ∈ g, sp c = false → c ≠ 92 ∧ c ≠ q ∧ (q ≠ 0 ∨ (c ≠ 32 ∧ c ≠ 9))) :
    pfLoop true ((g.flatMap fun c => if sp c then [92, c] else [c]) ++ rest) fs f q true
      = pfLoop true rest fs (f ++ g) q true := by
  induction g generalizing f with
  | nil => simp
  | cons c g ih =>
    have ih' := ih (f ++ [c]) fun x hx => hg x (List.mem_cons_of_mem _ hx)
    rw [List.append_assoc] at ih'
    rw [List.flatMap_cons]
    cases hs : sp c with
    | true =>
      have hc42 : c ≠ 42 := fun e => by rw [e, h42] at hs; cases hs
      exact (step_esc c _ fs f q hq hc42).trans ih'
    | false =>
      obtain ⟨h92, hcq, hb⟩ := hg c List.mem_cons_self hs
      exact (step_plain c _ fs f q h92 hcq hb).trans ih'

theorem start_quote (q : Nat) (hq : q = 34 ∨ q = 39) (rest : Bytes) (fs : List Bytes) (f : Bytes) (q0 : Nat) :
    pfLoop true (q :: rest) fs f q0 false = pfLoop true rest fs f q true := by
  rw [pfLoop.eq_def]
  rcases hq with h | h <;> subst h <;> simp

theorem close_quote (q : Nat) (hq : q = 34 ∨ q = 39) (rest : Bytes) (fs : List Bytes) (f : Bytes) :
    pfLoop true (q :: rest) fs f q true = pfLoop true rest fs f 0 true := by
  rw [pfLoop.eq_def]
  rcases hq with h | h <;> subst h <;> simp

/-- `p--`: the byte that starts an unquoted field is read again as the field's first byte -/
theorem start_unquoted (c : Nat) (h32 : c ≠ 32) (h9 : c ≠ 9) (h34 : c ≠ 34) (h39 : c ≠ 39)
    (rest : Bytes) (fs : List Bytes) (f : Bytes) (q0 : Nat) :
    pfLoop true (c :: rest) fs f q0 false = pfLoop true (c :: rest) fs f 0 true := by
  rw [pfLoop.eq_def true _ _ _ q0, pfLoop.eq_def true _ _ _ 0]
  simp [h32, h9, h34, h39]

theorem end_field (rest : Bytes) (fs : List Bytes) (f : Bytes) (hf : f ≠ []) :
    pfLoop true (32 :: rest) fs f 0 true = pfLoop true rest (fs ++ [f]) [] 0 false := by
  rw [pfLoop.eq_def]
  simp [hf]

theorem quoted_field (q : Nat) (hq : q = 34 ∨ q = 39) (f rest : Bytes) (fs : List Bytes) (q0 : Nat) :
    pfLoop true (AddFiles.quoteField q f ++ rest) fs [] q0 false = pfLoop true rest fs f 0 true := by
  have h42 : (42 == q || 42 == 92) = false := by rcases hq with rfl | rfl <;> rfl
  simp only [AddFiles.quoteField, List.cons_append, List.append_assoc]
  rw [start_quote q hq, escaped_in_field q (fun c => c == q || c == 92) (by omega) h42]
  · exact close_quote q hq rest fs f
  · intro c _ hs
    simp only [Bool.or_eq_false_iff, beq_eq_false_iff_ne] at hs
    exact ⟨hs.2, hs.1, .inl (by omega)⟩

theorem not_special {c : Nat} (h : AddFiles.isSpecial c = false) :
    c ≠ 32 ∧ c ≠ 9 ∧ c ≠ 34 ∧ c ≠ 39 ∧ c ≠ 92 := by
  simpa only [AddFiles.isSpecial, Bool.or_eq_false_iff, beq_eq_false_iff_ne, and_assoc] using h

theorem escaped_field (f rest : Bytes) (fs : List Bytes) (q0 : Nat) (hne : f ≠ []) (h0 : ∀ c ∈ f, c ≠ 0) :
    pfLoop true (AddFiles.escField f ++ rest) fs [] q0 false = pfLoop true rest fs f 0 true := by
  have key := escaped_in_field 0 AddFiles.isSpecial (by decide) rfl f rest fs [] fun c hc hs =>
    ⟨(not_special hs).2.2.2.2, h0 c hc, .inr ⟨(not_special hs).1, (not_special hs).2.1⟩⟩
  rw [List.nil_append] at key
  rw [← key]
  match f, hne with
  | c :: g, _ =>
    simp only [AddFiles.escField, List.flatMap_cons, List.append_assoc]
    cases hs : AddFiles.isSpecial c with
    | true => exact start_unquoted 92 (by decide) (by decide) (by decide) (by decide) ..
    | false =>
      obtain ⟨h32, h9, h34, h39, _⟩ := not_special hs
      exact start_unquoted c h32 h9 h34 h39 ..

/-- a whole rendered field, from the blank before it to its last byte -/
theorem field_roundtrip (s : Nat) (f rest : Bytes) (fs : List Bytes) (q0 : Nat)
    (hne : f ≠ []) (h0 : ∀ c ∈ f, c ≠ 0) :
    pfLoop true (AddFiles.renderField s f ++ rest) fs [] q0 false = pfLoop true rest fs f 0 true := by
  unfold AddFiles.renderField
  split
  · exact quoted_field 34 (.inl rfl) ..
  · split
    · exact quoted_field 39 (.inr rfl) ..
    · exact escaped_field f rest fs q0 hne h0

/-- a field the quoting rules are about: non-empty, no NUL byte -/
def FieldOk (f : Bytes) : Prop := f ≠ [] ∧ ∀ c ∈ f, c ≠ 0

theorem roundtrip_gen (l : List (Nat × Bytes)) (h : ∀ p ∈ l, FieldOk p.2) (fs : List Bytes) (q0 : Nat) :
    (match pfLoop true (AddFiles.renderLine l) fs [] q0 false with
     | .ok r => pfFinish r
     | .error e => .error e) = .ok (fs ++ l.map (·.2)) := by
  induction l generalizing fs q0 with
  | nil => simp [AddFiles.renderLine, pfLoop, pfFinish]
  | cons p rest ih =>
    obtain ⟨s, f⟩ := p
    have hf : FieldOk f := h (s, f) (by simp)
    cases rest with
    | nil =>
      have := field_roundtrip s f [] fs q0 hf.1 hf.2
      simp only [List.append_nil] at this
      simp only [AddFiles.renderLine, this]
      have hfe : f.isEmpty = false := by
        cases f with
        | nil => exact absurd rfl hf.1
        | cons _ _ => rfl
      simp [pfLoop, pfFinish, hfe]
    | cons p2 rest2 =>
      simp only [AddFiles.renderLine]
      rw [field_roundtrip s f _ fs q0 hf.1 hf.2, end_field _ fs f hf.1]
      have := ih (fun x hx => h x (by simp [hx])) (fs ++ [f]) 0
      rw [this]; simp

/-- For every list of non-empty, NUL-free fields, each rendered in double
    quotes (style 1), single quotes (style 2) or with backslash escapes (any other style
    number) and joined by blanks, `parseFields` returns exactly the fields.  The sequence
    `\*` is no exception to this statement (a field containing a backslash is rendered
    with the backslash escaped); the documented exception is `backslash_star_kept`. -/
theorem quote_roundtrip (l : List (Nat × Bytes)) (h : ∀ p ∈ l, FieldOk p.2) :
    parseFields (AddFiles.renderLine l) = .ok (l.map (·.2)) := by
  have := roundtrip_gen l h [] 0
  simp only [List.nil_append] at this
  unfold parseFields parseFieldsGen
  exact this

example : parseFields (AddFiles.renderLine [(0, b!"file"), (1, b!"/a b\\c\"d"), (2, b!"src=it's *")])
    = .ok [b!"file", b!"/a b\\c\"d", b!"src=it's *"] := by decide +kernel

/-- the documented exception: the escape `\*` is not reduced, backslash and asterisk both
    stay in the field (so that `parseSource` can tell a literal asterisk from a wildcard),
    in and out of quotes -/
theorem backslash_star_kept :
    parseFields b!"file /a\\*b '/c\\*' \\*" = .ok [b!"file", b!"/a\\*b", b!"/c\\*", b!"\\*"] := by decide +kernel

/-- before the fix a backslash at the start of a field was no escape -/
theorem old_leading_escape_lost :
    parseFieldsOld b!"file \\\"q" = .ok [b!"file", b!"\\\"q"] ∧
    parseFields b!"file \\\"q" = .ok [b!"file", b!"\"q"] := by decide +kernel

/-! ### type / option combinations are accepted or refused as documented -/

/-- the line `<type> /n <opt>=<sample value>` -/
def tableLine (ty opt : Bytes) : Bytes := ty ++ b!" /n " ++ opt ++ [61] ++ AddFiles.sampleValue opt

def accepted (line : Bytes) : Bool :=
  match parseLine line with
  | .ok r => r.errors.isEmpty
  | .error _ => false

/-- without options every documented type is accepted, anything else refused -/
theorem type_table : (∀ ty ∈ AddFiles.types, accepted (ty ++ b!" /n") = true) ∧
    accepted b!"fifo /n" = false ∧ accepted b!"File /n" = false := by decide +kernel

/-- For every documented type other than `tbd` (partial: that row is excluded, see
    `tbd_row_differs`) and every documented option, the parser accepts
    `<type> /n <opt>=<valid value>` exactly when the manual's table says so. -/
theorem type_option_table_partial :
    ∀ ty ∈ AddFiles.types, ty ≠ b!"tbd" → ∀ opt ∈ AddFiles.options,
      accepted (tableLine ty opt) = AddFiles.accepts ty opt := by decide +kernel

/-- the `tbd` row: the manual documents only `absent=`, the code takes every option
    (finding `tbd-accepts-undocumented-options`) -/
theorem tbd_row_differs :
    (∀ opt ∈ AddFiles.options, accepted (tableLine b!"tbd" opt) = true) ∧
    AddFiles.accepts b!"tbd" b!"mod" = false ∧ AddFiles.accepts b!"tbd" b!"absent" = true := by decide +kernel

/-- unknown option keys and options without `=` are refused for every type -/
theorem unknown_option_refused :
    ∀ ty ∈ AddFiles.types, accepted (ty ++ b!" /n mode=644") = false ∧
      accepted (ty ++ b!" /n skip") = false ∧ accepted (ty ++ b!" /n =x") = false := by decide +kernel

/-! ### uid / gid / dev values are range-checked -/

theorem lt_of_guard {v B w : Nat} (h : (if v < B then some v else none) = some w) : w < B := by
  split at h
  · cases h; assumption
  · cases h

theorem nonneg_lt (s : Bytes) : ∀ v, parseNonNegInt32 s = some v → v < 2 ^ 31 := by
  have ite {c : Prop} [Decidable c] {a b : Option Nat} :
      (∀ v, a = some v → v < 2 ^ 31) → (∀ v, b = some v → v < 2 ^ 31) →
        ∀ v, (if c then a else b) = some v → v < 2 ^ 31 :=
    ite_ind (P := fun r : Option Nat => ∀ v, r = some v → v < 2 ^ 31)
  unfold parseNonNegInt32
  cases s with
  | nil => nofun
  | cons c rest =>
    refine ite nofun (ite (ite (ite ?_ nofun) fun _ => lt_of_guard) nofun)
    intro v h; cases h; decide

theorem uint_lt (bits : Nat) (s : Bytes) : ∀ v, parseUint10 bits s = some v → v < 2 ^ bits :=
  ite_ind (P := fun r : Option Nat => ∀ v, r = some v → v < 2 ^ bits) nofun
    (ite_ind (P := fun r : Option Nat => ∀ v, r = some v → v < 2 ^ bits) (fun _ => lt_of_guard) nofun)

/-- an accepted dev= value has type b or c, a 32-bit major and a 20-bit minor (the kernel's
    minor width, fix 25c634b under C07) -/
theorem dev_range (s : Bytes) (t mj mn : Nat) (h : parseDev s = ((t, mj, mn), false)) :
    (t = 98 ∨ t = 99) ∧ mj < 2 ^ 32 ∧ mn < 2 ^ 20 := by
  unfold parseDev at h
  split at h
  · cases h
  · split at h
    · cases h
    · rename_i ht
      split at h
      · split at h
        · cases h
        · rename_i hmj
          split at h
          · cases h
          · rename_i hmn
            cases h
            refine ⟨?_, uint_lt _ _ _ hmj, uint_lt _ _ _ hmn⟩
            simp at ht
            omega
      · cases h

/-- an accepted uid=/gid= value is below 2^31 (both halves of N:N) -/
theorem uid_range (s : Bytes) (v1 : Nat) (v2 : Option Nat) (h : parseUid s = .ok (v1, v2)) :
    v1 < 2 ^ 31 ∧ ∀ b, v2 = some b → b < 2 ^ 31 := by
  unfold parseUid at h
  split at h
  · split at h
    · rename_i hv
      cases h
      exact ⟨nonneg_lt _ _ hv, nofun⟩
    · cases h
  · split at h
    · rename_i ha hb
      cases h
      exact ⟨nonneg_lt _ _ ha, fun x hx => Option.some.inj hx ▸ nonneg_lt _ _ hb⟩
    · cases h

/-- on a non-empty digit string `strconv.ParseInt` sees no sign -/
theorem parseNonNegInt32_digits (s : Bytes) (hne : s ≠ []) (hd : s.all isDigit = true) :
    parseNonNegInt32 s = if digitsVal 10 s 0 < 2 ^ 31 then some (digitsVal 10 s 0) else none := by
  match s, hne with
  | c :: rest, _ =>
    have hc : 48 ≤ c := by
      have := List.all_eq_true.mp hd c List.mem_cons_self
      simp only [isDigit, Bool.and_eq_true, decide_eq_true_eq] at this
      exact this.1
    have h43 : (c == 43) = false := beq_eq_false_iff_ne.mpr (by omega)
    have h45 : (c == 45) = false := beq_eq_false_iff_ne.mpr (by omega)
    simp only [parseNonNegInt32, h43, h45, Bool.or_false, Bool.false_eq_true, if_false, hd,
      List.isEmpty_cons, if_true]

theorem uid_digits (s : Bytes) (hne : s ≠ []) (hd : s.all isDigit = true) :
    parseUid s = if digitsVal 10 s 0 < 2 ^ 31 then .ok (digitsVal 10 s 0, none) else Res.err "baduid" := by
  have hcolon : indexByte 58 s = none :=
    InUseLemmas.indexByte_none 58 s fun hm => absurd (List.all_eq_true.mp hd 58 hm) (by decide)
  unfold parseUid
  rw [hcolon, parseNonNegInt32_digits s hne hd]
  by_cases h : digitsVal 10 s 0 < 2 ^ 31
  · rw [if_pos h, if_pos h]
  · rw [if_neg h, if_neg h]

example : parseUid b!"250:7" = .ok (250, some 7) ∧ parseUid b!"2147483648" = Res.err "baduid" ∧
    parseDev b!"c4:300" = ((99, 4, 300), false) ∧ (parseDev b!"c4:1048576").2 = true := by
  decide +kernel

/-! ### mod= values have the effect chmod(1) would have -/

/-- octal modes: an all-octal mod= value is accepted exactly when chmod(1) accepts it, and
    then sets the mode to that value. -/
theorem mod_sound_octal (s : Bytes) (hoct : s.all Chmod.isOct = true) :
    (∀ a o, parseModString s = .ok (a, o) →
      ∃ v, Chmod.parse s = some (.octal v) ∧ ∀ isDir m, Chmod.applyMasks a o m = Chmod.apply (.octal v) isDir m) ∧
    (Chmod.parse s = none → ∃ c, parseModString s = Res.err c) := by
  have h1 : s.all isOctDigit = true := hoct
  unfold parseModString Chmod.parse
  simp only [h1, hoct, if_true, digitsVal_octVal, permBits, Res.err]
  cases s.isEmpty with
  | true => exact ⟨nofun, fun _ => ⟨_, rfl⟩⟩
  | false =>
    simp only [Bool.false_eq_true, if_false]
    by_cases hv : Chmod.octVal s 0 ≤ 4095
    · rw [if_pos hv, if_pos hv]
      refine ⟨fun a o e => ⟨_, rfl, fun _ m => ?_⟩, nofun⟩
      cases e
      simp [Chmod.apply, Chmod.applyMasks]
    · rw [if_neg hv, if_neg hv]
      exact ⟨nofun, fun _ => ⟨_, rfl⟩⟩

/-- symbolic modes (partial: quantifies over clause lists of the forms the parser
    supports — `[ugoa]?[+-][rwxst]*`, comma separated — instead of over accepted strings):
    the parser accepts the rendered mode and its and/or masks act on every 12-bit mode, file
    or directory, as chmod(1) does clause by clause. -/
theorem mod_sound_grammar_partial (cs : List SClause) (hne : cs ≠ []) (hwf : ∀ c ∈ cs, c.wf = true) :
    ∃ a o, parseModString (renderMode cs) = .ok (a, o) ∧
      ∀ isDir m, m < 4096 →
        Chmod.applyMasks a o m = Chmod.apply (.symbolic (cs.map SClause.ast)) isDir m := by
  obtain ⟨st, hst, hsem⟩ := clauses_loop cs hne hwf 4095 0 (by omega) (by omega)
  refine ⟨st.andM, st.orM, ?_, ?_⟩
  · unfold parseModString
    simp [render_not_octal cs hne, permBits, hst]
  · intro isDir m hm
    rw [hsem isDir m]
    simp [Chmod.apply, Chmod.applyMasks, and_4095 m hm]

/-- the rendering really is the chmod(1) string with that reading (sample instances) -/
example : Chmod.parse (renderMode [⟨some 117, false, b!"rw"⟩, ⟨some 97, true, b!"r"⟩, ⟨none, false, b!"t"⟩])
    = some (.symbolic ([⟨some 117, false, b!"rw"⟩, ⟨some 97, true, b!"r"⟩, ⟨none, false, b!"t"⟩].map SClause.ast)) := by
  decide +kernel

example : renderMode [⟨some 117, false, b!"rw"⟩, ⟨some 97, true, b!"r"⟩] = b!"u+rw,a-r" := by decide +kernel

/-- the clause-order defect (fixed in 49a8f60) as a value: `u+r,a-r` leaves no read bit -/
example : parseModString b!"u+r,a-r" = .ok (0o7333, 0) := by decide +kernel

/-! ### names of add-files lines are clean absolute paths: `parseLine` stores `path.Clean` of the
    name field (fix 4c7567e, "add-files names are cleaned") -/

/-- the second case of `parseLineFields_name`: what the name check lets through -/
theorem stored_name_clean {s n : Bytes}
    (h : isAbs s = true ∧ 2 ≤ (pathClean s).length ∧ n = pathClean s) : CleanAbs n ∧ n ≠ [SLASH] := by
  obtain ⟨habs, hlen, rfl⟩ := h
  exact ⟨Lc.Stage.pathClean_cleanAbs _ habs, fun e => by rw [e] at hlen; simp at hlen⟩

/-- Whenever `parseLine` stores a name at all (it does for every line
    it accepts, see `parseLine_accepted_name_clean`), that name is a clean absolute path —
    `path.Clean name = name`, leading slash: no `//`, no `.` or `..` element, no trailing
    slash — and it is not the root.  For every field list; no hypothesis on the options.
    This is what C06's `parents_precede` assumes of the names of add steps (`StepClean`). -/
theorem parseLine_name_clean (fields : List Bytes)
    (hname : (parseLineFields fields).entry.name ≠ []) :
    CleanAbs (parseLineFields fields).entry.name ∧
    (parseLineFields fields).entry.name ≠ [SLASH] :=
  (parseLineFields_name fields).elim (fun h => absurd h.1 hname) stored_name_clean

/-- the same for a whole line: a line `parseLine` accepts (no error logged) has a name, and it
    is a clean absolute path other than the root -/
theorem parseLine_accepted_name_clean (line : Bytes) (r : LineResult)
    (h : parseLine line = .ok r) (hok : r.errors = []) :
    CleanAbs r.entry.name ∧ r.entry.name ≠ [SLASH] := by
  have key : ∀ fields, (parseLineFields fields).errors = [] →
      CleanAbs (parseLineFields fields).entry.name ∧ (parseLineFields fields).entry.name ≠ [SLASH] :=
    fun fields he => (parseLineFields_name fields).elim (fun h1 => absurd he h1.2) stored_name_clean
  unfold parseLine at h
  split at h
  · cases h; exact key _ hok
  · cases h
  · cases h; exact key _ hok

/-- non-vacuity: a name spelt with `//`, `..` and a trailing slash is stored clean; the unclean
    spelling itself is not `CleanAbs`; a name that cleans to `/` is refused -/
example : (parseLineFields [b!"file", b!"/opt//a/../x/", b!"uid=3"]).entry.name = b!"/opt/x" ∧
    (parseLineFields [b!"file", b!"/opt//a/../x/", b!"uid=3"]).errors = [] ∧
    ¬ CleanAbs b!"/opt//a/../x/" ∧
    (parseLineFields [b!"dir", b!"/a/.."]).errors = ["no-name"] := by decide +kernel
example : (parseLine b!"file \"/opt/./my dir/\" uid=3").map (fun r => (r.entry.name, r.errors)) =
    .ok (b!"/opt/my dir", []) := by decide +kernel

/-! ### recipe lines (witnesses of the two recipe fixes on the model of the loop in `main`) -/

/-- an unknown keyword and a missing value are reported with their line numbers; blank and
    comment lines count as lines -/
theorem recipe_reports_errors :
    (recipeLoop [b!"# c", b!"bogus keyword", b!"", b!"root"] 1 {}).errors
      = [(2, "unknown-keyword"), (4, "needs-value")] := by decide +kernel

/-- leading blanks do not change what a recipe line means -/
theorem recipe_leading_blanks :
    recipeLoop [b!"  atoms app-misc/extra", b!"\troot  /r "] 1 {} =
    recipeLoop [b!"atoms app-misc/extra", b!"root /r"] 1 {} := by decide +kernel

/-- **The `-root` and `-profile` switches override the recipe** (manual: "The -root
    command-line switch overrides this"), for every recipe text: whatever `root` / `profile`
    lines the recipe holds, a setting given on the command line is the one in force
    (fix "stagemaker: -root and -profile override the recipe"). -/
theorem recipe_switch_overrides (lines : List Bytes) (cmd : Recipe) :
    (cmd.root ≠ [] → (recipeApply lines cmd).root = cmd.root) ∧
    (cmd.profile ≠ [] → (recipeApply lines cmd).profile = cmd.profile) := by
  constructor <;> intro h <;> simp [recipeApply, h]

/-- without the switch the recipe's setting stands, and nothing else of the recipe's outcome
    is touched by the override step -/
theorem recipe_without_switch (lines : List Bytes) (cmd : Recipe) (hr : cmd.root = [])
    (hp : cmd.profile = []) : recipeApply lines cmd = recipeLoop lines 1 cmd := by
  simp [recipeApply, hr, hp]

theorem recipe_override_keeps_rest (lines : List Bytes) (cmd : Recipe) :
    let r := recipeLoop lines 1 cmd
    let a := recipeApply lines cmd
    a.atoms = r.atoms ∧ a.atomFiles = r.atomFiles ∧ a.addFiles = r.addFiles ∧
    a.compress = r.compress ∧ a.nobdeps = r.nobdeps ∧ a.novdb = r.novdb ∧
    a.emptydev = r.emptydev ∧ a.errors = r.errors := by
  simp [recipeApply]

/-- non-vacuity: a recipe that names another root, with and without the switch -/
example : (recipeApply [b!"root /r", b!"profile /p"] { root := b!"/cmd" }).root = b!"/cmd" ∧
          (recipeApply [b!"root /r", b!"profile /p"] { root := b!"/cmd" }).profile = b!"/p" ∧
          (recipeApply [b!"root /r", b!"root /r2"] {}).root = b!"/r2" := by decide +kernel

end Lc.Props.C17
