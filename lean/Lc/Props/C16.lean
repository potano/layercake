/-
  C16 — export links always point at live layers and never clobber foreign entries
  (over the hand-written command model, Lc/Model/Layers.lean).

  All statements are about ANY world (any file-system tree, mount table, fault / crash
  setting, and — unless `pretend = false` is listed — any pretend setting).

  1. `removeLayerExportLinks` (called by rename / remove before anything else):
     `other_layers_untouched`      on every exit the only entries that changed are entries
                                   at/under an automatic export path of THIS layer which was
                                   a symbolic link before; those are gone, nothing is replaced
     `non_symlink_never_removed`   an entry at an automatic export path that is not a link
                                   is still there, unchanged, on every exit
     `non_symlink_refused`         … and the function does not return normally
     `first_non_symlink_refused_exact`  (first path) error "notsymlink", world untouched
  2. `makeSymlinkInDirectory`:
     `links_never_clobber`         every entry that existed before exists unchanged after,
                                   on every exit (nothing is ever replaced or removed)
     `existing_link_kept`          an existing link at the target: nothing happens at all
     `foreign_entry_refused`, `foreign_entry_refused_exact`   a non-link at the target:
                                   never a normal return; without injected faults the error
                                   is os:EEXIST (or the MkdirAll error before it)
  3. `no_old_name_after_remove`, `no_old_name_after_rename`: after a normal non-pretend
     return no entry exists at the automatic export paths of the old name.  Hypotheses
     (explicit, about the path layout only): the export paths are not at/under the
     `~removed` path / the new layer path / any layerconfig (+ ".new") of a layer; the
     layer path is not "/".  `no_old_name_after_remove_placed`,
     `no_old_name_after_rename_placed`: the same with ALL layout hypotheses derived from the
     decidable condition `ExportsApart cfg` on the configuration (Lemmas/ExportsApart) and
     `Placed` (layers lie in `<layerdirs>/<legal name>`, established by `readLayerFiles`).
  4. `links_after_mount_partial`: after a normal non-pretend return of
     `makeExportSymlinks`, each automatic export entry whose source directory existed is a
     symbolic link; it points at that directory when nothing was there before and no
     other (explicit) directive names the same link.  Partial: the "exactly when"
     direction (no link without source) and wrong-target pre-existing links are the
     known finding `export-entry-foreign-or-stale`.
  5. `links_after_mount_chain`: the same composed through the whole `mountCmd`: mount phase
     (name test, base chain, makedirs and mountOne of every chain layer) then the link pass
     over the chain (fix d8f34a4).  After a normal non-pretend return, for EVERY layer of the
     chain root→…→name every automatic export entry whose source exists when the link pass
     begins — in particular if it existed before the command (`links_after_mount_chain_initial`)
     — is a symbolic link.  No hypothesis about the layout is needed.
     `links_after_mount_chain_target_partial`: it points at the layer's directory if the link
     path was free when the pass began and no directive of a chain layer names it with another
     source (that hypothesis is about the configuration; the code does not establish it).
-/
import Lc.Lemmas.ExportLinks
import Lc.Lemmas.ExportPath
import Lc.Lemmas.MountLinks
import Lc.Lemmas.ExportsApart

namespace Lc.Props.C16
open Lc Lc.Layers Lc.Hoare Lc.ExportFs Lc.ExportLinks Lc.MountLinks Lc.MountTrace

/-! ### a concrete instance for the non-vacuity examples -/

def cfgX : Config :=
  { basepath := b!"/lc", layerdirs := b!"/lc/layers", buildRoot := b!"build", binPkg := b!"packages",
    generated := b!"generated", workdir := b!"work", upperdir := b!"upper", exportdirs := b!"/lc/export",
    exportBinPkg := b!"packages", exportGenerated := b!"generated" }

def lX : Layer := { name := b!"base", layerPath := b!"/lc/layers/base", state := S_complete }

def pkgLink : Bytes := b!"/lc/export/packages/base"
def genLink : Bytes := b!"/lc/export/generated/base"

/-- a foreign regular file sits where the packages link would go; the generated link is in place -/
def wForeign : World :=
  { fs := [(b!"/", .dir), (b!"/lc", .dir), (b!"/lc/export", .dir), (b!"/lc/export/packages", .dir),
           (pkgLink, .file b!"mine"), (b!"/lc/export/generated", .dir),
           (genLink, .symlink b!"/lc/layers/base/generated")] }

/-- both links in place, the layer directory with its two source directories -/
def wLinked : World :=
  { fs := [(b!"/", .dir), (b!"/lc", .dir), (b!"/lc/export", .dir), (b!"/lc/export/packages", .dir),
           (pkgLink, .symlink b!"/lc/layers/base/packages"), (b!"/lc/export/generated", .dir),
           (genLink, .symlink b!"/lc/layers/base/generated"),
           (b!"/lc/layers", .dir), (b!"/lc/layers/base", .dir), (b!"/lc/layers/base/layerconfig", .file []),
           (b!"/lc/layers/base/packages", .dir), (b!"/lc/layers/base/generated", .dir)] }

/-- no export tree yet, the layer directory with its two source directories -/
def wFresh : World :=
  { fs := [(b!"/", .dir), (b!"/lc", .dir), (b!"/lc/layers", .dir), (b!"/lc/layers/base", .dir),
           (b!"/lc/layers/base/layerconfig", .file []),
           (b!"/lc/layers/base/packages", .dir), (b!"/lc/layers/base/generated", .dir)] }

def dX : Defs := { layers := [lX], order := [b!"base"] }

theorem autoX : autoExportPaths cfgX lX =
    [(pkgLink, b!"/lc/layers/base/packages"), (genLink, b!"/lc/layers/base/generated")] := by decide +kernel

theorem autoMountsX : autoMounts cfgX lX = [pkgLink, genLink] := by decide +kernel

theorem sepX : ∀ m ∈ autoMounts cfgX lX, Apart (autoMounts cfgX lX) m := by
  rw [autoMountsX]; unfold Apart; decide +kernel

/-! ### 1. `removeLayerExportLinks` -/

/-- On EVERY exit (normal, "notsymlink", injected fault, crash), for every path `p`: the
    entry at `p` is exactly what it was, or it is gone and `p` lies at/under an automatic
    export path of this layer that was a symbolic link.  Entries of other layers, foreign
    files and directories, and anything outside the export tree are therefore untouched,
    and nothing is ever replaced. -/
theorem other_layers_untouched (cfg : Config) (l : Layer) (w0 : World) (p : Bytes) :
    let w := ((removeLayerExportLinks cfg l).run.run w0).2
    Fs.get w.fs p = Fs.get w0.fs p ∨
      (Fs.get w.fs p = none ∧
        ∃ m ∈ autoMounts cfg l, Fs.under m p = true ∧ Fs.isSymlink w0.fs m = true) := by
  have h := extract2 _ _ _ _ (removeLayerExportLinks_spec cfg l w0.fs w0.pretend) w0
    ⟨rfl, RemovedOnly.refl _ _⟩
  exact onAll (R := fun w => RemovedOnly (autoMounts cfg l) w0.fs w.fs) h
    (fun _ _ hq => hq.2.1) (fun _ _ he => he.2) p

/-- a path that is not at/under one of the two automatic export paths keeps its entry -/
theorem outside_untouched (cfg : Config) (l : Layer) (w0 : World) (p : Bytes)
    (hp : ∀ m ∈ autoMounts cfg l, Fs.under m p = false) :
    Fs.get ((removeLayerExportLinks cfg l).run.run w0).2.fs p = Fs.get w0.fs p := by
  rcases other_layers_untouched cfg l w0 p with h | ⟨_, m, hm, hu, _⟩
  · exact h
  · rw [hp m hm] at hu; cases hu

/-- the export entries of a layer with another (clean, single-component) name are
    untouched: distinct names give distinct, non-nested paths (Lemmas/ExportPath) -/
theorem other_names_untouched (cfg : Config) (l : Layer) (w0 : World) (n' : Bytes)
    (hn : ExportPath.CleanName l.name) (hn' : ExportPath.CleanName n') (hne : n' ≠ l.name)
    (sub : Bytes) (hsub : sub = cfg.exportBinPkg ∨ sub = cfg.exportGenerated)
    (hdir : cfg.exportBinPkg = cfg.exportGenerated ∨
      (ExportPath.CleanName cfg.exportBinPkg ∧ ExportPath.CleanName cfg.exportGenerated)) :
    Fs.get ((removeLayerExportLinks cfg l).run.run w0).2.fs (pathJoin [cfg.exportdirs, sub, n']) =
      Fs.get w0.fs (pathJoin [cfg.exportdirs, sub, n']) := by
  apply outside_untouched
  intro m hm
  simp only [autoMounts, autoExportPaths, List.map_cons, List.map_nil, List.mem_cons,
    List.not_mem_nil, or_false] at hm
  rcases hm with rfl | rfl <;> rcases hsub with rfl | rfl
  · exact ExportPath.not_under_of_ne_name _ _ _ _ hn hn' hne
  · rcases hdir with he | ⟨h1, h2⟩
    · rw [he]; exact ExportPath.not_under_of_ne_name _ _ _ _ hn hn' hne
    · by_cases he : cfg.exportBinPkg = cfg.exportGenerated
      · rw [he]; exact ExportPath.not_under_of_ne_name _ _ _ _ hn hn' hne
      · exact ExportPath.not_under_of_ne_dir _ _ _ _ _ h1 h2 hn hn' he
  · rcases hdir with he | ⟨h1, h2⟩
    · rw [he]; exact ExportPath.not_under_of_ne_name _ _ _ _ hn hn' hne
    · by_cases he : cfg.exportGenerated = cfg.exportBinPkg
      · rw [he]; exact ExportPath.not_under_of_ne_name _ _ _ _ hn hn' hne
      · exact ExportPath.not_under_of_ne_dir _ _ _ _ _ h2 h1 hn hn' he
  · exact ExportPath.not_under_of_ne_name _ _ _ _ hn hn' hne

-- non-vacuity: layer names "base" / "other" under the two export sub-directories
example : ExportPath.CleanName lX.name ∧ ExportPath.CleanName b!"other" ∧ b!"other" ≠ lX.name ∧
    ExportPath.CleanName cfgX.exportBinPkg ∧ ExportPath.CleanName cfgX.exportGenerated := by
  unfold ExportPath.CleanName Lemmas.Path.Good
  decide +kernel

/-- An entry at an automatic export path that is NOT a symbolic link is never removed or
    replaced, whatever the exit.  Hypothesis `Apart`: the other automatic path of the same
    layer is not a proper ancestor of this one (in the model a link may have entries
    "under" it; on a real file system it cannot). -/
theorem non_symlink_never_removed (cfg : Config) (l : Layer) (w0 : World) (m : Bytes) (n : Fs.Node)
    (hm : m ∈ autoMounts cfg l) (hsep : Apart (autoMounts cfg l) m)
    (hn : Fs.get w0.fs m = some n) (hns : Fs.isSymlink w0.fs m = false) :
    Fs.get ((removeLayerExportLinks cfg l).run.run w0).2.fs m = some n := by
  rcases other_layers_untouched cfg l w0 m with h | ⟨_, m', hm', hu, hsym⟩
  · rw [h, hn]
  · by_cases hmm : m' = m
    · subst hmm; rw [hns] at hsym; cases hsym
    · rw [hsep m' hm' hmm] at hu; cases hu

/-- … and the function refuses: it never returns normally (so rename / remove stop
    before touching the layer directory). -/
theorem non_symlink_refused (cfg : Config) (l : Layer) (w0 : World) (m : Bytes)
    (hm : m ∈ autoMounts cfg l) (hsep : Apart (autoMounts cfg l) m)
    (he : Fs.lexists w0.fs m = true) (hns : Fs.isSymlink w0.fs m = false) :
    ∀ u, ((removeLayerExportLinks cfg l).run.run w0).1 ≠ .ok u := by
  intro u hu
  have h := extract2 _ _ _ _ (removeLayerExportLinks_spec cfg l w0.fs w0.pretend) w0
    ⟨rfl, RemovedOnly.refl _ _⟩
  have h2 := (onOk h u hu).2.2.2 m hm hsep he
  rw [hns] at h2; cases h2

/-- first automatic path (packages): the error is exactly "notsymlink" and the world —
    tree, mount table, operation counter, trace — is untouched -/
theorem first_non_symlink_refused_exact (cfg : Config) (l : Layer) (w0 : World)
    (he : Fs.lexists w0.fs (pathJoin [cfg.exportdirs, cfg.exportBinPkg, l.name]) = true)
    (hns : Fs.isSymlink w0.fs (pathJoin [cfg.exportdirs, cfg.exportBinPkg, l.name]) = false) :
    (removeLayerExportLinks cfg l).run.run w0 = (.error (.err "notsymlink"), w0) :=
  removeLayerExportLinks_first_refused_run cfg l w0 he hns

-- non-vacuity: a foreign file at the packages link
example : pkgLink ∈ autoMounts cfgX lX ∧ Apart (autoMounts cfgX lX) pkgLink ∧
    Fs.get wForeign.fs pkgLink = some (.file b!"mine") ∧ Fs.isSymlink wForeign.fs pkgLink = false ∧
    Fs.lexists wForeign.fs pkgLink = true := by
  unfold Apart
  decide +kernel

example : (removeLayerExportLinks cfgX lX).run.run wForeign = (.error (.err "notsymlink"), wForeign) :=
  first_non_symlink_refused_exact cfgX lX wForeign (by decide +kernel) (by decide +kernel)

-- the disjunction of `other_layers_untouched` is not always its left half: links do go
example : Fs.isSymlink wLinked.fs pkgLink = true ∧
    Fs.get ((removeLayerExportLinks cfgX lX).run.run wLinked).2.fs pkgLink = none := by
  have h := extract2 _ _ _ _ (removeLayerExportLinks_spec cfgX lX wLinked.fs false) wLinked
    ⟨rfl, RemovedOnly.refl _ _⟩
  have hok : ((removeLayerExportLinks cfgX lX).run.run wLinked).1 = .ok () := isOk_unit _ (by decide +kernel)
  exact ⟨by decide +kernel, (onOk h () hok).2.2.1 rfl pkgLink (by rw [autoMountsX]; decide +kernel)⟩

/-! ### 2. `makeSymlinkInDirectory` -/

/-- On EVERY exit every entry that existed before still exists, unchanged: the function
    never removes or replaces anything (it can only add directories and the one link). -/
theorem links_never_clobber (source target : Bytes) (w0 : World) (q : Bytes) (n : Fs.Node)
    (hq : Fs.get w0.fs q = some n) :
    Fs.get ((makeSymlinkInDirectory source target).run.run w0).2.fs q = some n := by
  have h := extract2 _ _ _ _
    (makeSymlinkInDirectory_spec [(target, source)] w0.fs w0.pretend [] source target) w0
    ⟨rfl, Added.refl _ _, by simp, by simp⟩
  exact onAll (R := fun w => Fs.get w.fs q = some n) h
    (fun _ _ hh => hh.2.1.keeps q n hq) (fun _ _ hh => hh.2.1.keeps q n hq)

/-- the only new entries are directories and the link `target → source` -/
theorem links_only_add (source target : Bytes) (w0 : World) (q : Bytes) :
    let w := ((makeSymlinkInDirectory source target).run.run w0).2
    Fs.get w.fs q = Fs.get w0.fs q ∨
      (Fs.get w0.fs q = none ∧
        (Fs.get w.fs q = some .dir ∨ (q = target ∧ Fs.get w.fs q = some (.symlink source)))) := by
  have h := extract2 _ _ _ _
    (makeSymlinkInDirectory_spec [(target, source)] w0.fs w0.pretend [] source target) w0
    ⟨rfl, Added.refl _ _, by simp, by simp⟩
  have ha := onAll (R := fun w => Added [(target, source)] w0.fs w.fs) h
    (fun _ _ hh => hh.2.1) (fun _ _ hh => hh.2.1)
  rcases ha q with h1 | ⟨h1, h2 | ⟨e, he, h3, h4⟩⟩
  · exact Or.inl h1
  · exact Or.inr ⟨h1, Or.inl h2⟩
  · have : e = (target, source) := by simpa using he
    subst this
    exact Or.inr ⟨h1, Or.inr ⟨h3.symm, h4⟩⟩

/-- an existing symbolic link at the target (right or wrong destination): nothing happens
    at all — no operation, no fault point, same world -/
theorem existing_link_kept (source target : Bytes) (w0 : World)
    (h : Fs.isSymlink w0.fs target = true) :
    (makeSymlinkInDirectory source target).run.run w0 = (.ok (), w0) := by
  have h := extract2 _ _ _ _ (makeSymlink_existing_link source target w0 h) w0 rfl
  generalize (makeSymlinkInDirectory source target).run.run w0 = r at h
  obtain ⟨x, w'⟩ := r
  unfold Outcome at h
  cases x with
  | ok u => simp only at h; rw [h]
  | error e => exact h.elim

/-- a non-link at the target: never a normal return when not pretending (os.Symlink
    fails with EEXIST, or something fails before it) -/
theorem foreign_entry_refused (source target : Bytes) (w0 : World) (hp : w0.pretend = false)
    (he : Fs.lexists w0.fs target = true) (hns : Fs.isSymlink w0.fs target = false) :
    ∀ u, ((makeSymlinkInDirectory source target).run.run w0).1 ≠ .ok u := by
  intro u hu
  have h := extract2 _ _ _ _
    (makeSymlinkInDirectory_spec [(target, source)] w0.fs w0.pretend [] source target) w0
    ⟨rfl, Added.refl _ _, by simp, by simp⟩
  have h2 := onOk h u hu
  have hs := h2.2.2.2 hp
  cases hg : Fs.get w0.fs target with
  | none => simp [Fs.lexists, hg] at he
  | some n =>
    have hk := h2.2.1.keeps target n hg
    obtain ⟨t, ht⟩ := (isSymlink_iff _ _).mp hs
    rw [hk] at ht
    cases ht
    simp [Fs.isSymlink, hg] at hns

/-- … and with no injected fault or crash the error is exactly os:EEXIST, unless the
    MkdirAll of the parent directory failed first (then it is that error) -/
theorem foreign_entry_refused_exact (source target : Bytes) (w0 : World) (hp : w0.pretend = false)
    (hc : w0.crashAt = none) (hf : w0.faultAt = none)
    (he : Fs.lexists w0.fs target = true) (hns : Fs.isSymlink w0.fs target = false) :
    let r := (makeSymlinkInDirectory source target).run.run w0
    r.1 = .error (.err "os:EEXIST") ∨
      (Fs.isDir w0.fs (pathDir target) = false ∧
        ∃ s, Fs.mkdirAll w0.fs (pathDir target) = .error s ∧ r.1 = .error (.err ("os:" ++ s))) := by
  have h := extract2 _ _ _ _ (makeSymlink_refuses_exact source target w0.fs he hns) w0
    ⟨⟨hp, hc, hf⟩, rfl⟩
  obtain ⟨e, h1, _, h2⟩ := neverOk h
  rcases h2 with h2 | ⟨h3, s, h4, h5⟩
  · left; rw [h1, h2]
  · right; exact ⟨h3, s, h4, by rw [h1, h5]⟩

theorem mkdirAll_keeps_entries (fs fs' : Fs.Tree) (p q : Bytes) (n : Fs.Node)
    (h : Fs.mkdirAll fs p = .ok fs') (hq : Fs.get fs q = some n) : Fs.get fs' q = some n :=
  mkdirAll_keeps_get fs fs' p q n h hq

-- non-vacuity
example : Fs.get wForeign.fs pkgLink = some (.file b!"mine") ∧ wForeign.pretend = false ∧
    wForeign.crashAt = none ∧ wForeign.faultAt = none ∧
    Fs.lexists wForeign.fs pkgLink = true ∧ Fs.isSymlink wForeign.fs pkgLink = false ∧
    Fs.isSymlink wForeign.fs genLink = true := by decide +kernel

example : ((makeSymlinkInDirectory b!"/lc/layers/base/packages" pkgLink).run.run wForeign).1
    = .error (.err "os:EEXIST") := by
  rcases foreign_entry_refused_exact b!"/lc/layers/base/packages" pkgLink wForeign rfl rfl rfl
    (by decide +kernel) (by decide +kernel) with h | ⟨h, _⟩
  · exact h
  · rw [show Fs.isDir wForeign.fs (pathDir pkgLink) = true from by decide +kernel] at h; cases h

/-! ### 3. no export entry with the old name after remove / rename -/

/-- `removeLayer` (both variants: delete the files, or rename to `~removed`): after a
    normal non-pretend return nothing exists at the automatic export paths of the layer.
    Hypotheses about the layout only: the layer directory is not "/", and the export
    paths do not lie at/under `<layer>~removed`. -/
theorem no_old_name_after_remove (cfg : Config) (d : Defs) (name : Bytes) (files : Bool) (w0 : World)
    (hp : w0.pretend = false) (l : Layer) (hl : findLayer d name = some l)
    (hlp : l.layerPath ≠ b!"/")
    (hsep : ∀ m ∈ autoMounts cfg l, Fs.under (l.layerPath ++ removedSuffix) m = false)
    (d' : Defs) (hok : ((removeLayer cfg d name files).run.run w0).1 = .ok d') :
    ∀ e ∈ autoExportPaths cfg l,
      Fs.lexists ((removeLayer cfg d name files).run.run w0).2.fs e.1 = false := by
  have h := extract2 _ _ _ _ (removeLayer_spec cfg d name files l hl hlp hsep w0.fs) w0 ⟨hp, rfl⟩
  have h2 := (onOk h d' hok).2
  intro e he
  exact (lexists_false_iff _ _).mpr (h2 e.1 (List.mem_map.mpr ⟨e, he, rfl⟩))

/-- `renameLayer` (complete: export links, directory rename, rewriting the layerconfig of
    every child and of the renamed layer): after a normal non-pretend return nothing
    exists at the automatic export paths of the OLD name.  Hypotheses about the layout
    only: the layer directory is not "/"; the old export paths do not lie at/under the
    new layer directory, nor at/under a layerconfig (or equal to its ".new" temporary) of
    any layer or of the renamed layer. -/
theorem no_old_name_after_rename (cfg : Config) (d : Defs) (oldname newname : Bytes) (co : List Bytes)
    (w0 : World) (hp : w0.pretend = false) (l : Layer) (hl : findLayer d oldname = some l)
    (hlp : l.layerPath ≠ b!"/")
    (hsep : ∀ m ∈ autoMounts cfg l, Fs.under (layerPath cfg newname) m = false)
    (hkids : ∀ k ∈ d.layers, ClearOfConfig (autoMounts cfg l) k)
    (hnew : ClearOfConfig (autoMounts cfg l) { l with name := newname, layerPath := layerPath cfg newname })
    (d' : Defs) (hok : ((renameLayer cfg d oldname newname co).run.run w0).1 = .ok d') :
    ∀ e ∈ autoExportPaths cfg l,
      Fs.lexists ((renameLayer cfg d oldname newname co).run.run w0).2.fs e.1 = false := by
  have h := extract2 _ _ _ _
    (renameLayer_spec cfg d oldname newname co l hl hlp hsep hkids hnew w0.fs) w0 ⟨hp, rfl⟩
  have h2 := (onOk h d' hok).2
  intro e he
  exact (lexists_false_iff _ _).mpr (h2 e.1 (List.mem_map.mpr ⟨e, he, rfl⟩))

/-- `no_old_name_after_remove` with its layout hypotheses (`l.layerPath ≠ "/"`, no export path
    at/under `<layer>~removed`) derived: `ExportsApart cfg` (decidable, configuration only) and
    `Placed cfg l` (the layer lies in `<layerdirs>/<legal name>`). -/
theorem no_old_name_after_remove_placed (cfg : Config) (d : Defs) (name : Bytes) (files : Bool) (w0 : World)
    (hp : w0.pretend = false) (l : Layer) (hl : findLayer d name = some l)
    (hA : ExportsApart.ExportsApart cfg) (hpl : LayerPaths.Placed cfg l)
    (d' : Defs) (hok : ((removeLayer cfg d name files).run.run w0).1 = .ok d') :
    ∀ e ∈ autoExportPaths cfg l,
      Fs.lexists ((removeLayer cfg d name files).run.run w0).2.fs e.1 = false :=
  no_old_name_after_remove cfg d name files w0 hp l hl (ExportsApart.placed_ne_root cfg l hpl)
    (fun m hm => by
      have := (ExportsApart.exportsApart_below cfg hA l hpl l.name hpl.2.1 hpl.2.2 m hm).2
      rw [← hpl.1] at this
      exact this) d' hok

/-- `no_old_name_after_rename` with ALL its layout hypotheses derived: `ExportsApart cfg` and a
    table whose layers are `Placed` (as `findLayers` builds it).  That the new name is legal
    follows from the normal return. -/
theorem no_old_name_after_rename_placed (cfg : Config) (d : Defs) (oldname newname : Bytes) (co : List Bytes)
    (w0 : World) (hp : w0.pretend = false) (l : Layer) (hl : findLayer d oldname = some l)
    (hA : ExportsApart.ExportsApart cfg) (hd : ∀ k ∈ d.layers, LayerPaths.Placed cfg k)
    (d' : Defs) (hok : ((renameLayer cfg d oldname newname co).run.run w0).1 = .ok d') :
    ∀ e ∈ autoExportPaths cfg l,
      Fs.lexists ((renameLayer cfg d oldname newname co).run.run w0).2.fs e.1 = false := by
  obtain ⟨hn1, hn2, _⟩ := ExportsApart.renameLayer_ok_newname cfg d oldname newname co w0 d' hok
  have hpl := hd l (ForestInv.findLayer_mem hl).1
  exact no_old_name_after_rename cfg d oldname newname co w0 hp l hl
    (ExportsApart.placed_ne_root cfg l hpl)
    (fun m hm => (ExportsApart.exportsApart_below cfg hA l hpl newname hn1 hn2 m hm).1)
    (fun k hk => ExportsApart.clearOfConfig_of_apart cfg hA l hpl k (hd k hk))
    (ExportsApart.clearOfConfig_of_apart cfg hA l hpl _ (ExportsApart.placed_renamed cfg l newname hn1 hn2))
    d' hok

-- non-vacuity of the two `_placed` theorems: the concrete configuration is apart, the layer placed
example : ExportsApart.ExportsApart cfgX ∧ (∀ k ∈ dX.layers, LayerPaths.Placed cfgX k) ∧
    findLayer dX b!"base" = some lX := by
  unfold LayerPaths.Placed; decide +kernel

-- `ExportsApart` is needed: with the export tree inside `<layer>~removed`
-- (`exportdirs = /lc/layers/base~removed/x`) the condition fails, and so does the hypothesis
-- `hsep` of `no_old_name_after_remove` (the links lie at/under `<layer>~removed`, so the
-- directory rename would put entries back at/under them)
example :
    let bad : Config := { cfgX with exportdirs := b!"/lc/layers/base~removed/x" }
    ¬ ExportsApart.ExportsApart bad ∧
    ¬ (∀ m ∈ autoMounts bad lX, Fs.under (lX.layerPath ++ removedSuffix) m = false) := by
  refine ⟨by decide +kernel, by decide +kernel⟩

-- non-vacuity: the hypotheses hold for the concrete layer with both links in place, and
-- the two commands do return normally there
example : findLayer dX b!"base" = some lX ∧ lX.layerPath ≠ b!"/" ∧
    (∀ m ∈ autoMounts cfgX lX, Fs.under (lX.layerPath ++ removedSuffix) m = false) ∧
    (∀ m ∈ autoMounts cfgX lX, Fs.under (layerPath cfgX b!"other") m = false) ∧
    (∀ k ∈ dX.layers, ClearOfConfig (autoMounts cfgX lX) k) ∧
    ClearOfConfig (autoMounts cfgX lX) { lX with name := b!"other", layerPath := layerPath cfgX b!"other" } := by
  rw [autoMountsX]
  unfold ClearOfConfig
  decide +kernel

example : ∃ d', ((removeLayer cfgX dX b!"base" true).run.run wLinked).1 = .ok d' := by
  exact isOk_ex _ (by decide +kernel)

/-! ### 4. links after mount -/

/-- `makeExportSymlinks` (run for every chain layer once the whole chain is mounted):
    after a normal non-pretend return, each automatic export entry whose source directory
    existed is a symbolic link; and it points at that directory if nothing was at the
    link path before and every other directive naming the same link path (explicit
    `export` lines, the other automatic entry) has the same source.
    Partial: says nothing when an entry with another target or type was there before
    (left as it is: finding `export-entry-foreign-or-stale`), nor the converse direction
    (no link is made for a missing directory). -/
theorem links_after_mount_partial (cfg : Config) (l : Layer) (w0 : World) (hp : w0.pretend = false)
    (hok : ((makeExportSymlinks cfg l).run.run w0).1 = .ok ()) (mnt src : Bytes)
    (hmem : (mnt, src) ∈ autoExportPaths cfg l) (hsrc : Fs.lexists w0.fs src = true) :
    Fs.isSymlink ((makeExportSymlinks cfg l).run.run w0).2.fs mnt = true ∧
    (Fs.lexists w0.fs mnt = false → (∀ e ∈ exportPairs cfg l, e.1 = mnt → e.2 = src) →
      Fs.get ((makeExportSymlinks cfg l).run.run w0).2.fs mnt = some (.symlink src)) := by
  have h := extract2 _ _ _ _ (makeExportSymlinks_spec cfg l w0.fs w0.pretend) w0
    ⟨rfl, Added.refl _ _⟩
  have h2 := onOk h () hok
  have hs := h2.2.2 hp (mnt, src) hmem hsrc
  refine ⟨hs, fun hn huniq => ?_⟩
  obtain ⟨t, ht⟩ := (isSymlink_iff _ _).mp hs
  rcases h2.2.1 mnt with h3 | ⟨_, h3 | ⟨e, he, h4, h5⟩⟩
  · rw [(lexists_false_iff _ _).mp hn] at h3
    rw [h3] at ht; cases ht
  · rw [h3] at ht; cases ht
  · rw [h5, huniq e he h4]

/-- the source directories and everything else that existed stay as they were -/
theorem mount_links_keep_entries (cfg : Config) (l : Layer) (w0 : World) (q : Bytes) (n : Fs.Node)
    (hq : Fs.get w0.fs q = some n) :
    Fs.get ((makeExportSymlinks cfg l).run.run w0).2.fs q = some n := by
  have h := extract2 _ _ _ _ (makeExportSymlinks_spec cfg l w0.fs w0.pretend) w0
    ⟨rfl, Added.refl _ _⟩
  exact onAll (R := fun w => Fs.get w.fs q = some n) h
    (fun _ _ hh => hh.2.1.keeps q n hq) (fun _ _ hh => hh.2.keeps q n hq)

-- non-vacuity: fresh export tree, both source directories present, no explicit exports
set_option maxHeartbeats 2000000 in
set_option maxRecDepth 8000 in
example : wFresh.pretend = false ∧ ((makeExportSymlinks cfgX lX).run.run wFresh).1 = .ok () ∧
    (pkgLink, b!"/lc/layers/base/packages") ∈ autoExportPaths cfgX lX ∧
    Fs.lexists wFresh.fs b!"/lc/layers/base/packages" = true ∧ Fs.lexists wFresh.fs pkgLink = false ∧
    (∀ e ∈ exportPairs cfgX lX, e.1 = pkgLink → e.2 = b!"/lc/layers/base/packages") := by
  exact ⟨rfl, isOk_unit _ (by decide +kernel), by decide +kernel, by decide +kernel,
    by decide +kernel, by decide +kernel⟩

/-! ### 5. links after mount, composed through `mountCmd` -/

/-- what the composition lemma `mountCmd_links` gives, with the layers of the chain as the
    caller's `Defs` has them (the mount phase changes neither names, directories nor export
    directives: `SamePaths`) -/
theorem mountCmd_links_chain (cfg : Config) (d : Defs) (name : Bytes) (w0 : World) (hp : w0.pretend = false)
    (d' : Defs) (hok : ((mountCmd cfg d name).run.run w0).1 = .ok d') :
    ∃ chain wm, BaseChain d chain name ∧ (mountPhase cfg d name).run.run w0 = (.ok (chain, d'), wm) ∧
      Added [] w0.fs wm.fs ∧
      Added (chain.flatMap (exportPairs cfg)) wm.fs ((mountCmd cfg d name).run.run w0).2.fs ∧
      ∀ a ∈ chain, ∀ e ∈ autoExportPaths cfg a, Fs.lexists wm.fs e.2 = true →
        Fs.isSymlink ((mountCmd cfg d name).run.run w0).2.fs e.1 = true := by
  obtain ⟨chain, wm, hph, hbc, hsp, hgrow, hadd, hlinks⟩ := mountCmd_links cfg d name w0 hp d' hok
  have hsame : ∀ a ∈ chain, ∀ k, findLayer d' a.name = some k →
      autoExportPaths cfg k = autoExportPaths cfg a ∧ exportPairs cfg k = exportPairs cfg a := by
    intro a ha k hk
    obtain ⟨l, hl, e1, e2, e3⟩ := hsp a.name k hk
    rw [MountLinks.BaseChain.mem_find hbc a ha] at hl
    cases hl
    exact exportPairs_congr cfg a k e1 e2 e3
  refine ⟨chain, wm, hbc, hph, hgrow, ?_, ?_⟩
  · apply hadd.mono
    intro e he
    unfold chainPairs at he
    obtain ⟨a, ha, hea⟩ := List.mem_flatMap.mp he
    cases hk : findLayer d' a.name with
    | none => rw [hk] at hea; cases hea
    | some k =>
      rw [hk] at hea
      change e ∈ exportPairs cfg k at hea
      rw [(hsame a ha k hk).2] at hea
      exact List.mem_flatMap.mpr ⟨a, ha, hea⟩
  · intro a ha e he hsrc
    obtain ⟨k, hk, hl⟩ := hlinks a ha
    rw [← (hsame a ha k hk).1] at he
    exact hl e he hsrc

/-- **links_after_mount_chain**: after a successful non-pretend `mountCmd cfg d name`
    (a normal return excludes a fired fault), let `chain` be the base chain root→…→name
    (`BaseChain`, unique) and `wm` the world in which the link pass begins, i.e. the world the
    mount phase `mountPhase` (name test, chain, `makedirs` and `mountOne` of every chain layer)
    ends in.  Then for EVERY layer `a` of the chain and every automatic export entry
    `(mnt, src) ∈ autoExportPaths cfg a` whose source exists in `wm`, `mnt` is a symbolic link in
    the final world.  `wm`'s tree is the initial tree plus directories (`Added []`), so sources
    created by the mount phase itself (`mountOne` makes missing import sources inside the
    layer tree — the reason for fix d8f34a4) count.  No hypothesis about the layout. -/
theorem links_after_mount_chain (cfg : Config) (d : Defs) (name : Bytes) (w0 : World) (hp : w0.pretend = false)
    (d' : Defs) (hok : ((mountCmd cfg d name).run.run w0).1 = .ok d')
    (chain : List Layer) (hchain : BaseChain d chain name) :
    ∃ wm, (mountPhase cfg d name).run.run w0 = (.ok (chain, d'), wm) ∧ Added [] w0.fs wm.fs ∧
      ∀ a ∈ chain, ∀ mnt src, (mnt, src) ∈ autoExportPaths cfg a → Fs.lexists wm.fs src = true →
        Fs.isSymlink ((mountCmd cfg d name).run.run w0).2.fs mnt = true := by
  obtain ⟨chain', wm, hbc, hph, hgrow, _, hlinks⟩ := mountCmd_links_chain cfg d name w0 hp d' hok
  have := MountLinks.BaseChain.unique hbc hchain
  subst this
  exact ⟨wm, hph, hgrow, fun a ha mnt src he hsrc => hlinks a ha (mnt, src) he hsrc⟩

/-- … in particular for every source directory that existed BEFORE the command -/
theorem links_after_mount_chain_initial (cfg : Config) (d : Defs) (name : Bytes) (w0 : World)
    (hp : w0.pretend = false) (d' : Defs) (hok : ((mountCmd cfg d name).run.run w0).1 = .ok d')
    (chain : List Layer) (hchain : BaseChain d chain name) (a : Layer) (ha : a ∈ chain) (mnt src : Bytes)
    (hmem : (mnt, src) ∈ autoExportPaths cfg a) (hsrc : Fs.lexists w0.fs src = true) :
    Fs.isSymlink ((mountCmd cfg d name).run.run w0).2.fs mnt = true := by
  obtain ⟨wm, _, hgrow, hlinks⟩ := links_after_mount_chain cfg d name w0 hp d' hok chain hchain
  exact hlinks a ha mnt src hmem (hgrow.lexists src hsrc)

/-- **the link points at the layer's directory** when the link path was free as the link pass
    began and every directive of a chain layer (explicit `export` lines and the automatic
    entries) that names this link path has this source.  Partial: the second hypothesis is about
    the configuration — two directives may name one link path with different sources, then the
    first one made wins — and the code does not establish it; an entry that was already there
    is left as it is (finding `export-entry-foreign-or-stale`). -/
theorem links_after_mount_chain_target_partial (cfg : Config) (d : Defs) (name : Bytes) (w0 : World)
    (hp : w0.pretend = false) (d' : Defs) (hok : ((mountCmd cfg d name).run.run w0).1 = .ok d')
    (chain : List Layer) (hchain : BaseChain d chain name) :
    ∃ wm, (mountPhase cfg d name).run.run w0 = (.ok (chain, d'), wm) ∧ Added [] w0.fs wm.fs ∧
      ∀ a ∈ chain, ∀ mnt src, (mnt, src) ∈ autoExportPaths cfg a → Fs.lexists wm.fs src = true →
        Fs.lexists wm.fs mnt = false →
        (∀ b ∈ chain, ∀ e ∈ exportPairs cfg b, e.1 = mnt → e.2 = src) →
        Fs.get ((mountCmd cfg d name).run.run w0).2.fs mnt = some (.symlink src) := by
  obtain ⟨chain', wm, hbc, hph, hgrow, hadd, hlinks⟩ := mountCmd_links_chain cfg d name w0 hp d' hok
  have := MountLinks.BaseChain.unique hbc hchain
  subst this
  refine ⟨wm, hph, hgrow, fun a ha mnt src he hsrc hfree huniq => ?_⟩
  have hs := hlinks a ha (mnt, src) he hsrc
  obtain ⟨t, ht⟩ := (isSymlink_iff _ _).mp hs
  rcases hadd mnt with h3 | ⟨_, h3 | ⟨e, he', h4, h5⟩⟩
  · rw [(lexists_false_iff _ _).mp hfree] at h3
    rw [h3] at ht; cases ht
  · rw [h3] at ht; cases ht
  · obtain ⟨b, hb, heb⟩ := List.mem_flatMap.mp he'
    rw [h5, huniq b hb e heb h4]

/-- nothing that existed before the command is removed or replaced by it (any exit of the
    mount phase and the link pass is covered by `Added`; stated here for the normal return) -/
theorem mount_chain_keeps_entries (cfg : Config) (d : Defs) (name : Bytes) (w0 : World)
    (hp : w0.pretend = false) (d' : Defs) (hok : ((mountCmd cfg d name).run.run w0).1 = .ok d')
    (q : Bytes) (n : Fs.Node) (hq : Fs.get w0.fs q = some n) :
    Fs.get ((mountCmd cfg d name).run.run w0).2.fs q = some n := by
  obtain ⟨_, wm, _, _, hgrow, hadd, _⟩ := mountCmd_links_chain cfg d name w0 hp d' hok
  exact hadd.keeps q n (hgrow.keeps q n hq)

/-! non-vacuity of section 5.  The whole command is evaluated on a base layer without imports
    (nothing gets mounted, the chain has one layer), and the multi-layer composition on the link
    pass alone.  (A `mount` over two layers that issues mount calls is evaluated in Props/C01,
    `Example.wF_run`.) -/

def lB : Layer := { name := b!"base", layerPath := b!"/lc/layers/base", state := S_mountable }
def dB : Defs := { layers := [lB], order := [b!"base"] }

theorem ex_chainB : BaseChain dB [lB] b!"base" := by
  have h := BaseChain.snoc (d := dB) (c := []) (l := lB) (n := b!"base") rfl (by decide) (BaseChain.nil rfl)
  simpa using h

set_option maxRecDepth 8000 in
/-- the hypotheses of `links_after_mount_chain(_initial)` hold: the command returns normally
    from the fresh world, whose tree has both source directories and no export tree -/
theorem ex_mountB_ok : ∃ d', ((mountCmd cfgX dB b!"base").run.run wFresh).1 = .ok d' :=
  isOk_ex _ (by decide +kernel)

example : wFresh.pretend = false ∧ (pkgLink, b!"/lc/layers/base/packages") ∈ autoExportPaths cfgX lB ∧
    Fs.lexists wFresh.fs b!"/lc/layers/base/packages" = true ∧ Fs.lexists wFresh.fs pkgLink = false := by
  decide +kernel

/-- the conclusion is not trivial: the link was not there, and by the theorem it is after the command -/
example : Fs.isSymlink ((mountCmd cfgX dB b!"base").run.run wFresh).2.fs pkgLink = true := by
  obtain ⟨d', hok⟩ := ex_mountB_ok
  exact links_after_mount_chain_initial cfgX dB b!"base" wFresh rfl d' hok [lB] ex_chainB lB (by simp)
    pkgLink b!"/lc/layers/base/packages" (by decide +kernel) (by decide +kernel)

set_option maxRecDepth 8000 in
/-- cross-check by evaluating the model: the link is there and points at the layer's directory
    (what `links_after_mount_chain_target_partial` says for a free path) -/
example : Fs.get ((mountCmd cfgX dB b!"base").run.run wFresh).2.fs pkgLink =
    some (.symlink b!"/lc/layers/base/packages") := by decide +kernel

/-- two layers: `dev` sits on `base`; `dev` has a packages directory but no generated directory -/
def lD : Layer := { name := b!"dev", base := b!"base", layerPath := b!"/lc/layers/dev", state := S_mounted }
def dBD : Defs := { layers := [lB, lD], order := [b!"base", b!"dev"] }
def wTwo : World :=
  { fs := wFresh.fs ++ [(b!"/lc/layers/dev", .dir), (b!"/lc/layers/dev/packages", .dir)] }

example : BaseChain dBD [lB, lD] b!"dev" := by
  have h1 : BaseChain dBD [lB] b!"base" := by
    have h := BaseChain.snoc (d := dBD) (c := []) (l := lB) (n := b!"base") rfl (by decide) (BaseChain.nil rfl)
    simpa using h
  have h := BaseChain.snoc (d := dBD) (c := [lB]) (l := lD) (n := b!"dev") rfl (by decide) h1
  simpa using h

set_option maxRecDepth 8000 in
/-- the link pass over the chain returns normally … -/
theorem ex_linkTwo_ok : ((linkChain cfgX dBD [lB, lD]).run.run wTwo).1 = .ok PUnit.unit := by
  cases h : ((linkChain cfgX dBD [lB, lD]).run.run wTwo).1 with
  | ok u => rfl
  | error e =>
    have : isOk ((linkChain cfgX dBD [lB, lD]).run.run wTwo).1 = true := by decide +kernel
    rw [h] at this
    cases this

/-- … and by `linkChain_run` every automatic entry of BOTH layers whose source exists is a link:
    three links (the ancestor's two and the packages link of `dev`) -/
example : ∀ a ∈ [lB, lD], ∃ k, findLayer dBD a.name = some k ∧ ∀ e ∈ autoExportPaths cfgX k,
    Fs.lexists wTwo.fs e.2 = true →
      Fs.isSymlink ((linkChain cfgX dBD [lB, lD]).run.run wTwo).2.fs e.1 = true :=
  (linkChain_run cfgX dBD [lB, lD] wTwo rfl PUnit.unit ex_linkTwo_ok).2.2

example : Fs.lexists wTwo.fs b!"/lc/layers/dev/packages" = true ∧
    Fs.lexists wTwo.fs b!"/lc/layers/dev/generated" = false ∧
    (b!"/lc/export/packages/dev", b!"/lc/layers/dev/packages") ∈ autoExportPaths cfgX lD := by decide +kernel

set_option maxRecDepth 8000 in
/-- cross-check by evaluating the model: `dev`'s packages link points at its directory, and no
    link was made for its missing generated directory -/
example : Fs.get ((linkChain cfgX dBD [lB, lD]).run.run wTwo).2.fs b!"/lc/export/packages/dev" =
      some (.symlink b!"/lc/layers/dev/packages") ∧
    Fs.get ((linkChain cfgX dBD [lB, lD]).run.run wTwo).2.fs b!"/lc/export/generated/dev" = none := by
  decide +kernel

end Lc.Props.C16
