/-
  C14 — package atoms and dependency strings parse into the structure they denote.

  Model: Lc/Model/AtomParse.lean, Lc/Model/Depend.lean (the Go code after the `fix:`
  commits).  Specification: Lc/Spec/DepGrammar.lean (abstract syntax, printers).
-/
import Lc.Model.Depend
import Lc.Spec.DepGrammar
import Lc.Lemmas.Depend
import Lc.Lemmas.DependLayout

namespace Lc.Props.C14
open Lc Lc.AtomParse Lc.Depend Lc.Spec.DepGrammar Lc.Lemmas.Depend Lc.Lemmas.DependLayout

/-! ### trees of the grammar as values of the model's result type -/

mutual
def embed (f : AtomAst → ParsedAtom) : Dep → MDep
  | .atom a => .atom (f a)
  | .allOf ds => .cond pkgDepAll [] (embedL f ds)
  | .anyOf ds => .cond pkgDepAnyOf [] (embedL f ds)
  | .exactlyOne ds => .cond pkgDepExactlyOneOf [] (embedL f ds)
  | .atMostOne ds => .cond pkgDepAtMostOneOf [] (embedL f ds)
  | .useCond fl neg ds => .cond (if neg then pkgDepWhenUseUnset else pkgDepWhenUseSet) fl (embedL f ds)
def embedL (f : AtomAst → ParsedAtom) : DepL → MDepL
  | .nil => .nil
  | .cons d ds => .cons (embed f d) (embedL f ds)
end

/-- The atom parser reads the printed atom `a` as `f a`, consuming exactly its text, whenever
    whitespace or the end of input follows; and the tokenizer classifies the text as an atom.
    (A hypothesis of `dep_roundtrip`: it is not proved here for the atoms of the grammar.) -/
def AtomOK (f : AtomAst → ParsedAtom) (a : AtomAst) : Prop :=
  IsTok (printAtom a) ∧ classify (printAtom a) = .ok (.testForAtom, [], 0) ∧
  ∀ r, peek r ≤ 32 → rawParseAtomAtCursor (printAtom a ++ r) true true = .ok (f a, r)

/-- USE-conditional flags are non-empty words over the flag alphabet -/
def FlagOK (fl : Bytes) : Prop := fl ≠ [] ∧ ∀ b ∈ fl, isUseFlagChar b = true

mutual
def TreeOK (f : AtomAst → ParsedAtom) : Dep → Prop
  | .atom a => AtomOK f a
  | .allOf ds | .anyOf ds | .exactlyOne ds | .atMostOne ds => TreeLOK f ds
  | .useCond fl _ ds => FlagOK fl ∧ TreeLOK f ds
def TreeLOK (f : AtomAst → ParsedAtom) : DepL → Prop
  | .nil => True
  | .cons d ds => TreeOK f d ∧ TreeLOK f ds
end

/-! ### tokens of the grammar under the tokenizer -/

theorem tok_open : IsTok b!"(" ∧ classify b!"(" = .ok (.open, [], 1) := by
  refine ⟨⟨by simp, by simp⟩, by rfl⟩
theorem tok_close : IsTok b!")" ∧ classify b!")" = .ok (.close, [], 1) := by
  refine ⟨⟨by simp, by simp⟩, by rfl⟩
theorem tok_any : IsTok b!"||" ∧ classify b!"||" = .ok (.anyOf, [], 2) := by
  refine ⟨⟨by simp, by simp⟩, by rfl⟩
theorem tok_one : IsTok b!"^^" ∧ classify b!"^^" = .ok (.exactlyOneOf, [], 2) := by
  refine ⟨⟨by simp, by simp⟩, by rfl⟩
theorem tok_most : IsTok b!"??" ∧ classify b!"??" = .ok (.atMostOneOf, [], 2) := by
  refine ⟨⟨by simp, by simp⟩, by rfl⟩

theorem useFlagChar_facts {c : Nat} (h : isUseFlagChar c = true) :
    32 < c ∧ c ≠ 40 ∧ c ≠ 41 ∧ c ≠ 124 ∧ c ≠ 94 ∧ c ≠ 63 ∧ c ≠ 33 := by
  simp [isUseFlagChar, isAlnum, isLower, isUpper, isDigit] at h
  omega

/-- `flag?` and `!flag?` -/
theorem tok_cond {fl : Bytes} (h : FlagOK fl) (neg : Bool) :
    IsTok ((if neg then 33 :: fl else fl) ++ [63]) ∧
    classify ((if neg then 33 :: fl else fl) ++ [63]) =
      .ok (if neg then .whenUseUnset else .whenUseSet, fl,
        ((if neg then 33 :: fl else fl) ++ [63]).length) := by
  obtain ⟨hne, hall⟩ := h
  obtain ⟨c, cs, rfl⟩ := List.exists_cons_of_ne_nil hne
  have hc := useFlagChar_facts (hall c (by simp))
  have hall' : (c :: cs).all isUseFlagChar = true := List.all_eq_true.mpr hall
  have hd : (c :: (cs ++ [63])).dropLast = c :: cs := List.dropLast_concat (l₁ := c :: cs)
  have hl : (c :: (cs ++ [63])).getLast? = some 63 := List.getLast?_concat (l := c :: cs)
  have hfl : ∀ b ∈ c :: cs, 32 < b := fun b hb => (useFlagChar_facts (hall b hb)).1
  constructor
  · cases neg
    · simpa [IsTok, or_imp, forall_and] using hfl
    · simpa [IsTok, or_imp, forall_and] using hfl
  · cases neg
    · simp [classify, peek, hc, hd, hl, hall']
    · simp [classify, peek, hd, hl, hall']

/-! ### one token of a layout under `getToken` -/

theorem tok_step {tok : Bytes} {ts : List Bytes} {s : Bytes} {ty : TokType} {flag : Bytes}
    {adv : Nat} (h : Lay (tok :: ts) s) (ht : IsTok tok) (hc : classify tok = .ok (ty, flag, adv)) :
    ∃ r, Lay ts r ∧ peek r ≤ 32 ∧ r.length < s.length ∧
      getToken s = .ok (ty, flag, (tok ++ r).drop adv) := by
  obtain ⟨w, r, rfl, hw, hl, hr⟩ := lay_cons_inv h
  refine ⟨r, hl, hr, ?_, ?_⟩
  · have : 0 < tok.length := List.length_pos_iff.mpr ht.1
    simp; omega
  · rw [getToken_lay hw ht hr, hc]

/-! ### the round trip, by mutual structural induction over the tree -/

def DepProp (f : AtomAst → ParsedAtom) (d : Dep) : Prop :=
  ∀ (more : List Bytes) (s : Bytes) (depth n : Nat),
    Lay (d.toks ++ more) s → 2 * s.length + 1 ≤ n →
    ∃ s', Lay more s' ∧ peek s' ≤ 32 ∧ s'.length < s.length ∧
      decodeDep n depth s = .ok (some (embed f d), s')

def ListProp (f : AtomAst → ParsedAtom) (ds : DepL) : Prop :=
  ∀ (more : List Bytes) (s : Bytes) (depth n : Nat),
    Lay (ds.toks ++ b!")" :: more) s → 2 * s.length + 2 ≤ n →
    ∃ s', Lay more s' ∧ peek s' ≤ 32 ∧ s'.length < s.length ∧
      decodeSeq n (depth + 1) s = .ok (embedL f ds, s')

theorem open_group {f : AtomAst → ParsedAtom} {ds : DepL} (H : ListProp f ds)
    (more : List Bytes) (s : Bytes) (depth n : Nat)
    (hl : Lay (b!"(" :: ds.toks ++ [b!")"] ++ more) s) (hn : 2 * s.length + 1 ≤ n) :
    ∃ s', Lay more s' ∧ peek s' ≤ 32 ∧ s'.length < s.length ∧
      decodeDep n depth s = .ok (some (.cond pkgDepAll [] (embedL f ds)), s') := by
  obtain ⟨r, hlr, _, hlen, hg⟩ := tok_step hl tok_open.1 tok_open.2
  cases n with
  | zero => omega
  | succ n' =>
    obtain ⟨s', h1, h2, h3, h4⟩ := H more r depth n' (by simpa using hlr) (by omega)
    refine ⟨s', h1, h2, by omega, ?_⟩
    simp [decodeDep, hg, h4]

/-- `||`, `^^`, `??`, `flag?`, `!flag?` in front of a group -/
theorem head_group {f : AtomAst → ParsedAtom} {ds : DepL} (H : ListProp f ds)
    {tok fl : Bytes} {ty : TokType} (ht : IsTok tok) (hc : classify tok = .ok (ty, fl, tok.length))
    (hty : ty = .whenUseSet ∨ ty = .whenUseUnset ∨
      fl = [] ∧ (ty = .anyOf ∨ ty = .exactlyOneOf ∨ ty = .atMostOneOf))
    (more : List Bytes) (s : Bytes) (depth n : Nat)
    (hl : Lay (tok :: b!"(" :: ds.toks ++ [b!")"] ++ more) s) (hn : 2 * s.length + 1 ≤ n) :
    ∃ s', Lay more s' ∧ peek s' ≤ 32 ∧ s'.length < s.length ∧
      decodeDep n depth s = .ok (some (.cond (toktypeToPkgDep ty) fl (embedL f ds)), s') := by
  obtain ⟨r, hlr, _, hlen, hg⟩ := tok_step hl ht hc
  cases n with
  | zero => omega
  | succ n' =>
    obtain ⟨s', h1, h2, h3, h4⟩ := open_group H more r depth n' hlr (by omega)
    refine ⟨s', h1, h2, by omega, ?_⟩
    rcases hty with rfl | rfl | ⟨rfl, rfl | rfl | rfl⟩ <;> simp [decodeDep, hg, h4, pkgDepAll]

mutual
theorem dep_prop (f : AtomAst → ParsedAtom) : (d : Dep) → TreeOK f d → DepProp f d
  | .atom a, ⟨htok, hcls, hparse⟩ => by
    intro more s depth n hl hn
    obtain ⟨r, hlr, hr, hlen, hg⟩ := tok_step hl htok hcls
    cases n with
    | zero => omega
    | succ n' =>
      refine ⟨r, hlr, hr, hlen, ?_⟩
      have hnot : ¬ (32 < peek r) := by omega
      simp [decodeDep, hg, hparse r hr, embed, hnot]
  | .allOf ds, ok => open_group (depl_prop f ds ok)
  | .anyOf ds, ok =>
    head_group (depl_prop f ds ok) tok_any.1 tok_any.2 (.inr (.inr ⟨rfl, .inl rfl⟩))
  | .exactlyOne ds, ok =>
    head_group (depl_prop f ds ok) tok_one.1 tok_one.2 (.inr (.inr ⟨rfl, .inr (.inl rfl)⟩))
  | .atMostOne ds, ok =>
    head_group (depl_prop f ds ok) tok_most.1 tok_most.2 (.inr (.inr ⟨rfl, .inr (.inr rfl)⟩))
  | .useCond fl neg ds, ok => by
    have t := tok_cond ok.1 neg
    cases neg
    · exact head_group (depl_prop f ds ok.2) t.1 t.2 (.inl rfl)
    · exact head_group (depl_prop f ds ok.2) t.1 t.2 (.inr (.inl rfl))
theorem depl_prop (f : AtomAst → ParsedAtom) : (ds : DepL) → TreeLOK f ds → ListProp f ds
  | .nil, _ => by
    intro more s depth n hl hn
    obtain ⟨r, hlr, hr, hlen, hg⟩ := tok_step hl tok_close.1 tok_close.2
    match n, hn with
    | n' + 2, _ =>
      refine ⟨r, hlr, hr, hlen, ?_⟩
      simp [decodeSeq, decodeDep, hg, embedL]
  | .cons d ds, ok => by
    intro more s depth n hl hn
    have hl' : Lay (d.toks ++ (ds.toks ++ b!")" :: more)) s := by
      simpa [DepL.toks, List.append_assoc] using hl
    cases n with
    | zero => omega
    | succ n' =>
      obtain ⟨s1, h1, _, h3, h4⟩ := dep_prop f d ok.1 _ s (depth + 1) n' hl' (by omega)
      obtain ⟨s2, g1, g2, g3, g4⟩ := depl_prop f ds ok.2 more s1 depth n' h1 (by omega)
      refine ⟨s2, g1, g2, by omega, ?_⟩
      simp [decodeSeq, h4, g4, embedL]
end

/-- top level (depth 0): the list ends at the end of input -/
theorem top_prop (f : AtomAst → ParsedAtom) : (ds : DepL) → TreeLOK f ds →
    ∀ (s : Bytes) (n : Nat), Lay ds.toks s → 2 * s.length + 2 ≤ n →
      ∃ s', decodeSeq n 0 s = .ok (embedL f ds, s')
  | .nil, _ => by
    intro s n hl hn
    have hw : IsWs s := by cases hl with | nil h => exact h
    match n, hn with
    | n' + 2, _ =>
      exact ⟨[], by simp [decodeSeq, decodeDep, getToken_ws hw, embedL]⟩
  | .cons d ds, ok => by
    intro s n hl hn
    cases n with
    | zero => omega
    | succ n' =>
      obtain ⟨s1, h1, _, h3, h4⟩ := dep_prop f d ok.1 ds.toks s 0 n' (by simpa [DepL.toks] using hl) (by omega)
      obtain ⟨s2, g⟩ := top_prop f ds ok.2 s1 n' h1 (by omega)
      exact ⟨s2, by simp [decodeSeq, h4, g, embedL]⟩

/-- **dep_roundtrip** (full, relative to `AtomOK` for the atoms of the tree).
    For EVERY dependency tree list `t` (any nesting, all group kinds, empty groups) whose
    atoms are read correctly by the atom parser, and EVERY whitespace layout `s` of its token
    sequence, `DecodeDependencies s` returns exactly `t`. -/
theorem dep_roundtrip (f : AtomAst → ParsedAtom) (t : DepL) (ok : TreeLOK f t) (s : Bytes)
    (h : Lay t.toks s) : decodeDependencies s = .ok (embedL f t) := by
  obtain ⟨s', hs⟩ := top_prop f t ok s (fuelFor s) h (by simp [fuelFor])
  simp [decodeDependencies, hs]

theorem lay_prepend {ts : List Bytes} {r w : Bytes} (hw : IsWs w) (h : Lay ts r) : Lay ts (w ++ r) := by
  have app {u : Bytes} (hu : IsWs u) : IsWs (w ++ u) :=
    fun b hb => (List.mem_append.mp hb).elim (hw b) (hu b)
  cases h with
  | nil h' => exact .nil (app h')
  | cons hw' hl hr =>
    rw [← List.append_assoc, ← List.append_assoc]
    exact .cons (app hw') hl hr

/-- the canonical printed form (single spaces) is a layout -/
theorem lay_print : (ts : List Bytes) → Lay ts (joinWith 32 ts)
  | [] => Lay.nil nofun
  | [x] => by
    have : joinWith 32 [x] = [] ++ x ++ [] := by simp [joinWith]
    rw [this]
    exact Lay.cons nofun (Lay.nil nofun) (by simp [peek])
  | x :: y :: rest => by
    have : joinWith 32 (x :: y :: rest) = [] ++ x ++ ([32] ++ joinWith 32 (y :: rest)) := by
      simp [joinWith]
    rw [this]
    exact Lay.cons nofun
      (lay_prepend (by intro b hb; simp at hb; omega) (lay_print (y :: rest))) (by simp [peek])

/-- **dep_roundtrip_print**: `decode (print t) = ok t`. -/
theorem dep_roundtrip_print (f : AtomAst → ParsedAtom) (t : DepL) (ok : TreeLOK f t) :
    decodeDependencies (printDeps t) = .ok (embedL f t) :=
  dep_roundtrip f t ok _ (lay_print _)

/-! ### unbalanced parentheses are errors -/

theorem seq_error (f : AtomAst → ParsedAtom) {rest : List Bytes} {depth : Nat} {e : Fault}
    (hrest : ∀ (s : Bytes) (n : Nat), Lay rest s → 2 * s.length + 2 ≤ n →
      decodeSeq n depth s = .error e) :
    (ds : DepL) → TreeLOK f ds → ∀ (s : Bytes) (n : Nat), Lay (ds.toks ++ rest) s →
      2 * s.length + 2 ≤ n → decodeSeq n depth s = .error e
  | .nil, _ => hrest
  | .cons d ds, ok => by
    intro s n hl hn
    cases n with
    | zero => omega
    | succ n' =>
      obtain ⟨s1, h1, _, h3, h4⟩ := dep_prop f d ok.1 (ds.toks ++ rest) s depth n'
        (by simpa [DepL.toks, List.append_assoc] using hl) (by omega)
      have g := seq_error f hrest ds ok.2 s1 n' h1 (by omega)
      simp [decodeSeq, h4, g]

theorem unclosed_prop (f : AtomAst → ParsedAtom) (ds : DepL) (ok : TreeLOK f ds) (s : Bytes)
    (depth n : Nat) (hl : Lay ds.toks s) (hn : 2 * s.length + 2 ≤ n) :
    decodeSeq n (depth + 1) s = Res.err "missing-close" := by
  refine seq_error f (rest := []) ?_ ds ok s n (by simpa using hl) hn
  intro s n hl hn
  cases hl with
  | nil hw =>
    match n, hn with
    | n' + 2, _ => simp [decodeSeq, decodeDep, getToken_ws hw, Res.err]

/-- A stray `)`: well-formed trees followed by a closing parenthesis at top level are
    rejected, whatever comes after it. -/
theorem decode_rejects_stray_close (f : AtomAst → ParsedAtom) (t : DepL) (ok : TreeLOK f t)
    (more : List Bytes) (s : Bytes) (h : Lay (t.toks ++ b!")" :: more) s) :
    decodeDependencies s = Res.err "unbalanced-close" := by
  have : decodeSeq (fuelFor s) 0 s = Res.err "unbalanced-close" := by
    refine seq_error f ?_ t ok s _ h (by simp [fuelFor])
    intro s n hl hn
    obtain ⟨r, _, _, _, hg⟩ := tok_step hl tok_close.1 tok_close.2
    match n, hn with
    | n' + 2, _ => simp [decodeSeq, decodeDep, hg, Res.err]
  simp [decodeDependencies, this, Res.err]

/-- A missing `)`: well-formed trees followed by a group that is opened and whose members
    are complete but which is never closed are rejected. -/
theorem decode_rejects_missing_close (f : AtomAst → ParsedAtom) (t inner : DepL)
    (ok : TreeLOK f t) (oki : TreeLOK f inner) (s : Bytes)
    (h : Lay (t.toks ++ b!"(" :: inner.toks) s) :
    decodeDependencies s = Res.err "missing-close" := by
  have : decodeSeq (fuelFor s) 0 s = Res.err "missing-close" := by
    refine seq_error f ?_ t ok s _ h (by simp [fuelFor])
    intro s n hl hn
    obtain ⟨r, hlr, _, hlen, hg⟩ := tok_step hl tok_open.1 tok_open.2
    match n, hn with
    | n' + 2, _ =>
      have g := unclosed_prop f inner oki r 0 n' hlr (by omega)
      simp [decodeSeq, decodeDep, hg, g, Res.err]
  simp [decodeDependencies, this, Res.err]

/-! ### no input makes the decoder panic -/

theorem no_panic_aux : ∀ n : Nat,
    (∀ depth ac, Res.NoPanic (decodeDep n depth ac)) ∧ (∀ depth ac, Res.NoPanic (decodeSeq n depth ac)) := by
  intro n
  induction n with
  | zero => exact ⟨fun _ _ => .err nofun, fun _ _ => .err nofun⟩
  | succ n ih =>
    constructor
    · intro depth ac
      unfold decodeDep
      split
      · exact (getToken_no_panic _).pass ‹_›
      · rename_i ty _ _ _
        cases ty with
        | eof => exact ite_ind (.err nofun) .ok
        | close => exact ite_ind (.err nofun) .ok
        | error => exact .err nofun
        | «open» =>
          dsimp only
          split
          · exact (ih.2 _ _).pass ‹_›
          · exact .ok
        | whenUseSet | whenUseUnset =>
          dsimp only
          split
          · exact (ih.1 _ _).pass ‹_›
          · exact .err nofun
          · split
            · exact .ok
            · exact ite_ind .ok (.err nofun)
        | anyOf | exactlyOneOf | atMostOneOf =>
          dsimp only
          split
          · exact (ih.1 _ _).pass ‹_›
          · exact .err nofun
          · split
            · exact .err nofun
            · exact ite_ind (.err nofun) .ok
        | testForAtom =>
          dsimp only
          split
          · exact (rawParse_no_panic _ _ _).pass ‹_›
          · exact ite_ind (.err nofun) .ok
    · intro depth ac
      unfold decodeSeq
      split
      · exact (ih.1 _ _).pass ‹_›
      · exact .ok
      · split
        · exact (ih.2 _ _).pass ‹_›
        · exact .ok

/-- **decode_total**: for EVERY byte string the outcome of `DecodeDependencies` is a value or
    an error, never a panic (index out of range, nil dereference, failed type assertion). -/
theorem decode_total (buf : Bytes) : decodeDependencies buf ≠ .error .panic := by
  refine Res.NoPanic.ne ?_
  unfold decodeDependencies
  split
  · exact .ok
  · exact ((no_panic_aux _).2 _ _).pass ‹_›

/-- the atom parser never panics either, in any context -/
theorem atom_parse_total (s : Bytes) (vnr dep : Bool) :
    rawParseAtomAtCursor s vnr dep ≠ .error .panic :=
  (rawParse_no_panic s vnr dep).ne

/-! ### the name/version boundary -/

/-- **version_split_partial**: for every name and every complete version `v`, the split of
    `name-v` is `(name, v)`, PROVIDED no earlier hyphen of the name starts a text that,
    continued by `-v`, is itself a complete version (hypothesis `hno`, decidable for a given
    name).  What is missing for the full statement: a proof that `hno` always holds, because
    a version has at most one hyphen and it must be followed by `r`, whereas `v` starts with
    a digit. -/
theorem version_split_partial (name v : Bytes) (vm : VerMatch) (hv : matchVersion v = some vm)
    (hno : ∀ pre x, name = pre ++ 45 :: x → matchVersion (x ++ 45 :: v) = none) :
    findVersion (name ++ 45 :: v) = some (name, vm) := by
  induction name with
  | nil => simp [findVersion, hv]
  | cons c cs ih =>
    have ih' := ih (fun pre x h => hno (c :: pre) x (by simp [h]))
    by_cases hc : c = 45
    · subst hc
      have := hno [] cs (by simp)
      simp [findVersion, this, ih']
    · simp [findVersion, hc, ih']

theorem mem_afterHyphens {pre x : Bytes} : x ∈ afterHyphens (pre ++ 45 :: x) := by
  induction pre with
  | nil => simp [afterHyphens]
  | cons c cs ih => simp only [List.cons_append, afterHyphens]; split <;> simp [ih]

-- instance: dev-libs/foo-1-bar-2.3 (the hypothesis is checked by evaluation)
example : findVersion (b!"foo-1-bar" ++ 45 :: b!"2.3") = some (b!"foo-1-bar", ⟨b!"2.3", [], [], false⟩) :=
  version_split_partial _ _ _ (by rfl) (fun pre x h =>
    (by decide +kernel : ∀ x ∈ afterHyphens b!"foo-1-bar", matchVersion (x ++ 45 :: b!"2.3") = none)
      x (h ▸ mem_afterHyphens))

/-! ### non-vacuity and witnesses (kernel-evaluated on the model) -/

/-- a tree without atoms satisfies the hypotheses of `dep_roundtrip` for any `f` -/
example (f : AtomAst → ParsedAtom) :
    TreeLOK f (.cons (.anyOf (.cons (.useCond b!"foo" true (.cons (.allOf .nil) .nil)) .nil)) .nil) := by
  refine ⟨⟨⟨⟨by simp, ?_⟩, ⟨trivial, trivial⟩⟩, trivial⟩, trivial⟩
  intro b hb
  simp at hb
  rcases hb with rfl | rfl | rfl <;> rfl

-- the inputs of corpus/C14/defects.jsonl, on which the Go code before its `fix:` commits
-- panicked or accepted a malformed string
example : decodeDependencies b!"foo?" = Res.err "missing-after-use" := by rfl
example : decodeDependencies b!"foo? )" = Res.err "unbalanced-close" := by rfl
example : decodeDependencies b!"|| a/b" = Res.err "invalid-after-group-op" := by rfl
example : decodeDependencies b!"a/b ) c/d" = Res.err "unbalanced-close" := by rfl
example : decodeDependencies b!"( a/b" = Res.err "missing-close" := by rfl
example : decodeDependencies b!"a/b[x]c/d" = Res.err "after-atom" := by rfl
example : (decodeDependencies b!"|| ( a/b )").isOk = true := by decide +kernel

-- the name/version boundary on names with digits and hyphens
example : findVersion b!"foo-1-bar-2.3" = some (b!"foo-1-bar", ⟨b!"2.3", [], [], false⟩) := by decide +kernel
example : findVersion b!"gtk+-2.24" = some (b!"gtk+", ⟨b!"2.24", [], [], false⟩) := by decide +kernel
example : findVersion b!"libsdl2-2.0.1-r1" = some (b!"libsdl2", ⟨b!"2.0.1", [], b!"r1", false⟩) := by decide +kernel
example : findVersion b!"font-adobe-100dpi" = none := by decide +kernel

end Lc.Props.C14
