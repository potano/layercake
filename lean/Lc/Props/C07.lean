/-
  C07 — tarball members reproduce the build root faithfully.

  Theorems over the model of `addSingleFile` and of `MakeTar`'s header mapping
  (Lc/Model/StageEntry.lean) against the independent specification
  `Spec.Stage.expected` ("header field = source field unless an option overrides it"):
    * device numbers: the Linux `dev_t` decoding inverts `makedev` and vice versa, the model's
      decoding is the Linux one for every 64-bit value, and the bit-operator form of the Go
      source equals the arithmetic form (`devnum_*`, `devMajorMinor_*`),
    * `fidelity_common`: permission bits, uid, gid, mtime and xattrs of the header equal the
      specification's, for ALL lstat records and ALL option combinations,
    * `fidelity_kind_partial`: member type, size, link target, device major/minor equal the
      specification's; hypotheses: dev= only on node lines, targ= only on symlink lines, a
      `file … src=` line names a regular file (the code does not check it), rdev < 2^64,
    * `override_spec`: each of uid=, gid=, mod= determines exactly its own header field; without
      the option the field is that of the lstat record consulted, as are mtime and xattrs,
    * `synth_defaults`: an absent path gives uid = gid = 0, mode 0755 and the run's time.
  Assumptions validated differentially only (not modelled): the PAX byte encoding and the file
  bytes written by archive/tar, and that gzip/bzip2/xz output decompresses to the same archive.
-/
import Lc.Lemmas.StageEntry

namespace Lc.Props.C07
open Lc Lc.Stage Lc.Spec.Stage

/-! ### device numbers -/

/-- decoding inverts `makedev` for all 32-bit majors and minors -/
theorem devnum_decode_encode (ma mi : Nat) (_ : ma < 2 ^ 32) (_ : mi < 2 ^ 32) :
    linuxMajor (makedev ma mi) = ma ∧ linuxMinor (makedev ma mi) = mi := by
  simp only [linuxMajor, linuxMinor, makedev, Nat.reducePow] at *
  constructor <;> omega

/-- `makedev` inverts decoding for all 64-bit device numbers: nothing of `st_rdev` is lost -/
theorem devnum_encode_decode (dev : Nat) (_ : dev < 2 ^ 64) :
    makedev (linuxMajor dev) (linuxMinor dev) = dev := by
  simp only [linuxMajor, linuxMinor, makedev, Nat.reducePow] at *
  omega

/-- the model's `devMajorMinor` is the Linux decoding, for ALL 64-bit `rdev` values -/
theorem devMajorMinor_linux (r : Nat) (_ : r < 2 ^ 64) :
    devMajor r = linuxMajor r ∧ devMinor r = linuxMinor r := by
  simp only [devMajor, devMinor, u32, linuxMajor, linuxMinor, Nat.reducePow] at *
  constructor <;> omega

/-- the arithmetic form used in the model equals the shift/mask/or form of the Go source -/
theorem devMajorMinor_bits (r : Nat) : devMajorBits r = devMajor r ∧ devMinorBits r = devMinor r := by
  constructor
  · unfold devMajorBits devMajor u32
    rw [and_fff, and_fff, Nat.shiftRight_eq_div_pow, Nat.shiftRight_eq_div_pow]
    have e : (r / 2 ^ 32 - r / 2 ^ 32 % 4096) % 4294967296 = ((r / 2 ^ 32 / 4096) % 1048576) * 2 ^ 12 := by
      simp only [Nat.reducePow]; omega
    rw [e, or_disjoint _ _ 12 (by simp only [Nat.reducePow]; omega)]
  · unfold devMinorBits devMinor u32
    rw [and_ff, and_ff, Nat.shiftRight_eq_div_pow]
    have e : (r / 2 ^ 12 - r / 2 ^ 12 % 256) % 4294967296 = ((r / 2 ^ 12 / 256) % 16777216) * 2 ^ 8 := by
      simp only [Nat.reducePow]; omega
    rw [e, or_disjoint _ _ 8 (by simp only [Nat.reducePow]; omega)]

/-- what the unfixed code computed (`Rdev >> 8`, `Rdev & 0xFF`) is wrong already for `c 4:300` -/
theorem old_decoding_wrong :
    (makedev 4 300 / 256, makedev 4 300 % 256) = (4100, 44) ∧
    (devMajor (makedev 4 300), devMinor (makedev 4 300)) = (4, 300) := by decide +kernel

/-! ### the fields common to every kind of member -/

/-- the entry stored by `addSingleFile`, in terms of the three parts of the function -/
theorem addSingleFile_parts {fs : Bytes → Option Lstat} {root : Bytes} {e0 e : Entry}
    (h : addSingleFile fs root e0 = .ok (some e)) :
    ∃ lt, resolveLtype (fs (sourceOf root e0)) e0.source.isEmpty { e0 with source := sourceOf root e0 } = .ok (some lt) ∧
      finishKind (fs (sourceOf root e0)) e0.source.isEmpty
        (commonFields (fs (sourceOf root e0)) { e0 with source := sourceOf root e0 } lt) = .ok (some e) := by
  unfold addSingleFile at h
  simp only at h
  split at h
  · cases h
  · cases h
  · rename_i lt hr
    exact ⟨lt, hr, h⟩

/-- the header fields every kind of member has, in terms of the lstat record and the line -/
theorem header_common {fs : Bytes → Option Lstat} {root : Bytes} {e0 e : Entry} {h : Header}
    (hadd : addSingleFile fs root e0 = .ok (some e)) (hhdr : headerOf e = .ok h) :
    h.mode = permsOf (fs (sourceOf root e0)) e0 ∧
    h.uid = (if !e0.hasUid then (match fs (sourceOf root e0) with | some s => s.uid | none => stageFileUID)
      else e0.uid) ∧
    h.gid = (if !e0.hasGid then (match fs (sourceOf root e0) with | some s => s.gid | none => stageFileGID)
      else e0.gid) ∧
    h.mtime = (match fs (sourceOf root e0) with | some s => some s.mtime | none => none) ∧
    h.xattrs = (match fs (sourceOf root e0) with | some s => some s.xattrs | none => e0.xattrs).getD [] := by
  obtain ⟨lt, _, hfin⟩ := addSingleFile_parts hadd
  obtain ⟨_, _, huid, hgid, hmask, htime, hx, _⟩ := finishKind_common hfin
  obtain ⟨_, h1, h2, h3, h4, _, h6⟩ := headerOf_returns _ _ hhdr
  rw [h1, h2, h3, h4, h6, huid, hgid, hmask, htime, hx]
  exact ⟨rfl, rfl, rfl, rfl, rfl⟩

theorem expected_common (src : Option Src) (ov : Over) :
    (expected src ov).perm = applyMod ((src.map (·.perm)).getD 0o755) ov.perm ∧
    (expected src ov).uid = ov.uid.getD ((src.map (·.uid)).getD 0) ∧
    (expected src ov).gid = ov.gid.getD ((src.map (·.gid)).getD 0) ∧
    (expected src ov).mtime = src.map (·.mtime) ∧
    (expected src ov).xattrs = (src.map (·.xattrs)).getD [] := by
  cases src <;> exact ⟨rfl, rfl, rfl, rfl, rfl⟩

/-- **Fidelity of permission bits, owner, group, time stamp and xattrs**, for every lstat record
    and every combination of options.  (xattrs: for an absent path the entry keeps whatever the
    `lineInfo` carried, which is nil for every parsed line.) -/
theorem fidelity_common (fs : Bytes → Option Lstat) (root : Bytes) (e0 e : Entry) (h : Header)
    (hadd : addSingleFile fs root e0 = .ok (some e)) (hhdr : headerOf e = .ok h) :
    h.mode % 4096 = (expected ((fs (sourceOf root e0)).map srcOf) (overOfEntry e0)).perm ∧
    h.uid = (expected ((fs (sourceOf root e0)).map srcOf) (overOfEntry e0)).uid ∧
    h.gid = (expected ((fs (sourceOf root e0)).map srcOf) (overOfEntry e0)).gid ∧
    h.mtime = (expected ((fs (sourceOf root e0)).map srcOf) (overOfEntry e0)).mtime ∧
    ((fs (sourceOf root e0)).isSome = true ∨ e0.xattrs = none →
      h.xattrs = (expected ((fs (sourceOf root e0)).map srcOf) (overOfEntry e0)).xattrs) := by
  obtain ⟨hm, hu, hg, ht, hx⟩ := header_common hadd hhdr
  obtain ⟨e1, e2, e3, e4, e5⟩ := expected_common ((fs (sourceOf root e0)).map srcOf) (overOfEntry e0)
  rw [hm, hu, hg, ht, hx, e1, e2, e3, e4, e5]
  clear hadd hm hu hg ht hx e1 e2 e3 e4 e5
  generalize fs (sourceOf root e0) = st
  refine ⟨?_, ?_, ?_, ?_, ?_⟩
  · show permsOf st _ % 4096 = applyMod _ (if e0.hasPerm then some (e0.andMask, e0.orMask) else none)
    have hb : ((st.map srcOf).map (·.perm)).getD 0o755 =
        (match st with | some s => s.mode | none => 0o777 - (0o777 &&& umask)) % 4096 := by cases st <;> rfl
    rw [hb]
    unfold permsOf
    cases e0.hasPerm with
    | false => exact (Nat.mod_mod _ _).symm
    | true =>
      show (if e0.andMask > 0 then _ else e0.orMask) % 4096 = (if e0.andMask > 0 then _ else e0.orMask) % 4096
      by_cases ha : e0.andMask > 0
      · rw [if_pos ha, if_pos ha]; exact perm_mod _ _ _
      · rw [if_neg ha, if_neg ha]
  · show _ = (if e0.hasUid then some e0.uid else none).getD _
    cases st <;> cases e0.hasUid <;> rfl
  · show _ = (if e0.hasGid then some e0.gid else none).getD _
    cases st <;> cases e0.hasGid <;> rfl
  · cases st <;> rfl
  · rintro (hs | hn)
    · cases st with
      | some s => rfl
      | none => cases hs
    · rw [hn]; cases st <;> rfl

/-- **Members synthesised for absent paths**: root ownership, mode 0755 (0777 &^ umask), the
    time of the run — unless the line says otherwise. -/
theorem synth_defaults (fs : Bytes → Option Lstat) (root : Bytes) (e0 e : Entry) (h : Header)
    (habsent : fs (sourceOf root e0) = none)
    (hadd : addSingleFile fs root e0 = .ok (some e)) (hhdr : headerOf e = .ok h) :
    (e0.hasUid = false → h.uid = 0) ∧ (e0.hasGid = false → h.gid = 0) ∧
    (e0.hasPerm = false → h.mode = 0o755) ∧ h.mtime = none := by
  obtain ⟨hm, hu, hg, ht, _⟩ := header_common hadd hhdr
  rw [hm, hu, hg, ht, habsent]
  exact ⟨fun hu => by rw [hu]; rfl, fun hg => by rw [hg]; rfl, fun hp => by rw [permsOf, hp]; rfl, rfl⟩

/-- **Overrides**: each option determines exactly its own field — uid= the owner, gid= the
    group, mod= the permission bits (through its and/or masks), and nothing else of the common
    fields; without the option the field is the source's. -/
theorem override_spec (fs : Bytes → Option Lstat) (root : Bytes) (e0 e : Entry) (h : Header) (s : Lstat)
    (hst : fs (sourceOf root e0) = some s)
    (hadd : addSingleFile fs root e0 = .ok (some e)) (hhdr : headerOf e = .ok h) :
    h.uid = (if e0.hasUid then e0.uid else s.uid) ∧
    h.gid = (if e0.hasGid then e0.gid else s.gid) ∧
    h.mode = (if e0.hasPerm then (if e0.andMask > 0 then (s.mode &&& e0.andMask) ||| e0.orMask else e0.orMask)
              else s.mode) ∧
    h.mtime = some s.mtime ∧ h.xattrs = s.xattrs := by
  obtain ⟨hm, hu, hg, ht, hx⟩ := header_common hadd hhdr
  rw [hm, hu, hg, ht, hx, hst]
  exact ⟨by cases e0.hasUid <;> rfl, by cases e0.hasGid <;> rfl, rfl, rfl, rfl⟩

/-! ### the kind-specific fields -/

/-- the five kind-specific fields of a header, as the specification names them -/
def kindFields (h : Header) : String × Nat × Bytes × Nat × Nat :=
  (typeChar h.typeflag, h.size, h.linkname, h.devmajor, h.devminor)

def expKindFields (x : Exp) : String × Nat × Bytes × Nat × Nat := (x.kind, x.size, x.link, x.maj, x.min)

theorem ov_dev_none {e0 : Entry} (h : e0.hasDev = false) : (overOfEntry e0).dev = none := by
  simp [overOfEntry, h]

theorem ov_targ_none {e0 : Entry} (h : e0.target = []) : (overOfEntry e0).targ = none := by
  simp [overOfEntry, h]

theorem kindFields_dir {e : Entry} {h : Header} (hh : headerOf e = .ok h) (hl : e.ltype = ltDir) :
    kindFields h = ("d", e.fsize, [], 0, 0) := by
  rw [headerOf_eq (by rw [hl]; decide)] at hh
  cases hh
  simp +decide [kindFields, typeChar, hl]

theorem kindFields_file {e : Entry} {h : Header} (hh : headerOf e = .ok h) (hl : e.ltype = ltFile) :
    kindFields h = ("f", e.fsize, [], 0, 0) := by
  rw [headerOf_eq (by rw [hl]; decide)] at hh
  cases hh
  simp +decide [kindFields, typeChar, hl]

theorem kindFields_symlink {e : Entry} {h : Header} (hh : headerOf e = .ok h) (hl : e.ltype = ltSymlink) :
    kindFields h = ("l", e.fsize, e.target, 0, 0) := by
  rw [headerOf_eq (by rw [hl]; decide)] at hh
  cases hh
  simp +decide [kindFields, typeChar, hl]

theorem kindFields_device {e : Entry} {h : Header} (hh : headerOf e = .ok h) (hl : e.ltype = ltDevice) :
    kindFields h = (if e.devtype = chrC then "c" else "b", e.fsize, [], e.major, e.minor) := by
  rw [headerOf_eq (by rw [hl]; decide)] at hh
  cases hh
  by_cases hc : e.devtype = chrC <;> simp +decide [kindFields, typeChar, hl, hc]

/-- `finishKind_cases` read through `headerOf`: the kind-specific fields of the header -/
theorem finish_kindFields {st : Option Lstat} {nis : Bool} {info e : Entry} {h : Header}
    (hfin : finishKind st nis info = .ok (some e)) (hhdr : headerOf e = .ok h) :
    (info.ltype = ltDir ∧ kindFields h = ("d", info.fsize, [], 0, 0)) ∨
    (info.ltype = ltFile ∧ ∃ s, st = some s ∧ kindFields h = ("f", s.size, [], 0, 0)) ∨
    (info.ltype = ltSymlink ∧
      (info.target ≠ [] ∧ kindFields h = ("l", info.fsize, info.target, 0, 0) ∨
       info.target = [] ∧ ∃ s, st = some s ∧ s.mode &&& S_IFMT = S_IFLNK ∧
        kindFields h = ("l", info.fsize, s.link, 0, 0))) ∨
    (info.ltype = ltDevice ∧
      (info.hasDev = true ∧
        kindFields h = (if info.devtype = chrC then "c" else "b", info.fsize, [], info.major, info.minor) ∨
       info.hasDev = false ∧ ∃ s k, st = some s ∧
        (s.mode &&& S_IFMT = S_IFCHR ∧ k = "c" ∨ s.mode &&& S_IFMT = S_IFBLK ∧ k = "b") ∧
        kindFields h = (k, info.fsize, [], devMajor s.rdev, devMinor s.rdev))) := by
  rcases finishKind_cases st nis info _ hfin with ⟨hl, he⟩ | ⟨hl, s, di, rfl, he⟩ |
    ⟨hl, ⟨htg, he⟩ | ⟨htg, s, rfl, hlnk, he⟩⟩ | ⟨hl, ⟨hd, he⟩ | ⟨hd, s, dt, rfl, hbits, he⟩⟩
  · cases he
    exact .inl ⟨hl, kindFields_dir hhdr hl⟩
  · cases he
    exact .inr (.inl ⟨hl, s, rfl, kindFields_file hhdr hl⟩)
  · cases he
    exact .inr (.inr (.inl ⟨hl, .inl ⟨htg, kindFields_symlink hhdr hl⟩⟩))
  · cases he
    exact .inr (.inr (.inl ⟨hl, .inr ⟨htg, s, rfl, hlnk, kindFields_symlink hhdr hl⟩⟩))
  · cases he
    exact .inr (.inr (.inr ⟨hl, .inl ⟨hd, kindFields_device hhdr hl⟩⟩))
  · cases he
    refine .inr (.inr (.inr ⟨hl, .inr ⟨hd, s, _, rfl, ?_, kindFields_device hhdr hl⟩⟩))
    rcases hbits with ⟨hc, rfl⟩ | ⟨hb, rfl⟩
    · exact .inl ⟨hc, rfl⟩
    · exact .inr ⟨hb, rfl⟩

theorem expected_kind (src : Option Src) (ov : Over) :
    (expected src ov).kind = ov.kind.getD ((src.map (·.kind)).getD "d") := by
  cases src <;> rfl

theorem expected_some_fields (s : Src) (ov : Over) {k : String} (hk : (expected (some s) ov).kind = k) :
    expKindFields (expected (some s) ov) =
      (k, if k == "f" then s.size else 0, if k == "l" then ov.targ.getD s.link else [],
       if k == "c" || k == "b" then (match ov.dev with | some d => d.1 | none => linuxMajor s.rdev) else 0,
       if k == "c" || k == "b" then (match ov.dev with | some d => d.2 | none => linuxMinor s.rdev) else 0) := by
  subst hk; rfl

theorem expected_none_fields (ov : Over) {k : String} (hk : (expected none ov).kind = k) :
    expKindFields (expected none ov) =
      (k, 0, if k == "l" then ov.targ.getD [] else [], (ov.dev.map (·.1)).getD 0, (ov.dev.map (·.2)).getD 0) := by
  subst hk; rfl

theorem ov_kind_none {e0 : Entry} (h1 : e0.ltype ≠ ltDir) (h2 : e0.hasDev = false) (h3 : e0.target = []) :
    (overOfEntry e0).kind = none := by
  simp [overOfEntry, h1, h2, h3]

theorem kindOfMode_bits {mode : Nat} :
    (mode &&& S_IFMT = S_IFREG → kindOfMode mode = "f") ∧ (mode &&& S_IFMT = S_IFLNK → kindOfMode mode = "l") ∧
    (mode &&& S_IFMT = S_IFCHR → kindOfMode mode = "c") ∧ (mode &&& S_IFMT = S_IFBLK → kindOfMode mode = "b") := by
  unfold kindOfMode
  refine ⟨?_, ?_, ?_, ?_⟩ <;> intro h <;> rw [h] <;> rfl

theorem expected_d {src : Option Src} {ov : Over} (hk : (expected src ov).kind = "d") (hd : ov.dev = none) :
    expKindFields (expected src ov) = ("d", 0, [], 0, 0) := by
  cases src with
  | none => rw [expected_none_fields _ hk, hd]; rfl
  | some s => rw [expected_some_fields _ _ hk]; rfl

theorem expected_f {s : Src} {ov : Over} (hk : (expected (some s) ov).kind = "f") :
    expKindFields (expected (some s) ov) = ("f", s.size, [], 0, 0) := by
  rw [expected_some_fields _ _ hk]; rfl

theorem expected_l {src : Option Src} {ov : Over} (hk : (expected src ov).kind = "l") (hd : ov.dev = none) :
    expKindFields (expected src ov) = ("l", 0, ov.targ.getD ((src.map (·.link)).getD []), 0, 0) := by
  cases src with
  | none => rw [expected_none_fields _ hk, hd]; rfl
  | some s => rw [expected_some_fields _ _ hk]; rfl

theorem expected_dev {src : Option Src} {ov : Over} {k : String} (hk : (expected src ov).kind = k)
    (hc : k = "c" ∨ k = "b") :
    expKindFields (expected src ov) =
      (k, 0, [], (ov.dev.map (·.1)).getD ((src.map fun s => linuxMajor s.rdev).getD 0),
        (ov.dev.map (·.2)).getD ((src.map fun s => linuxMinor s.rdev).getD 0)) := by
  cases src with
  | none => rw [expected_none_fields _ hk]; rcases hc with rfl | rfl <;> rfl
  | some s => rw [expected_some_fields _ _ hk]; rcases hc with rfl | rfl <;> cases ov.dev <;> rfl

/-- **Fidelity of member type, size, link target and device numbers.**
    Partial — hypotheses:
    `hdev`/`htarg`: dev= is used on `node` lines and targ= on `symlink` lines only (with `tbd`
      the code lets the option silently win or lose depending on what exists);
    `hsize`: the lineInfo comes from the parser (fsize 0);
    `hsrc`: a `file … src=` line names a regular file — `needLtypeCheck` is false there, the code
      archives whatever `src` is as a regular file;
    `hrdev`: `st_rdev` is a 64-bit value. -/
theorem fidelity_kind_partial (fs : Bytes → Option Lstat) (root : Bytes) (e0 e : Entry) (h : Header)
    (hadd : addSingleFile fs root e0 = .ok (some e)) (hhdr : headerOf e = .ok h)
    (hdev : e0.hasDev = true → e0.ltype = ltDevice)
    (htarg : e0.target ≠ [] → e0.ltype = ltSymlink)
    (hsize : e0.fsize = 0)
    (hsrc : e0.ltype = ltFile → e0.source.isEmpty = false →
      ∀ s, fs (sourceOf root e0) = some s → s.mode &&& S_IFMT = S_IFREG)
    (hrdev : ∀ s, fs (sourceOf root e0) = some s → s.rdev < 2 ^ 64) :
    kindFields h = expKindFields (expected ((fs (sourceOf root e0)).map srcOf) (overOfEntry e0)) := by
  obtain ⟨lt, hr, hfin⟩ := addSingleFile_parts hadd
  clear hadd
  have hspec := resolveLtype_spec _ _ _ _ hr lt rfl
  have hk := finish_kindFields hfin hhdr
  clear hr hfin
  -- `commonFields` leaves the kind-specific fields of the line alone and sets `ltype := lt`
  obtain ⟨hilt, hitg, hisz, hidev, hity, hima, himi⟩ := commonFields_keeps (fs (sourceOf root e0)) { e0 with source := sourceOf root e0 } lt
  generalize commonFields _ _ lt = info at *
  generalize fs (sourceOf root e0) = st at *
  simp only at hspec hitg hisz hidev hity hima himi
  rw [hilt, hitg, hisz, hsize, hidev, hity, hima, himi] at hk
  clear hilt hitg hisz hidev hity hima himi
  have hfix : ∀ x, e0.ltype = x → x ≠ ltNone → lt = x := fun x hx hn =>
    hspec.elim (fun h0 => absurd (hx ▸ h0.1) hn) (fun h1 => h1.2.1 ▸ hx)
  have hnodev : lt ≠ ltDevice → e0.hasDev = false := fun hne =>
    Bool.eq_false_iff.mpr fun hd => hne (hfix _ (hdev hd) (by decide))
  have hnotarg : lt ≠ ltSymlink → e0.target = [] := fun hne =>
    Decidable.byContradiction fun ht => hne (hfix _ (htarg ht) (by decide))
  have hnodir : lt ≠ ltDir → e0.ltype ≠ ltDir := fun hne hd => hne (hfix _ hd (by decide))
  rcases hk with ⟨rfl, hk⟩ | ⟨rfl, s, rfl, hk⟩ | ⟨rfl, hk⟩ | ⟨rfl, hk⟩
  · rw [hk]
    refine (expected_d ?_ (ov_dev_none (hnodev (by decide)))).symm
    rw [expected_kind]
    rcases hspec with ⟨h0, s, rfl, ha⟩ | ⟨_, hl, _⟩
    · rw [ov_kind_none (by rw [h0]; decide) (hnodev (by decide)) (hnotarg (by decide))]
      rcases actualOf_kind ha with ⟨hl, _⟩ | ⟨hl, _⟩ | ⟨_, _, hk⟩ | ⟨hl, _⟩ | ⟨hl, _⟩ <;>
        first | (exact absurd hl (by decide)) | exact hk
    · simp [overOfEntry, ← hl]
  · rw [hk]
    refine (expected_f (s := srcOf s) ?_).symm
    rw [expected_kind, ov_kind_none (hnodir (by decide)) (hnodev (by decide)) (hnotarg (by decide))]
    have hact : actualOf s.mode = .ok ltFile → kindOfMode s.mode = "f" := fun ha => by
      rcases actualOf_kind ha with ⟨hl, _⟩ | ⟨_, _, hk⟩ | ⟨hl, _⟩ | ⟨hl, _⟩ | ⟨hl, _⟩ <;>
        first | (exact absurd hl (by decide)) | exact hk
    rcases hspec with ⟨_, s', hs', ha⟩ | ⟨hne, hl, hchk⟩
    · cases hs'; exact hact ha
    · cases hnis : e0.source.isEmpty with
      | true => exact hact (hchk (by simp +decide [needLtypeCheck, ← hl, hnis]) s rfl)
      | false => exact kindOfMode_bits.1 (hsrc hl.symm hnis s rfl)
  · have hd := ov_dev_none (hnodev (by decide))
    rcases hk with ⟨htg, hk⟩ | ⟨htg, s, rfl, hlnk, hk⟩
    · rw [hk]
      refine ((expected_l ?_ hd).trans ?_).symm
      · simp +decide [expected_kind, overOfEntry, htarg htg, htg]
      · simp [overOfEntry, htg]
    · rw [hk]
      refine ((expected_l ?_ hd).trans ?_).symm
      · rw [expected_kind, ov_kind_none (hnodir (by decide)) (hnodev (by decide)) htg]
        exact kindOfMode_bits.2.1 hlnk
      · rw [ov_targ_none htg]; rfl
  · have htg := hnotarg (by decide)
    rcases hk with ⟨hd, hk⟩ | ⟨hd, s, k, rfl, hbits, hk⟩
    · have hkind : (expected (st.map srcOf) (overOfEntry e0)).kind = if e0.devtype = chrC then "c" else "b" := by
        simp +decide [expected_kind, overOfEntry, hdev hd, hd]
      rw [hk, expected_dev hkind (ite_ind (P := fun k => k = "c" ∨ k = "b") (.inl rfl) (.inr rfl))]
      simp [overOfEntry, hd]
    · obtain ⟨hma, hmi⟩ := devMajorMinor_linux s.rdev (hrdev s rfl)
      have hkind := expected_kind (some (srcOf s)) (overOfEntry e0)
      rw [ov_kind_none (hnodir (by decide)) hd htg] at hkind
      have hkk : kindOfMode s.mode = k ∧ (k = "c" ∨ k = "b") :=
        hbits.elim (fun ⟨hb, e⟩ => e.symm ▸ ⟨kindOfMode_bits.2.2.1 hb, .inl rfl⟩)
          (fun ⟨hb, e⟩ => e.symm ▸ ⟨kindOfMode_bits.2.2.2 hb, .inr rfl⟩)
      refine ((expected_dev (src := some (srcOf s)) (hkind.trans hkk.1) hkk.2).trans ?_).symm
      rw [hk, ov_dev_none hd, hma, hmi]
      rfl

/-! ### non-vacuity: concrete instances -/

def exBlk : Lstat :=
  { mode := 0o060660, uid := 0, gid := 6, mtime := 1500000000, size := 0, nlink := 1, dev := 1, ino := 2,
    rdev := 2049, link := [], xattrs := [(b!"user.k", b!"v")], sha := "" }

def exFs : Bytes → Option Lstat := fun p => if p = b!"/R/dev/sda1" then some exBlk else none

def exLine : Entry := { ltype := ltNone, name := b!"/dev/sda1", hasGid := true, gid := 9 }

/-- `tbd /dev/sda1 gid=9` on a block device 8:1 — the case the unfixed code archived as `c` -/
example : (addSingleFile exFs b!"/R" exLine).map (fun o => o.map fun e => (e.ltype, e.devtype, e.major, e.minor, e.gid, e.uid)) =
    .ok (some (ltDevice, chrB, 8, 1, 9, 0)) := by rfl

example : (expected (some (srcOf exBlk)) (overOfEntry exLine)).kind = "b" ∧
    (expected (some (srcOf exBlk)) (overOfEntry exLine)).maj = 8 ∧
    (expected (some (srcOf exBlk)) (overOfEntry exLine)).gid = 9 := by decide +kernel

/-- a synthesised directory (`dir /synth`, nothing on disk): 0755, root, the run's time -/
example : (addSingleFile exFs b!"/R" { ltype := ltDir, name := b!"/synth" }).map
    (fun o => o.map fun e => (e.ltype, e.orMask, e.uid, e.gid, e.unixTime)) =
    .ok (some (ltDir, 0o755, 0, 0, none)) := by rfl

example : linuxMajor (makedev 4095 1048575) = 4095 ∧ linuxMinor (makedev 4095 1048575) = 1048575 := by decide +kernel

end Lc.Props.C07
