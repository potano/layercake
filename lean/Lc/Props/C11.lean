/-
  C11 — a layer's mount configuration survives rewrites and crashes intact.

  (1) read_write_read: for EVERY byte string (any number/order of base/import/export
      lines, comments, blank lines, odd spacing, extra fields, any UTF-8 or invalid
      UTF-8), writing out what ReadLayerFile loaded and reading it back gives the same
      base, imports and exports in the same order.
  (2) rewrite_changes_only_base: what rename/rebase/add write differs from what was
      loaded only in the base name.
  (3) crash_atomic: WriteLayerfile (temp file + rename, after fix ae7b7b4) changes the
      node at the layerconfig path only by its final rename: at every exit other than
      the normal one — crash or fault at any operation index, any file-system error —
      every path except `<layerconfig>.new` holds what it held before; at the normal
      exit the layerconfig holds exactly the complete new text.  Lifted to the three
      rewriting commands as wholes, every exit (normal, error, injected fault, crash at any
      operation index): rebase (crash_atomic_rebase), add (crash_atomic_add,
      crash_atomic_add_own, crash_atomic_add_others, add_keeps_existing) and rename
      (crash_atomic_rename_paths_partial, crash_atomic_rename_partial: every layerconfig —
      of a child, of the renamed layer at its old or new place, of an unrelated layer — is
      its complete previous or its complete new version; `_partial` for the explicit side
      condition that the path is not at or below one of the two automatic export links).
      `crash_atomic_rename_paths`, `crash_atomic_rename`: the same without that side
      condition, under the decidable condition `ExportsApart cfg` on the configuration
      (Lemmas/ExportsApart; the default configuration satisfies it).
-/
import Lc.Lemmas.LayerfileRW
import Lc.Lemmas.LayerfileScanner
import Lc.Lemmas.WriteLayerFile
import Lc.Lemmas.CrashAdd
import Lc.Lemmas.CrashRename

namespace Lc.Props.C11
open Lc Lc.Layers Lc.Layerfile Lc.Lemmas.Runes Lc.Lemmas.LayerfileRW Lc.Lemmas.WriteLF

/-! ### (1) read → write → read -/

/-- For every file content: ReadLayerFile ∘ WriteLayerfile ∘ ReadLayerFile gives the
    same base, imports and exports (in order) as ReadLayerFile; the rewritten file never
    produces a message. -/
theorem read_write_read_any (content : Bytes) :
    readLayerFile (render (readLayerFile content)) = { readLayerFile content with nmsgs := 0 } :=
  read_render _ (readLayerFile_wf content)

/-- The property as stated: every layerconfig text that loads without messages is a
    fixed point of read → write → read.  Full generality: all byte strings (Go's
    rune decoding with U+FFFD for invalid sequences, unicode.IsSpace), all line
    structures. -/
theorem read_write_read (content : Bytes) (h : (readLayerFile content).nmsgs = 0) :
    readLayerFile (render (readLayerFile content)) = readLayerFile content := by
  rw [read_write_read_any, ← h]

/- The concrete runs of this file are evaluated by the kernel (`decide +kernel`: kernel
   reduction of the `Decidable` instance, no axiom beyond `propext`; plain `decide` reduces
   with the elaborator's `whnf`, which is far too slow on the longer ones). -/

/-- non-vacuity: odd spacing, tabs, comments, extra fields, `..`, `//`, trailing slash,
    a repeated base line and a non-ASCII path load without message and are not already
    in canonical form -/
example :
    let c := b!"  base\tx \n# c\n//d\n\nimport  rbind   /a/../b  //c/ extra\nbase x\nexport bind $$self/x/ /é\n"
    (readLayerFile c).nmsgs = 0 ∧ render (readLayerFile c) ≠ c ∧
      (readLayerFile c).mounts = [⟨b!"/c", b!"/b", b!"rbind"⟩] := by decide +kernel

/-- the writer is a function of (base, imports, exports) only -/
theorem render_depends_only (a b : LayerFile) (h1 : a.base = b.base) (h2 : a.mounts = b.mounts)
    (h3 : a.exports = b.exports) : render a = render b := by
  unfold render writeChunks; rw [h1, h2, h3]

/-! ### (2) rewrites change only the base -/

/-- rebase and the children of a renamed layer: `{ k with base := b }` -/
theorem toLayerFile_with_base (k : Layer) (b : Bytes) :
    toLayerFile { k with base := b } = { toLayerFile k with base := b } := rfl

/-- the renamed layer itself is written out unchanged -/
theorem toLayerFile_renamed (l : Layer) (n p : Bytes) :
    toLayerFile { l with name := n, layerPath := p } = toLayerFile l := rfl

/-- A layer that was loaded from `content` and is rewritten with base `nb` (rename of its
    parent, rebase) reads back with the same imports and exports in the same order and
    with base `nb`; nothing else changes.  `nb` is empty or a white-space-free token
    (layer names are letters, digits, '_' and '-'). -/
theorem rewrite_changes_only_base (cfg : Config) (n content nb : Bytes) (hnb : nb = [] ∨ Tok nb) :
    readLayerFile (render (toLayerFile { layerOfFile cfg n (readLayerFile content) with base := nb }))
      = { base := nb, mounts := (readLayerFile content).mounts,
          exports := (readLayerFile content).exports, nmsgs := 0 } := by
  rw [toLayerFile_with_base, toLayerFile_layerOfFile]
  exact read_render _ ⟨hnb, (readLayerFile_wf content).2⟩

/-- and with the base left alone (the renamed layer, `add` from a parent's lists) the
    re-read equals the original load up to the message count -/
theorem rewrite_same_base (cfg : Config) (n content : Bytes) :
    readLayerFile (render (toLayerFile (layerOfFile cfg n (readLayerFile content))))
      = { readLayerFile content with nmsgs := 0 } := by
  rw [toLayerFile_layerOfFile]
  exact read_render _ (readLayerFile_wf content)

example : Tok b!"new-base_1" := by
  unfold Tok
  decide +kernel

/-! ### (3) crashes -/

/-- WriteLayerfile under every world (any tree, any crash or fault index, pretending or
    not): if it does not return normally, every path other than `<layerconfig>.new` —
    in particular the layerconfig itself — holds exactly what it held before; if it
    returns normally and was not pretending, the layerconfig holds exactly the complete
    new text and nothing outside the layerconfig and its temporary file has changed. -/
theorem crash_atomic (l : Layer) (w0 : World) :
    match ((writeLayerFile l).run.run w0).1 with
    | .ok _ =>
      (w0.pretend = true ∧ ((writeLayerFile l).run.run w0).2.fs = w0.fs) ∨
      (w0.pretend = false ∧
        Fs.get ((writeLayerFile l).run.run w0).2.fs (layerconfigPath l) = some (.file (render (toLayerFile l))) ∧
        ∀ p, Fs.under (layerconfigPath l) p = false → Fs.under (layerconfigPath l ++ tmpSuffix) p = false →
          Fs.get ((writeLayerFile l).run.run w0).2.fs p = Fs.get w0.fs p)
    | .error _ =>
      ∀ p, p ≠ layerconfigPath l ++ tmpSuffix → Fs.get ((writeLayerFile l).run.run w0).2.fs p = Fs.get w0.fs p := by
  have h := Lc.Hoare.extractBoth _ _ _ _ (writeLayerFile_spec l w0) w0 rfl
  split at h
  · next heq =>
    rw [heq]
    exact h.2
  · next heq =>
    rw [heq]
    exact h.1

/-- non-vacuity: a crash at the second operation (the first write) leaves the old text in
    place and an empty temporary file; at the last operation (the rename) the old text and a
    complete temporary file; without crash the new text -/
def exLayer : Layer :=
  { name := b!"a", layerPath := b!"/l/a", cmounts := [⟨b!"/dev", b!"/dev", b!"rbind"⟩] }
def exWorld (crash : Option Nat) : World :=
  { fs := [(b!"/", .dir), (b!"/l", .dir), (b!"/l/a", .dir), (b!"/l/a/layerconfig", .file b!"old")],
    crashAt := crash }

example :
    let r := (writeLayerFile exLayer).run.run (exWorld (some 2))
    r.1.toBool = false ∧ Fs.get r.2.fs b!"/l/a/layerconfig" = some (.file b!"old") ∧
      Fs.get r.2.fs b!"/l/a/layerconfig.new" = some (.file []) := by decide +kernel

example :
    let r := (writeLayerFile exLayer).run.run (exWorld (some 3))
    r.1.toBool = false ∧ Fs.get r.2.fs b!"/l/a/layerconfig" = some (.file b!"old") ∧
      Fs.get r.2.fs b!"/l/a/layerconfig.new" = some (.file b!"import rbind /dev /dev\n") := by decide +kernel

example :
    let r := (writeLayerFile exLayer).run.run (exWorld none)
    r.1.toBool = true ∧ Fs.get r.2.fs b!"/l/a/layerconfig" = some (.file b!"import rbind /dev /dev\n") ∧
      Fs.get r.2.fs b!"/l/a/layerconfig.new" = none := by decide +kernel

/-- corollary in the property's words: whatever happens, the layerconfig is its complete
    previous version or its complete new version -/
theorem crash_old_or_new (l : Layer) (w0 : World) :
    let w := ((writeLayerFile l).run.run w0).2
    Fs.get w.fs (layerconfigPath l) = Fs.get w0.fs (layerconfigPath l) ∨
    Fs.get w.fs (layerconfigPath l) = some (.file (render (toLayerFile l))) := by
  have h := crash_atomic l w0
  intro w
  split at h
  · rcases h with ⟨_, h⟩ | ⟨_, h, _⟩
    · exact Or.inl (congrArg (Fs.get · _) h)
    · exact Or.inr h
  · refine Or.inl (h _ fun e => ?_)
    have := congrArg List.length e
    simp [tmpSuffix] at this

/-- rebase (the one rewriting command that performs nothing but the rewrite): at every
    exit the tree is unchanged, or only `<layerconfig>.new` differs (interrupted), or the
    layerconfig holds the complete new text and nothing else differs (done). -/
theorem crash_atomic_rebase (cfg : Config) (d : Defs) (name newbase : Bytes) (l : Layer) (w0 : World)
    (hl : findLayer d name = some l) :
    let l' : Layer := { l with base := newbase }
    let w := ((rebaseLayer cfg d name newbase).run.run w0).2
    (∀ p, p ≠ layerconfigPath l' ++ tmpSuffix → Fs.get w.fs p = Fs.get w0.fs p) ∨
    (Fs.get w.fs (layerconfigPath l') = some (.file (render (toLayerFile l'))) ∧
      ∀ p, Fs.under (layerconfigPath l') p = false → Fs.under (layerconfigPath l' ++ tmpSuffix) p = false →
        Fs.get w.fs p = Fs.get w0.fs p) := by
  intro l' w
  have h := Lc.Hoare.extractBoth _ _ _ _ (rebaseLayer_spec cfg d name newbase l w0 hl) w0 rfl
  split at h
  · rcases h with h | h
    · exact Or.inl fun p _ => congrArg (Fs.get · p) h
    · exact Or.inr h
  · exact Or.inl h.1

/-! ### (3b) the whole `add` command -/

open Lc.CrashAdd Lc.CrashRename Lc.LayerPaths Lc.FsMove Lc.RemoveLayer

/-- **add, every exit, every path.**  `addLayer` started in ANY world (any tree, any crash
    or fault index, pretending or not), whatever way it ends (normal return, error of any
    kind, injected fault, crash at any operation): every path `p` other than the temporary
    file `<new>/layerconfig.new` (and paths below it), the new base layer's `root/.bashrc`
    and paths strictly below the new layerconfig
      * holds exactly what it held before, or
      * held nothing and is now a directory (the directories `add` creates), or
      * is the new layer's layerconfig and holds exactly the complete new text: `render` of
        the requested base with the import/export lists `Plan` determines from the initial
        tree (configuration file / skeleton, else the parent's lists).
    In particular no path ever holds an empty or truncated layerconfig text.  No hypothesis. -/
theorem crash_atomic_add (cfg : Config) (d : Defs) (name base configFile : Bytes) (w0 : World) :
    let w := ((addLayer cfg d name base configFile).run.run w0).2
    let C := pathJoin [layerPath cfg name, b!"layerconfig"]
    let B := pathJoin [pathJoin [pathJoin [layerPath cfg name, cfg.buildRoot], b!"root"], b!".bashrc"]
    ∀ p, Fs.under (C ++ tmpSuffix) p = false → p ≠ B → (Fs.under C p = false ∨ p = C) →
      Fs.get w.fs p = Fs.get w0.fs p ∨
      (Fs.get w0.fs p = none ∧ Fs.get w.fs p = some .dir) ∨
      (p = C ∧ ∃ cm ce, Plan cfg d base configFile w0.fs cm ce ∧
        Fs.get w.fs p = some (.file (render (toLayerFile (newLayer cfg name base cm ce))))) := by
  intro w C B p hT hB hC
  rcases (addLayer_post cfg d name base configFile w0).2 p hT hB hC with h | h | ⟨hc, n, ⟨cm, ce, hpl, hn⟩, hg⟩
  · exact Or.inl h
  · exact Or.inr (Or.inl h)
  · exact Or.inr (Or.inr ⟨hc, cm, ce, hpl, by rw [hg, hn]⟩)

/-- the lists `Plan` admits are unique: "the complete new text" is one text -/
theorem add_plan_unique (cfg : Config) (d : Defs) (base configFile : Bytes) (fs0 : Fs.Tree)
    (cm ce cm' ce' : List NeededMount) (h : Plan cfg d base configFile fs0 cm ce)
    (h' : Plan cfg d base configFile fs0 cm' ce') : cm = cm' ∧ ce = ce' := by
  unfold Plan at h h'
  by_cases hc : configFile.length > 0 ∨ base.length = 0
  · rw [if_pos hc] at h h'
    obtain ⟨lf, h1, h2, h3⟩ := h
    obtain ⟨lf', h1', h2', h3'⟩ := h'
    rw [h1] at h1'; cases h1'
    exact ⟨h2.trans h2'.symm, h3.trans h3'.symm⟩
  · rw [if_neg hc] at h h'
    obtain ⟨b, h1, h2, h3⟩ := h
    obtain ⟨b', h1', h2', h3'⟩ := h'
    rw [h1] at h1'; cases h1'
    exact ⟨h2.trans h2'.symm, h3.trans h3'.symm⟩

/-- **add: the new layerconfig is never observed partial.**  At every exit the new layer's
    layerconfig path holds what it held before (nothing, normally), or a directory made where
    nothing was, or the complete new text.  No hypothesis. -/
theorem crash_atomic_add_own (cfg : Config) (d : Defs) (name base configFile : Bytes) (w0 : World) :
    let w := ((addLayer cfg d name base configFile).run.run w0).2
    let C := pathJoin [layerPath cfg name, b!"layerconfig"]
    Fs.get w.fs C = Fs.get w0.fs C ∨ (Fs.get w0.fs C = none ∧ Fs.get w.fs C = some .dir) ∨
    ∃ cm ce, Plan cfg d base configFile w0.fs cm ce ∧
      Fs.get w.fs C = some (.file (render (toLayerFile (newLayer cfg name base cm ce)))) := by
  intro w C
  have hB : C ≠ addBashrc cfg name := bashrc_ne_layerconfig _ (newLayer cfg name base [] [])
  exact (crash_atomic_add cfg d name base configFile w0 C (under_tmp_cfg C) hB (Or.inr rfl)).imp_right
    (Or.imp_right And.right)

/-- **add: no other layer's layerconfig changes.**  For every layer `k` lying where
    `findLayers` puts layers (`Placed`: directory `<layerdirs>/<name>`, legal non-empty name —
    established by `readLayerFiles`, see `readLayerFiles_placed`) under another name: at
    every exit its layerconfig path holds what it held, or held nothing and is a directory. -/
theorem crash_atomic_add_others (cfg : Config) (d : Defs) (name base configFile : Bytes) (w0 : World)
    (k : Layer) (hk : Placed cfg k) (hne : k.name ≠ name) :
    let w := ((addLayer cfg d name base configFile).run.run w0).2
    Fs.get w.fs (layerconfigPath k) = Fs.get w0.fs (layerconfigPath k) ∨
    (Fs.get w0.fs (layerconfigPath k) = none ∧ Fs.get w.fs (layerconfigPath k) = some .dir) := by
  intro w
  cases ht : testName1 d name NAME_FREE with
  | false =>
    left
    show Fs.get ((addLayer cfg d name base configFile).run.run w0).2.fs _ = _
    rw [addLayer_rejected cfg d name base configFile w0 ht]
  | true =>
    -- a free name is legal, so both layerconfigs are `D/<name>/layerconfig` for one prefix `D`
    obtain ⟨hn1, hn2, _⟩ := (RunM.free_iff d name).mp ht
    have hcn := legal_clean name hn1 hn2
    have hck := placed_clean cfg k hk
    obtain ⟨D, hD⟩ := layer_paths cfg
    have hpk := (placed_cfg cfg D hD k hk).2
    have hC : pathJoin [layerPath cfg name, b!"layerconfig"] = D ++ (name ++ 47 :: lcName) := (hD name hcn).2
    have hv := cfg_vs D k.name name hck hcn
    rcases crash_atomic_add cfg d name base configFile w0 (layerconfigPath k) (by rw [hC, hpk]; exact hv.1)
      (bashrc_ne_layerconfig _ k) (by rw [hC, hpk]; exact hv.2) with h1 | h1 | ⟨he, _⟩
    · exact Or.inl h1
    · exact Or.inr h1
    · rw [hC, hpk] at he
      exact absurd (cfg_inj D _ _ hck hcn he) hne

/-- in the property's words: an EXISTING layerconfig (anything at all at the path) of another
    layer is found unchanged after `add`, however `add` ended -/
theorem add_keeps_existing (cfg : Config) (d : Defs) (name base configFile : Bytes) (w0 : World)
    (k : Layer) (hk : Placed cfg k) (hne : k.name ≠ name) (n : Fs.Node)
    (hex : Fs.get w0.fs (layerconfigPath k) = some n) :
    Fs.get ((addLayer cfg d name base configFile).run.run w0).2.fs (layerconfigPath k) = some n := by
  rcases crash_atomic_add_others cfg d name base configFile w0 k hk hne with h | ⟨h, _⟩
  · exact h.trans hex
  · rw [hex] at h; cases h

/-- what `findLayers` reads from a directory listing without an empty name is `Placed` -/
theorem findLayers_placed (cfg : Config) (fs : Fs.Tree) (names : List Bytes) (hne : [] ∉ names) :
    ∀ k ∈ readLayerFiles cfg fs names, Placed cfg k :=
  readLayerFiles_placed cfg fs names hne

/-- non-vacuity: `add n a` (lists copied from the parent `a`) with a crash at the fourth
    operation — mkdir, open, write "base a", [crash before the import line]: the run ends
    with the crash, the parent's layerconfig is untouched, the new layerconfig does not exist
    yet and the temporary file is partial.  Without a crash the new layerconfig is complete. -/
def exCfg : Config :=
  { basepath := b!"/b", layerdirs := b!"/l", buildRoot := b!"build", binPkg := b!"pk",
    generated := b!"gen", workdir := b!"work", upperdir := b!"upper", exportdirs := b!"/e",
    exportBinPkg := b!"p", exportGenerated := b!"g" }
def exParent : Layer :=
  { name := b!"a", layerPath := b!"/l/a", cmounts := [⟨b!"/dev", b!"/dev", b!"rbind"⟩] }
def exAddDefs : Defs := { layers := [exParent], order := [b!"a"] }
def exAddWorld (crash : Option Nat) : World :=
  { fs := [(b!"/", .dir), (b!"/l", .dir), (b!"/l/a", .dir),
           (b!"/l/a/layerconfig", .file b!"import rbind /dev /dev\n")],
    crashAt := crash }

example : Placed exCfg exParent ∧ exParent.name ≠ b!"n" ∧
    Fs.get (exAddWorld (some 4)).fs (layerconfigPath exParent) = some (.file b!"import rbind /dev /dev\n") := by
  unfold Placed
  decide +kernel

example :
    let r := (addLayer exCfg exAddDefs b!"n" b!"a" []).run.run (exAddWorld (some 4))
    r.1.toBool = false ∧
    Fs.get r.2.fs b!"/l/a/layerconfig" = some (.file b!"import rbind /dev /dev\n") ∧
    Fs.get r.2.fs b!"/l/n" = some .dir ∧ Fs.get r.2.fs b!"/l/n/layerconfig" = none ∧
    Fs.get r.2.fs b!"/l/n/layerconfig.new" = some (.file b!"base a\n\n") := by decide +kernel

example :
    let r := (addLayer exCfg exAddDefs b!"n" b!"a" []).run.run (exAddWorld none)
    r.1.toBool = true ∧
    Fs.get r.2.fs b!"/l/n/layerconfig" = some (.file b!"base a\n\nimport rbind /dev /dev\n") ∧
    Fs.get r.2.fs b!"/l/n/layerconfig.new" = none := by decide +kernel

example : Plan exCfg exAddDefs b!"a" [] (exAddWorld none).fs exParent.cmounts exParent.cexports := by
  unfold Plan; exact ⟨exParent, by decide, rfl, rfl⟩

/-! ### (3c) the whole `rename` command -/

/-- **rename, every exit, every path.**  `renameLayer` started in ANY world (any tree, any
    crash or fault index, pretending or not), whatever way it ends.  `l` is the layer being
    renamed, lying where `findLayers` puts it (`Placed`).  Either
      * the directory has not been moved: every path not at/below one of the two automatic
        export links holds exactly what it held; or
      * it has been moved: every admissible path `p` (`Excl`: not at/below an export link —
        before and after the move —, not at/below a temporary file `<layerconfig>.new` of a
        rewritten layer, not strictly below a rewritten layerconfig) holds exactly what
        `getMoved` says — the initial tree seen through the move: below the new directory
        what was below the old one, nothing below the old one, everything else as it was —
        or `p` is the layerconfig of a rewritten layer (`Rewritten`: a child with `base`
        set to the new name, the renamed layer in its new directory) and holds exactly that
        layer's complete new text.
    `_partial`: only for the export-link side condition inside `Excl` (layout assumption: the
    export links are not ancestors of the paths spoken about; a link in the way is removed on
    purpose).  That layer directories of different legal names are not nested and that
    `<new>` is not `<old>` is PROVED from `Placed` and the name test (`Lemmas/LayerPaths`). -/
theorem crash_atomic_rename_paths_partial (cfg : Config) (d : Defs) (oldname newname : Bytes)
    (childOrder : List Bytes) (l : Layer) (w0 : World) (hl : findLayer d oldname = some l)
    (hpl : Placed cfg l) :
    let w := ((renameLayer cfg d oldname newname childOrder).run.run w0).2
    (∀ p, (∀ m ∈ exPaths cfg l, Fs.under m p = false) → Fs.get w.fs p = Fs.get w0.fs p) ∨
    (∀ p, Excl (exPaths cfg l) (Rewritten cfg d oldname newname l) l.layerPath (layerPath cfg newname) p →
      Fs.get w.fs p = getMoved w0.fs l.layerPath (layerPath cfg newname) p ∨
      ∃ k, Rewritten cfg d oldname newname l k ∧ p = layerconfigPath k ∧
        Fs.get w.fs p = some (.file (render (toLayerFile k)))) := by
  intro w
  rcases renameLayer_post_free cfg d oldname newname childOrder l w0 hl hpl with h | ⟨_, h⟩
  · exact Or.inl h.2
  · exact Or.inr h

/-- **rename, every exit, layer by layer.**  `d` is a layer table as `findLayers` builds it
    (every layer `Placed`, names unique), `l` the layer being renamed.  Whatever way
    `renameLayer` ends — normal return, any error, injected fault, crash at ANY operation
    index, in particular between the directory move and a rewrite, between two children, in
    the middle of a write — either nothing but export links changed, or the directory was
    moved and
      * the renamed layer's layerconfig at its NEW place holds exactly what it held at the
        old place, or exactly its complete new text;
      * every child's layerconfig holds exactly what it held, or exactly its complete new
        text (same imports and exports, `base` = the new name);
      * every other layer's layerconfig holds exactly what it held.
    No layerconfig is ever empty or truncated.
    `_partial`: only for the side condition that the layerconfig paths spoken about are not
    at/below the renamed layer's two automatic export links (`exPaths`; layout assumption). -/
theorem crash_atomic_rename_partial (cfg : Config) (d : Defs) (oldname newname : Bytes)
    (childOrder : List Bytes) (l : Layer) (w0 : World) (hl : findLayer d oldname = some l)
    (hd : ∀ k ∈ d.layers, Placed cfg k)
    (hu : ∀ a ∈ d.layers, ∀ b ∈ d.layers, a.name = b.name → a = b) :
    let w := ((renameLayer cfg d oldname newname childOrder).run.run w0).2
    let l' : Layer := { l with name := newname, layerPath := layerPath cfg newname }
    (∀ p, (∀ m ∈ exPaths cfg l, Fs.under m p = false) → Fs.get w.fs p = Fs.get w0.fs p) ∨
    (((∀ m ∈ exPaths cfg l, Fs.under m (layerconfigPath l) = false) →
      (∀ m ∈ exPaths cfg l, Fs.under m (layerconfigPath l') = false) →
        Fs.get w.fs (layerconfigPath l') = Fs.get w0.fs (layerconfigPath l) ∨
        Fs.get w.fs (layerconfigPath l') = some (.file (render (toLayerFile l')))) ∧
     ∀ k ∈ d.layers, k.name ≠ oldname → (∀ m ∈ exPaths cfg l, Fs.under m (layerconfigPath k) = false) →
      (k.base = oldname →
        Fs.get w.fs (layerconfigPath k) = Fs.get w0.fs (layerconfigPath k) ∨
        Fs.get w.fs (layerconfigPath k) = some (.file (render (toLayerFile { k with base := newname })))) ∧
      (k.base ≠ oldname → Fs.get w.fs (layerconfigPath k) = Fs.get w0.fs (layerconfigPath k))) := by
  intro w l'
  obtain ⟨hlm, hln⟩ := ForestInv.findLayer_mem hl
  have hpl := hd l hlm
  rcases renameLayer_post_free cfg d oldname newname childOrder l w0 hl hpl with hs | ⟨ht, hm⟩
  · exact Or.inl hs.2
  right
  obtain ⟨hn1, hn2, hn3⟩ := (RunM.free_iff d newname).mp ht
  have hnone := findLayer_none d newname hn3
  have hpl' : Placed cfg l' := ⟨rfl, hn1, hn2⟩
  have hcl := ExportsApart.layerconfigPath_eq cfg l hpl
  have hcl' : layerconfigPath l' = layerPath cfg newname ++ 47 :: lcName :=
    ExportsApart.layerconfigPath_eq cfg l' hpl'
  refine ⟨?_, ?_⟩
  · -- the renamed layer: its layerconfig at the new place is the moved image of the old one
    intro hex1 hex2
    rcases movedInv_layerconfig hd hn1 hn2 hm l' hpl' hex2
        (fun _ => by rw [hcl', List.drop_left, ← hcl]; exact hex1) with h1 | ⟨k', hk', hn, hg⟩
    · left
      rw [h1, hcl', getMoved_new _ _ _ _ tail_lc, ← hcl]
    · right
      rcases hk' with ⟨k2, hk2, _, rfl⟩ | rfl
      · exact absurd hn (hnone k2 hk2)
      · exact hg
  · -- every other layer: its layerconfig lies below neither directory of the move
    intro k hk hkn hex
    have hpk := hd k hk
    have hkn' : k.name ≠ newname := hnone k hk
    have hun := layerconfig_not_under cfg k hpk newname (legal_clean newname hn1 hn2) (Ne.symm hkn')
    have huo : Fs.under l.layerPath (layerconfigPath k) = false := by
      rw [hpl.1, hln]
      exact layerconfig_not_under cfg k hpk oldname (hln ▸ placed_clean cfg l hpl) (Ne.symm hkn)
    rcases movedInv_layerconfig hd hn1 hn2 hm k hpk hex (fun h => by rw [hun] at h; cases h) with
      h1 | ⟨k', hk', hn, hg⟩
    · rw [getMoved_other _ _ _ _ hun huo] at h1
      exact ⟨fun _ => Or.inl h1, fun _ => h1⟩
    · rcases hk' with ⟨k2, hk2, hb2, rfl⟩ | rfl
      · obtain rfl : k2 = k := hu k2 hk2 k hk hn
        exact ⟨fun _ => Or.inr hg, fun hb => absurd hb2 hb⟩
      · exact absurd hn.symm hkn'

/-- non-vacuity: `rename p q` with two children `c1`, `c2` and an unrelated layer `u`; the
    hypotheses hold (table placed, names unique, no layerconfig at/below an export link) -/
def exP : Layer := { name := b!"p", layerPath := b!"/l/p", cmounts := [⟨b!"/dev", b!"/dev", b!"rbind"⟩] }
def exC1 : Layer := { name := b!"c1", base := b!"p", layerPath := b!"/l/c1", cmounts := [⟨b!"/dev", b!"/dev", b!"rbind"⟩] }
def exC2 : Layer := { name := b!"c2", base := b!"p", layerPath := b!"/l/c2", cmounts := [⟨b!"/sys", b!"/sys", b!"rbind"⟩] }
def exU : Layer := { name := b!"u", layerPath := b!"/l/u" }
def exRenDefs : Defs := { layers := [exP, exC1, exC2, exU], order := [b!"p", b!"c1", b!"c2", b!"u"] }
def exRenWorld (crash : Option Nat) : World :=
  { fs := [(b!"/", .dir), (b!"/l", .dir), (b!"/e", .dir),
           (b!"/l/p", .dir), (b!"/l/p/layerconfig", .file b!"import rbind /dev /dev\n"),
           (b!"/l/c1", .dir), (b!"/l/c1/layerconfig", .file b!"base p\n\nimport rbind /dev /dev\n"),
           (b!"/l/c2", .dir), (b!"/l/c2/layerconfig", .file b!"base p\n\nimport rbind /sys /sys\n"),
           (b!"/l/u", .dir), (b!"/l/u/layerconfig", .file [])],
    crashAt := crash }

example : findLayer exRenDefs b!"p" = some exP ∧ (∀ k ∈ exRenDefs.layers, Placed exCfg k) ∧
    (∀ a ∈ exRenDefs.layers, ∀ b ∈ exRenDefs.layers, a.name = b.name → a = b) ∧
    (∀ k ∈ exRenDefs.layers, ∀ m ∈ exPaths exCfg exP, Fs.under m (layerconfigPath k) = false) ∧
    (∀ m ∈ exPaths exCfg exP, Fs.under m b!"/l/q/layerconfig" = false) := by
  unfold Placed
  decide +kernel

/-- a crash at operation 8 — 1 move `/l/p`→`/l/q`; 2-5 `c1` rewritten (open, two writes,
    rename); 6 open and 7 first write of `c2`'s temporary file; 8 [crash]: the run ends with
    the crash; `c1` holds its complete new text, `c2` its complete old text (its temporary
    file is partial), the renamed layer's layerconfig is found unchanged at the new place and
    gone from the old one, `u` is untouched -/
example :
    let r := (renameLayer exCfg exRenDefs b!"p" b!"q" [b!"c1", b!"c2"]).run.run (exRenWorld (some 8))
    r.1.toBool = false ∧
    Fs.get r.2.fs b!"/l/c1/layerconfig" = some (.file b!"base q\n\nimport rbind /dev /dev\n") ∧
    Fs.get r.2.fs b!"/l/c2/layerconfig" = some (.file b!"base p\n\nimport rbind /sys /sys\n") ∧
    Fs.get r.2.fs b!"/l/c2/layerconfig.new" = some (.file b!"base q\n\n") ∧
    Fs.get r.2.fs b!"/l/q/layerconfig" = some (.file b!"import rbind /dev /dev\n") ∧
    Fs.get r.2.fs b!"/l/p/layerconfig" = none ∧
    Fs.get r.2.fs b!"/l/u/layerconfig" = some (.file []) := by decide +kernel

/-- a crash at the very first operation (the move): nothing changed; no crash: all new -/
example :
    let r := (renameLayer exCfg exRenDefs b!"p" b!"q" [b!"c1", b!"c2"]).run.run (exRenWorld (some 1))
    r.1.toBool = false ∧ r.2.fs = (exRenWorld (some 1)).fs := by decide +kernel

example :
    let r := (renameLayer exCfg exRenDefs b!"p" b!"q" [b!"c2", b!"c1"]).run.run (exRenWorld none)
    r.1.toBool = true ∧
    Fs.get r.2.fs b!"/l/c1/layerconfig" = some (.file b!"base q\n\nimport rbind /dev /dev\n") ∧
    Fs.get r.2.fs b!"/l/c2/layerconfig" = some (.file b!"base q\n\nimport rbind /sys /sys\n") ∧
    Fs.get r.2.fs b!"/l/q/layerconfig" = some (.file b!"import rbind /dev /dev\n") := by decide +kernel

/-! ### (3d) rename without the export-link side condition -/

open Lc.ExportsApart

/-- **rename, every exit, every path of the layer directories** —
    `crash_atomic_rename_paths_partial` without its export-link clauses.  Hypotheses:
    `findLayer d oldname = some l`, `Placed cfg l` (established by `readLayerFiles`) and
    `ExportsApart cfg` (decidable, about exportdirs / exportBinPkg / exportGenerated / layerdirs
    only; holds for the default configuration).  Either every path in the layer directories
    (`InLayerDirs`: at or below some `<layerdirs>/<legal name>` or its `~removed`) holds what it
    held, or the directory has been moved and every such path that is not at/below a temporary
    file `<layerconfig>.new` of a rewritten layer and not strictly below a rewritten
    layerconfig holds what the initial tree seen through the move held (`getMoved`), or is a
    rewritten layer's layerconfig holding exactly its complete new text. -/
theorem crash_atomic_rename_paths (cfg : Config) (d : Defs) (oldname newname : Bytes)
    (childOrder : List Bytes) (l : Layer) (w0 : World) (hl : findLayer d oldname = some l)
    (hpl : Placed cfg l) (hA : ExportsApart cfg) :
    let w := ((renameLayer cfg d oldname newname childOrder).run.run w0).2
    (∀ p, InLayerDirs cfg p → Fs.get w.fs p = Fs.get w0.fs p) ∨
    (∀ p, InLayerDirs cfg p →
      (∀ k, Rewritten cfg d oldname newname l k →
        Fs.under (layerconfigPath k ++ tmpSuffix) p = false ∧
        (Fs.under (layerconfigPath k) p = false ∨ p = layerconfigPath k)) →
      Fs.get w.fs p = getMoved w0.fs l.layerPath (layerPath cfg newname) p ∨
      ∃ k, Rewritten cfg d oldname newname l k ∧ p = layerconfigPath k ∧
        Fs.get w.fs p = some (.file (render (toLayerFile k)))) := by
  intro w
  rcases renameLayer_post_free cfg d oldname newname childOrder l w0 hl hpl with h | ⟨ht, h⟩
  · exact Or.inl (fun p hin => h.2 p (exportsApart_exPaths cfg hA l hpl p hin))
  · obtain ⟨hn1, hn2, _⟩ := (RunM.free_iff d newname).mp ht
    have hnew : layerPath cfg newname ≠ [47] :=
      placed_ne_root cfg _ (placed_renamed cfg l newname hn1 hn2)
    exact Or.inr (fun p hin hk => h p (excl_of_apart cfg hA l hpl _ _ p hnew hin hk))

/-- **rename, every exit, layer by layer** — `crash_atomic_rename_partial` without the
    export-link side condition: FULL under hypotheses the code and a decidable check of the
    configuration establish.  `d` is a table as `findLayers` builds it (every layer `Placed`,
    names unique), `ExportsApart cfg` holds.  Whatever way `renameLayer` ends — normal return,
    any error, injected fault, crash at ANY operation index — either nothing in the layer
    directories changed, or the directory was moved and
      * the renamed layer's layerconfig at its NEW place holds exactly what it held at the old
        place, or exactly its complete new text;
      * every child's layerconfig holds exactly what it held, or exactly its complete new text
        (same imports and exports, `base` = the new name);
      * every other layer's layerconfig holds exactly what it held. -/
theorem crash_atomic_rename (cfg : Config) (d : Defs) (oldname newname : Bytes)
    (childOrder : List Bytes) (l : Layer) (w0 : World) (hl : findLayer d oldname = some l)
    (hd : ∀ k ∈ d.layers, Placed cfg k)
    (hu : ∀ a ∈ d.layers, ∀ b ∈ d.layers, a.name = b.name → a = b) (hA : ExportsApart cfg) :
    let w := ((renameLayer cfg d oldname newname childOrder).run.run w0).2
    let l' : Layer := { l with name := newname, layerPath := layerPath cfg newname }
    (∀ p, InLayerDirs cfg p → Fs.get w.fs p = Fs.get w0.fs p) ∨
    ((Fs.get w.fs (layerconfigPath l') = Fs.get w0.fs (layerconfigPath l) ∨
      Fs.get w.fs (layerconfigPath l') = some (.file (render (toLayerFile l')))) ∧
     ∀ k ∈ d.layers, k.name ≠ oldname →
      (k.base = oldname →
        Fs.get w.fs (layerconfigPath k) = Fs.get w0.fs (layerconfigPath k) ∨
        Fs.get w.fs (layerconfigPath k) = some (.file (render (toLayerFile { k with base := newname })))) ∧
      (k.base ≠ oldname → Fs.get w.fs (layerconfigPath k) = Fs.get w0.fs (layerconfigPath k))) := by
  intro w l'
  obtain ⟨hlm, _⟩ := ForestInv.findLayer_mem hl
  have hpl := hd l hlm
  cases ht : testName1 d newname NAME_FREE with
  | false =>
    left
    intro p _
    show Fs.get ((renameLayer cfg d oldname newname childOrder).run.run w0).2.fs p = _
    rw [renameLayer_rejected cfg d oldname newname childOrder w0 ht]
  | true =>
    obtain ⟨hn1, hn2, _⟩ := (RunM.free_iff d newname).mp ht
    have hpl' : Placed cfg l' := placed_renamed cfg l newname hn1 hn2
    have hex : ∀ k, Placed cfg k → ∀ m ∈ exPaths cfg l, Fs.under m (layerconfigPath k) = false :=
      fun k hk => exportsApart_exPaths cfg hA l hpl _ (inLayerDirs_layerconfig cfg k hk)
    rcases crash_atomic_rename_partial cfg d oldname newname childOrder l w0 hl hd hu with h | ⟨h1, h2⟩
    · exact Or.inl (fun p hin => h p (exportsApart_exPaths cfg hA l hpl p hin))
    · exact Or.inr ⟨h1 (hex l hpl) (hex l' hpl'), fun k hk hkn => h2 k hk hkn (hex k (hd k hk))⟩

/-- non-vacuity: the hypotheses of both theorems hold for the example of section (3c) (whose
    runs, crashed at operation 8 / 1 / not at all, are evaluated above), and for the default
    configuration -/
example : ExportsApart exCfg ∧ findLayer exRenDefs b!"p" = some exP ∧
    (∀ k ∈ exRenDefs.layers, Placed exCfg k) ∧
    (∀ a ∈ exRenDefs.layers, ∀ b ∈ exRenDefs.layers, a.name = b.name → a = b) := by
  unfold Placed
  decide +kernel

example : ExportsApart
    { basepath := b!"/var/lib/layercake", layerdirs := b!"/var/lib/layercake/layers", buildRoot := b!"build",
      binPkg := b!"packages", generated := b!"generated", workdir := b!"overlayfs/workdir",
      upperdir := b!"overlayfs/upperdir", exportdirs := b!"/var/lib/layercake/export",
      exportBinPkg := b!"packages", exportGenerated := b!"generated" } := by decide +kernel

/-- `ExportsApart` is needed: with the export directory equal to the layer directory
    (`exportdirs = layerdirs`, empty `exportBinPkg`) the packages "link" of `p` is the layer
    directory `/l/p` itself, so the per-path condition of `crash_atomic_rename_partial` is false
    for `p`'s own layerconfig -/
example :
    let bad : Config := { exCfg with exportdirs := b!"/l", exportBinPkg := [] }
    ¬ ExportsApart bad ∧ Placed bad exP ∧
    ¬ (∀ m ∈ exPaths bad exP, Fs.under m (layerconfigPath exP) = false) := by
  unfold Placed
  decide +kernel

/-! ### what old-or-new per file does NOT give

  `rename` moves the directory first and rewrites the children afterwards, without undoing
  anything when a later step fails.  Interrupted in between — by a crash or by an ordinary
  error such as a failed write of one child's temporary file — every layerconfig is a
  complete version (the theorems above), but the children still name the parent's old name,
  which no longer exists: `findLayers`, which precedes every command, refuses the table
  ("inheritance").  The real binary behaves the same (DESIGN.md, C11).  Not a violation of
  C11 as worded (each file is complete), recorded here so that nobody reads more into
  `crash_atomic_rename_partial` than it says. -/

/-- witness (evaluated by the kernel): crash at operation 2, or an injected write error at
    operation 3, of `rename p q`: the command fails, every child's layerconfig is exactly its
    previous version, the table loaded before and does not load afterwards -/
theorem rename_interrupted_dangling_base_witness :
    ∀ w0 ∈ [exRenWorld (some 2), { exRenWorld none with faultAt := some 3 }],
      let r := (renameLayer exCfg exRenDefs b!"p" b!"q" [b!"c1", b!"c2"]).run.run w0
      r.1.toBool = false ∧
      (∀ k ∈ [exC1, exC2, exU], Fs.get r.2.fs (layerconfigPath k) = Fs.get w0.fs (layerconfigPath k)) ∧
      Fs.get r.2.fs b!"/l/q/layerconfig" = Fs.get w0.fs b!"/l/p/layerconfig" ∧
      ((findLayers exCfg).run.run w0).1.toBool = true ∧
      ((findLayers exCfg).run.run { r.2 with crashAt := none, faultAt := none }).1.toBool = false := by
  decide +kernel

/-! ### the scanner's 64 KiB line limit

  The command model reads a layerconfig with `readLayerFile`, which has no line limit; the Go
  reader goes through bufio.Scanner.  `readLayerFileScanner` is the reader WITH the limit (the
  correspondence check `layerfile.rwr` runs this one against the real ReadLayerFile, lines of
  65534–65537 bytes and longer included). -/

open Lc.Lemmas.LayerfileScanner Lc.Mountinfo in
/-- within the limit the two readers are the same function: everything proved about
    `readLayerFile` holds for the real reader on every file whose lines are shorter than 64 KiB -/
theorem readLayerFileScanner_eq (content : Bytes)
    (h : ∀ l ∈ rawLines content, l.length < scanLimit) :
    readLayerFileScanner content = readLayerFile content := by
  unfold readLayerFileScanner readLayerFile
  have htw : (rawLines content).takeWhile (fun l => decide (l.length < scanLimit)) = rawLines content :=
    takeWhile_all _ _ (fun l hl => by simpa using h l hl)
  simp only [htw, Nat.lt_irrefl, if_false, scanLines_eq_rawLines]

open Lc.Lemmas.LayerfileScanner Lc.Mountinfo in
/-- beyond it: a line the scanner cannot hold always leaves a message -/
theorem readLayerFileScanner_long (content : Bytes)
    (h : ∃ l ∈ rawLines content, ¬ l.length < scanLimit) :
    (readLayerFileScanner content).nmsgs ≥ 1 := by
  unfold readLayerFileScanner
  have hlt : ((rawLines content).takeWhile (fun l => decide (l.length < scanLimit))).length < (rawLines content).length := by
    obtain ⟨l, hl, hn⟩ := h
    exact takeWhile_short _ _ ⟨l, hl, by simpa using hn⟩
  simp only [hlt, if_true]
  omega

/-- non-vacuity of `readLayerFileScanner_eq`: a short file is within the limit -/
example : readLayerFileScanner b!"import proc /proc /proc\n" = readLayerFile b!"import proc /proc /proc\n" :=
  readLayerFileScanner_eq _ (by decide)

end Lc.Props.C11
