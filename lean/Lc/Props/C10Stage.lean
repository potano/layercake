/-
  C10 (stagemaker half): exit status 0 only if the complete output was written, for every
  sequence of writes and every byte limit.
-/
import Lc.Model.OutFault
import Lc.Lemmas.OutFault

namespace Lc.Props.C10Stage
open Lc.OutFault Lc.OutFaultLemmas

theorem emit_eq (limit written : Nat) (chunks : List Nat) (hw : written ≤ limit) :
    emit limit written chunks =
      if written + total chunks ≤ limit then some (written + total chunks) else none := by
  induction chunks generalizing written with
  | nil => simp [emit, total, hw]
  | cons c rest ih =>
    rw [total_cons, emit, ← Nat.add_assoc]
    split
    · rename_i h
      exact ih (written + c) h
    · rename_i h
      exact (if_neg (by omega)).symm

theorem emit_ok_iff (limit written : Nat) (chunks : List Nat) (hw : written ≤ limit) :
    (emit limit written chunks).isSome = true ↔ written + total chunks ≤ limit := by
  rw [emit_eq limit written chunks hw]
  split <;> simp [*]

/-- a successful run has written every byte of every chunk -/
theorem emit_ok_complete (limit written : Nat) (chunks : List Nat) (n : Nat)
    (h : emit limit written chunks = some n) : n = written + total chunks := by
  induction chunks generalizing written with
  | nil => simp [emit] at h; simp [total, h]
  | cons c rest ih =>
    simp only [emit] at h
    split at h
    · have := ih (written + c) h
      rw [total_cons]
      omega
    · simp at h

/-- for every limit below the size of the output the run fails: exit 0 ⇒ complete output -/
theorem short_output_fails (limit : Nat) (chunks : List Nat) (h : limit < total chunks) :
    emit limit 0 chunks = none := by
  rw [emit_eq limit 0 chunks (Nat.zero_le _)]
  exact if_neg (by omega)

/-- the unfixed code reported success with a truncated output (witness) -/
theorem unchecked_reports_success : emitUnchecked 0 0 [512, 1024] = some 0 := by decide

end Lc.Props.C10Stage
